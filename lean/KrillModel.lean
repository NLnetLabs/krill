import KrillModel.Queue.Queue
import KrillModel.Queue.TaskQueue
import KrillModel.Http.Role
import KrillModel.Http.Session
import KrillModel.Http.Auth
import KrillModel.Http.Spec
import KrillModel.Http.Serve
import KrillModel.Http.Lemmas
import KrillModel.Http.AuthLemmas
import KrillModel.Http.AuthPinned
import KrillModel.Http.Bearer
import KrillModel.Http.BearerLemmas
import KrillModel.Http.ConfigModel
import KrillModel.Props.C13
import KrillModel.Props.C20
import KrillModel.Status.Status
import KrillModel.Status.Lemmas
import KrillModel.Props.C19
import KrillModel.ES.AggStore
import KrillModel.ES.Wal
import KrillModel.ES.Spec
import KrillModel.ES.Obs
import KrillModel.ES.Reg
import KrillModel.ES.Bag
import KrillModel.ES.Lemmas
import KrillModel.ES.WalLemmas
import KrillModel.ES.ObsLemmas
import KrillModel.Sys.Interleave
import KrillModel.Sys.Lemmas
import KrillModel.Sys.AggSerial
import KrillModel.ES.RegLemmas
import KrillModel.Sys.Effects
import KrillModel.Sys.EffectsLemmas
import KrillModel.ES.HistLemmas
import KrillModel.ES.Instances
import KrillModel.Props.C06
import KrillModel.Props.C06Src
import KrillModel.Props.C06SrcFns
import KrillModel.Props.C07
import KrillModel.ES.Sections
import KrillModel.Props.C07Src
import KrillModel.Ca.PubBase
import KrillModel.Ca.RoaObjects
import KrillModel.Ca.Objects
import KrillModel.Ta.Proxy
import KrillModel.Ta.Signer
import KrillModel.Ta.System
import KrillModel.Ta.Lemmas
import KrillModel.Ta.Invariant
import KrillModel.Ta.Numbers
import KrillModel.Ta.Pinned
import KrillModel.Props.C15
import KrillModel.Pubd.Content
import KrillModel.Pubd.Rrdp
import KrillModel.Pubd.Files
import KrillModel.Pubd.Manager
import KrillModel.Pubd.World
import KrillModel.Pubd.LemmasContent
import KrillModel.Pubd.LemmasAggregate
import KrillModel.Pubd.LemmasClient
import KrillModel.Pubd.LemmasLog
import KrillModel.Pubd.LemmasRsync
import KrillModel.Pubd.LemmasRrdp
import KrillModel.Pubd.LemmasWorld
import KrillModel.Pubd.Lemmas
import KrillModel.Pubd.Removal
import KrillModel.Props.C10
import KrillModel.Props.C10Removal
import KrillModel.Proto.Cms
import KrillModel.Proto.Lemmas
import KrillModel.Props.C12
import KrillModel.Bgp.Prefix
import KrillModel.Bgp.Validate
import KrillModel.Bgp.Analyse
import KrillModel.Bgp.Lemmas
import KrillModel.Ca.Resources
import KrillModel.Ca.Roa
import KrillModel.Ca.Aspa
import KrillModel.Ca.Bgpsec
import KrillModel.Ca.ConfigLemmas
import KrillModel.Input.Checked
import KrillModel.Input.Pipeline
import KrillModel.Input.Lemmas
import KrillModel.Props.C05
import KrillModel.Props.C16
import KrillModel.Generated.PanicSites
import KrillModel.Input.PanicReview
import KrillModel.Props.C16Src
import KrillModel.Props.C17
import KrillModel.Generated.StatusWrites
import KrillModel.Props.C11
import KrillModel.Base.ResSet
import KrillModel.Base.AMap
import KrillModel.Base.Assoc
import KrillModel.Base.Fold
import KrillModel.Base.Table
import KrillModel.Base.Exc
import KrillModel.Ca.Keys
import KrillModel.Ca.Issue
import KrillModel.Ca.Child
import KrillModel.Ca.Events
import KrillModel.Ca.ObjKeys
import KrillModel.Ca.CertAuth
import KrillModel.Ca.Preds
import KrillModel.Ca.Reach
import KrillModel.Ca.LemmasDomain
import KrillModel.Ca.LemmasInv
import KrillModel.Ca.LemmasSeq
import KrillModel.Ca.LemmasProcess
import KrillModel.Ca.LemmasCerts
import KrillModel.Ca.LemmasNoOver
import KrillModel.Ca.KeySync
import KrillModel.Ca.LemmasKeySync
import KrillModel.Ca.LemmasAllCls
import KrillModel.Ca.LemmasActivate
import KrillModel.Ca.Witnesses
import KrillModel.Ca.LemmasTidy
import KrillModel.Ca.LemmasProgress
import KrillModel.Ca.Exchange
import KrillModel.Ca.ExchangeBase
import KrillModel.Ca.ExchangeChild
import KrillModel.Ca.ExchangeConv
import KrillModel.Ca.ExchangeRoll
import KrillModel.Ca.ExchangeRequests
import KrillModel.Ca.ExchangeEntitlements
import KrillModel.Ca.LemmasKeyRoles
import KrillModel.Ca.ExchangeHypotheses
import KrillModel.Ca.ExchangeRollConv
import KrillModel.Ca.ExchangeStuck
import KrillModel.Ca.ExchangePinned
import KrillModel.Props.C04
import KrillModel.Props.C02
import KrillModel.Ca.PubBaseLemmas
import KrillModel.Ca.ObjLemmas
import KrillModel.Ca.ObjLemmasRevocation
import KrillModel.Ca.ObjLemmasSync
import KrillModel.Ca.RoaLemmas
import KrillModel.Sys.Rp
import KrillModel.Sys.RpLemmas
import KrillModel.Sys.Tree
import KrillModel.Sys.RpShared
import KrillModel.Sys.TreeLemmas
import KrillModel.Sys.PointLemmas
import KrillModel.Props.C01
import KrillModel.Props.C03
import KrillModel.Props.C14
import KrillModel.Ca.ClassModel
import KrillModel.Ca.ClassLemmas
import KrillModel.Queue.Lemmas
import KrillModel.Queue.Wakeup
import KrillModel.Props.C09
import KrillModel.Fault.Model
import KrillModel.Fault.Lemmas
import KrillModel.Fault.FsOrder
import KrillModel.Props.C08
import KrillModel.Locks.Model
import KrillModel.Props.C18
import KrillModel.Generated.PureFnsC01
import KrillModel.Generated.PureFnsC02
import KrillModel.Generated.PureFnsC03
import KrillModel.Generated.PureFnsC04
import KrillModel.Generated.PureFnsC05
import KrillModel.Generated.PureFnsC06
import KrillModel.Generated.PureFnsC09
import KrillModel.Generated.PureFnsC10
import KrillModel.Generated.PureFnsC11
import KrillModel.Generated.PureFnsC12
import KrillModel.Generated.PureFnsC13
import KrillModel.Generated.PureFnsC14
import KrillModel.Generated.PureFnsC15
import KrillModel.Generated.PureFnsC16
import KrillModel.Generated.PureFnsC17
import KrillModel.Generated.PureFnsC19
import KrillModel.Generated.PureFnsC20
import KrillModel.Props.C01Src
import KrillModel.Props.C11Src
import KrillModel.Props.C14Src
import KrillModel.Props.C17Src
import KrillModel.Props.C02Src
import KrillModel.Props.C09Src
import KrillModel.Props.C13Src
import KrillModel.Props.C19Src
import KrillModel.Props.C20Src
import KrillModel.Props.C16SrcFns
import KrillModel.Props.C15Src
import KrillModel.Props.C10Src
import KrillModel.Props.C03Src
import KrillModel.Props.C05Src
import KrillModel.Props.C12Src
import KrillModel.Props.C04Src
