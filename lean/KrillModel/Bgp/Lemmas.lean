/-
Lemmas for the BGP model.  `covers` is arithmetic on addresses (`covers_iff`) and inclusion of address ranges
(`covers_iff_range`); `validate` is put in closed form over the ROA list (`validate_eq`: the first match, else three
tests that only see the covering ROAs) and every verdict is read off four `any`-tests (`validity_iff`);
`categoriseRoa` is read branch by branch; the suggestion lists of a report are traced back to its entries and from
there to the analysed input (`stale_spec` … `tooPermissive_spec`).  The property statements are in `Props/C17.lean`.
-/
import KrillModel.Bgp.Analyse
import KrillModel.Base.Assoc
namespace KM.Bgp

/-! ## Prefixes: `covers` is truncation of the address, and inclusion of address ranges -/

theorem truncTo_le (bits n x : Nat) : truncTo bits n x ≤ x := by
  unfold truncTo
  exact Nat.div_mul_le_self x _

theorem truncTo_full (bits x : Nat) : truncTo bits bits x = x := by
  simp [truncTo]

theorem truncTo_truncTo (bits n m x : Nat) (h : n ≤ m) :
    truncTo bits n (truncTo bits m x) = truncTo bits n x := by
  unfold truncTo
  obtain ⟨k, hk⟩ := Nat.pow_dvd_pow 2 (Nat.sub_le_sub_left h bits)
  rw [hk, ← Nat.div_div_eq_div_mul, Nat.mul_div_cancel _ (Nat.two_pow_pos _), Nat.div_div_eq_div_mul]

theorem truncTo_idem (bits n x : Nat) : truncTo bits n (truncTo bits n x) = truncTo bits n x :=
  truncTo_truncTo bits n n x (Nat.le_refl n)

/-- Host bits zero: the address is a multiple of the block size. -/
theorem truncTo_eq_self_iff (bits n x : Nat) : truncTo bits n x = x ↔ 2 ^ (bits - n) ∣ x :=
  (Nat.dvd_iff_div_mul_eq _ _).symm

/-- The separate test for a full-length prefix in the code is the mask test with an empty mask. -/
theorem covers_iff (p q : Prefix) :
    p.covers q = true ↔
      p.fam = q.fam ∧ p.len ≤ q.len ∧ p.addr = truncTo p.fam.bits p.len q.addr := by
  unfold Prefix.covers
  rw [Bool.and_eq_true, beq_iff_eq]
  refine and_congr_right fun _ => ?_
  by_cases hl : p.len > q.len
  · rw [if_pos hl]
    exact ⟨nofun, fun h => absurd h.1 (Nat.not_le.mpr hl)⟩
  · rw [if_neg hl, and_iff_right (Nat.le_of_not_gt hl)]
    by_cases hb : p.len = p.fam.bits
    · rw [if_pos (beq_iff_eq.mpr hb), beq_iff_eq, hb, truncTo_full]
    · rw [if_neg (mt beq_iff_eq.mp hb), beq_iff_eq]

theorem covers_fam {p q : Prefix} (h : p.covers q = true) : p.fam = q.fam :=
  ((covers_iff p q).mp h).1

theorem covers_len {p q : Prefix} (h : p.covers q = true) : p.len ≤ q.len :=
  ((covers_iff p q).mp h).2.1

theorem covers_refl (p : Prefix) (hp : p.WF) : p.covers p = true :=
  (covers_iff p p).mpr ⟨rfl, Nat.le_refl _, hp.2.2.symm⟩

theorem covers_trans (p q r : Prefix) (h1 : p.covers q = true) (h2 : q.covers r = true) :
    p.covers r = true := by
  obtain ⟨f1, l1, a1⟩ := (covers_iff p q).mp h1
  obtain ⟨f2, l2, a2⟩ := (covers_iff q r).mp h2
  refine (covers_iff p r).mpr ⟨f1.trans f2, Nat.le_trans l1 l2, ?_⟩
  rw [a1, a2, ← f1, truncTo_truncTo _ _ _ _ l1]

theorem covers_antisymm (p q : Prefix) (hq : q.WF)
    (h1 : p.covers q = true) (h2 : q.covers p = true) : p = q := by
  obtain ⟨f1, l1, a1⟩ := (covers_iff p q).mp h1
  have hl : p.len = q.len := Nat.le_antisymm l1 (covers_len h2)
  have ha : p.addr = q.addr := by rw [a1, f1, hl]; exact hq.2.2
  cases p; cases q; simp only at f1 hl ha; rw [f1, hl, ha]

private theorem pow_split (bits n : Nat) (h : n ≤ bits) : 2 ^ bits = 2 ^ n * 2 ^ (bits - n) := by
  rw [← Nat.pow_add]; congr 1; omega

theorem hi_eq (p : Prefix) : p.hi = p.addr + (2 ^ (p.fam.bits - p.len) - 1) := rfl

theorem block_iff (b a x : Nat) (hb : 0 < b) (ha : b ∣ a) :
    (a ≤ x ∧ x < a + b) ↔ x / b * b = a := by
  obtain ⟨m, rfl⟩ := ha
  rw [Nat.mul_comm b m]
  constructor
  · rintro ⟨h1, h2⟩
    congr 1
    apply Nat.le_antisymm
    · exact Nat.le_of_lt_succ ((Nat.div_lt_iff_lt_mul hb).mpr (by rw [Nat.succ_mul]; exact h2))
    · exact (Nat.le_div_iff_mul_le hb).mpr h1
  · intro h
    rw [← h]
    exact ⟨Nat.div_mul_le_self x b, Nat.lt_div_mul_add hb⟩

theorem add_le_of_dvd_of_lt {b x y : Nat} (hx : b ∣ x) (hy : b ∣ y) (h : x < y) : x + b ≤ y := by
  obtain ⟨m, rfl⟩ := hx
  obtain ⟨n, rfl⟩ := hy
  rw [← Nat.mul_succ]
  exact Nat.mul_le_mul_left b (Nat.lt_of_mul_lt_mul_left h)

/-- For well-formed prefixes of one family, `covers` says exactly that the address range of
the covered prefix lies within the range of the covering one
(`matching_or_less_specific`, and what `contains_roa` tests). -/
theorem covers_iff_range (p q : Prefix) (hp : p.WF) (hq : q.WF) (hf : p.fam = q.fam) :
    p.covers q = true ↔ (p.lo ≤ q.lo ∧ q.hi ≤ p.hi) := by
  rw [covers_iff, and_iff_right hf, eq_comm]
  have hpa := (truncTo_eq_self_iff _ _ _).mp hp.2.2
  have hqa := (truncTo_eq_self_iff _ _ _).mp hq.2.2
  unfold Prefix.lo Prefix.hi truncTo
  rw [← hf] at hqa ⊢
  have hP := Nat.two_pow_pos (p.fam.bits - p.len)
  have hQ := Nat.two_pow_pos (p.fam.bits - q.len)
  rw [← block_iff _ _ _ hP hpa]
  constructor
  · rintro ⟨hl, h1, h2⟩
    -- `q`'s block starts inside `p`'s, and both blocks end at multiples of `q`'s block size
    have hQP := Nat.pow_dvd_pow 2 (Nat.sub_le_sub_left hl p.fam.bits)
    have := add_le_of_dvd_of_lt hqa (Nat.dvd_add (Nat.dvd_trans hQP hpa) hQP) h2
    omega
  · rintro ⟨h1, h2⟩
    refine ⟨Nat.le_of_not_gt fun hgt => ?_, h1, by omega⟩
    -- a smaller range cannot have a smaller length
    have hlt : 2 ^ (p.fam.bits - p.len) < 2 ^ (p.fam.bits - q.len) :=
      Nat.pow_lt_pow_right (by omega) (by have := hp.1; omega)
    omega

/-! ## `validate` in closed form over the ROA list; the verdicts by tests on the list; RFC 6811 -/

theorem matches_iff (r : Roa) (a : Ann) :
    r.matches a = true ↔ r.asn = a.asn ∧ r.pfx.covers a.pfx = true ∧ a.pfx.len ≤ r.effMax := by
  unfold Roa.matches
  rw [Bool.and_eq_true, Bool.and_eq_true, beq_iff_eq, decide_eq_true_eq, and_assoc]

theorem matches_covers {r : Roa} {a : Ann} (h : r.matches a = true) : r.pfx.covers a.pfx = true :=
  ((matches_iff r a).mp h).2.1

theorem validateLoop_eq (a : Ann) (l : List Roa) (same nonAs0 : Bool) (inv : List Roa) :
    validateLoop a l same nonAs0 inv =
      match l.find? (fun r => r.matches a) with
      | some r => .inl r
      | none => .inr (same || l.any (fun r => r.asn == a.asn),
                      nonAs0 || l.any (fun r => r.asn != 0), inv ++ l) := by
  fun_induction validateLoop a l same nonAs0 inv with
  | case1 same nonAs0 inv => simp
  | case2 r rest same nonAs0 inv hm =>
    have : r.matches a = true := (Bool.and_assoc ..).trans hm
    rw [List.find?_cons, this]
  | case3 r rest same nonAs0 inv hm same' nonAs0' ih =>
    have : r.matches a = false := (Bool.and_assoc ..).trans (Bool.not_eq_true _ ▸ hm)
    rw [ih, List.find?_cons, this]
    cases rest.find? (fun r => r.matches a) with
    | some r' => rfl
    | none => simp only [same', nonAs0', List.any_cons, Bool.or_assoc, List.append_assoc, List.singleton_append]

theorem mem_covering {roas : List Roa} {p : Prefix} {r : Roa} :
    r ∈ covering roas p ↔ r ∈ roas ∧ r.pfx.covers p = true :=
  List.mem_filter

theorem any_covers (roas : List Roa) (p : Prefix) :
    roas.any (fun r => r.pfx.covers p) = !(covering roas p).isEmpty := by
  induction roas with
  | nil => rfl
  | cons r rest ih =>
    rw [List.any_cons, covering, List.filter_cons]
    cases r.pfx.covers p with
    | true => rfl
    | false => exact ih

theorem any_covering (roas : List Roa) (p : Prefix) (f : Roa → Bool) :
    (covering roas p).any f = roas.any (fun r => r.pfx.covers p && f r) :=
  List.any_filter

/-- A matching ROA covers, so the first match among the covering ROAs is the first match of all. -/
theorem find_covering (roas : List Roa) (a : Ann) :
    (covering roas a.pfx).find? (fun r => r.matches a) = roas.find? (fun r => r.matches a) := by
  rw [covering, List.find?_filter]
  congr 1
  funext r
  cases h : r.matches a with
  | false => simp
  | true => simp [matches_covers h]

theorem find_matches {roas : List Roa} {a : Ann} {r : Roa}
    (hf : roas.find? (fun r => r.matches a) = some r) : r ∈ roas ∧ r.matches a = true :=
  ⟨List.mem_of_find?_eq_some hf, List.find?_some (p := fun r : Roa => r.matches a) hf⟩

theorem find_matches_none {roas : List Roa} {a : Ann} :
    roas.find? (fun r => r.matches a) = none ↔ ∀ r ∈ roas, r.matches a = false := by
  simp only [List.find?_eq_none, Bool.not_eq_true]

/-- The verdict in closed form over the ROA list: the first match if there is one; otherwise the three
tests after the loop, which only see the covering ROAs. -/
theorem validate_eq (roas : List Roa) (a : Ann) :
    validate roas a =
      match roas.find? (fun r => r.matches a) with
      | some r => ⟨a, .valid r, []⟩
      | none =>
        ⟨a, if roas.any (fun r => r.pfx.covers a.pfx) then
            if roas.any (fun r => r.pfx.covers a.pfx && r.asn == a.asn) then .invalidLength
            else if roas.any (fun r => r.pfx.covers a.pfx && r.asn != 0) then .invalidAsn
            else .disallowed
          else .notFound,
          covering roas a.pfx⟩ := by
  unfold validate
  simp only
  unfold validateCovering
  rw [validateLoop_eq, find_covering]
  cases hf : roas.find? (fun r => r.matches a) with
  | some r =>
    have hr := mem_covering.mpr ⟨(find_matches hf).1, matches_covers (find_matches hf).2⟩
    rw [if_neg (mt List.isEmpty_iff.mp (List.ne_nil_of_mem hr))]
  | none =>
    simp only [any_covers, ← any_covering]
    cases covering roas a.pfx with
    | nil => rfl
    | cons _ _ => simp only [List.isEmpty_cons, Bool.false_eq_true, if_false, Bool.false_or, List.nil_append,
        Bool.not_false, if_true]

theorem validate_ann (roas : List Roa) (a : Ann) : (validate roas a).ann = a := by
  rw [validate_eq]
  split <;> rfl

theorem validity_of_some {roas : List Roa} {a : Ann} {r : Roa}
    (hf : roas.find? (fun r => r.matches a) = some r) : (validate roas a).validity = .valid r := by
  rw [validate_eq, hf]

theorem any_and_le {α} (l : List α) (p q : α → Bool) (h : l.any (fun x => p x && q x) = true) :
    l.any p = true := by
  obtain ⟨x, hx, hpq⟩ := List.any_eq_true.mp h
  exact List.any_eq_true.mpr ⟨x, hx, (Bool.and_eq_true _ _ ▸ hpq).1⟩

/-- The verdict of `validate` by four tests on the ROA list: some ROA matches, some ROA covers, some covering ROA has
the announcement's origin, some covering ROA is not for AS0. -/
theorem validity_iff (roas : List Roa) (a : Ann) :
    let v := (validate roas a).validity
    let m := roas.any (fun r => r.matches a)
    let c := roas.any (fun r => r.pfx.covers a.pfx)
    let s := roas.any (fun r => r.pfx.covers a.pfx && r.asn == a.asn)
    let z := roas.any (fun r => r.pfx.covers a.pfx && r.asn != 0)
    v.isValid = (roas.find? (fun r => r.matches a)).isSome ∧
    (v = .notFound ↔ c = false) ∧ (v = .invalidLength ↔ m = false ∧ s = true) ∧
    (v = .invalidAsn ↔ s = false ∧ z = true) ∧ (v = .disallowed ↔ c = true ∧ s = false ∧ z = false) ∧
    v.toState = if m then .valid else if c then .invalid else .notFound := by
  dsimp only
  cases hf : roas.find? (fun r => r.matches a) with
  | some r =>
    -- the ROA that matches covers and has the announcement's origin
    obtain ⟨hr, hm⟩ := find_matches hf
    obtain ⟨h1, h2, _⟩ := (matches_iff r a).mp hm
    have hs : roas.any (fun r => r.pfx.covers a.pfx && r.asn == a.asn) = true :=
      List.any_eq_true.mpr ⟨r, hr, by rw [h2, h1, beq_self_eq_true]; rfl⟩
    have hm' : roas.any (fun r => r.matches a) = true := List.any_eq_true.mpr ⟨r, hr, hm⟩
    rw [validity_of_some hf, hm', any_and_le roas _ _ hs, hs]
    exact ⟨rfl, ⟨nofun, nofun⟩, ⟨nofun, nofun⟩, ⟨nofun, nofun⟩, ⟨nofun, nofun⟩, rfl⟩
  | none =>
    have hm : roas.any (fun r => r.matches a) = false :=
      List.any_eq_false.mpr fun r hr => by rw [find_matches_none.mp hf r hr]; nofun
    have hsc := any_and_le roas (fun r => r.pfx.covers a.pfx) (fun r => r.asn == a.asn)
    have hzc := any_and_le roas (fun r => r.pfx.covers a.pfx) (fun r => r.asn != 0)
    rw [validate_eq, hf, hm]
    dsimp only
    -- a truth table over the three tests that are left
    generalize roas.any (fun r => r.pfx.covers a.pfx) = c at *
    generalize roas.any (fun r => r.pfx.covers a.pfx && r.asn == a.asn) = s at *
    generalize roas.any (fun r => r.pfx.covers a.pfx && r.asn != 0) = z at *
    revert c s z
    decide

theorem validity_eq_valid (roas : List Roa) (a : Ann) (r : Roa) :
    (validate roas a).validity = .valid r ↔ roas.find? (fun r => r.matches a) = some r := by
  cases hf : roas.find? (fun r => r.matches a) with
  | some r' => rw [validity_of_some hf, Validity.valid.injEq, Option.some.injEq]
  | none =>
    refine ⟨fun h => ?_, nofun⟩
    have hv := (validity_iff roas a).1
    rw [h, hf] at hv
    cases hv

theorem isValid_iff (roas : List Roa) (a : Ann) :
    (validate roas a).validity.isValid = true ↔ ∃ r ∈ roas, r.matches a = true := by
  rw [(validity_iff roas a).1, List.find?_isSome]

theorem covered_iff (vrp : Roa) (route : Ann) (hwf : vrp.pfx.WF) :
    Spec.Covered vrp route ↔ vrp.pfx.covers route.pfx = true := by
  rw [covers_iff, Spec.Covered, hwf.2.2]

theorem matched_iff (vrp : Roa) (route : Ann) (hwf : vrp.pfx.WF) :
    Spec.Matched vrp route ↔ vrp.matches route = true := by
  rw [Spec.Matched, covered_iff vrp route hwf, matches_iff]
  exact ⟨fun ⟨h1, h2, h3⟩ => ⟨h3.symm, h1, h2⟩, fun ⟨h1, h2, h3⟩ => ⟨h2, h3, h1.symm⟩⟩

theorem any_congr_mem {α} {l : List α} {p q : α → Bool} (h : ∀ x ∈ l, p x = q x) :
    l.any p = l.any q := by
  rw [Bool.eq_iff_iff, List.any_eq_true, List.any_eq_true]
  exact exists_congr fun x => and_congr_right fun hx => by rw [h x hx]

theorem rfc6811_eq (roas : List Roa) (a : Ann) (hwf : ∀ r ∈ roas, r.pfx.WF) :
    Spec.rfc6811 roas a =
      if roas.any (fun r => r.matches a) then .valid
      else if roas.any (fun r => r.pfx.covers a.pfx) then .invalid else .notFound := by
  rw [Spec.rfc6811,
    any_congr_mem fun r hr => Bool.eq_iff_iff.mpr (decide_eq_true_iff.trans (matched_iff r a (hwf r hr))),
    any_congr_mem fun r hr => Bool.eq_iff_iff.mpr (decide_eq_true_iff.trans (covered_iff r a (hwf r hr)))]

/-! ## The sets of a ROA (covered, authorised, disallowed, including ROAs) as filters of the input -/

theorem map_ann_filter_validated (roas : List Roa) (anns : List Ann) (f : Validated → Bool) :
    ((anns.map (validate roas)).filter f).map (·.ann) = anns.filter (fun a => f (validate roas a)) := by
  rw [List.filter_map, List.map_map]
  exact (List.map_congr_left fun a _ => validate_ann roas a).trans (List.map_id _)

theorem coveredBy_anns (roa : Roa) (roas : List Roa) (anns : List Ann) :
    (coveredBy roa (anns.map (validate roas))).map (·.ann) = anns.filter (fun a => roa.pfx.covers a.pfx) := by
  rw [coveredBy, map_ann_filter_validated]
  exact List.filter_congr fun a _ => by rw [validate_ann]

theorem authorizesOf_eq (roa : Roa) (roas : List Roa) (anns : List Ann) (hmem : roa ∈ roas) :
    authorizesOf roa (anns.map (validate roas)) = anns.filter (fun a => roa.matches a) := by
  rw [authorizesOf, coveredBy, List.filter_filter, map_ann_filter_validated]
  refine List.filter_congr fun a _ => ?_
  rw [validate_ann, Bool.eq_iff_iff, matches_iff]
  simp only [Bool.and_eq_true, decide_eq_true_eq, beq_iff_eq, isValid_iff]
  exact ⟨fun ⟨⟨⟨_, hl⟩, ha⟩, hc⟩ => ⟨ha.symm, hc, hl⟩,
    fun h => ⟨⟨⟨⟨roa, hmem, (matches_iff roa a).mpr h⟩, h.2.2⟩, h.1.symm⟩, h.2.1⟩⟩

theorem mem_disallowsOf (roa : Roa) (roas : List Roa) (anns : List Ann) (a : Ann) :
    a ∈ disallowsOf roa (anns.map (validate roas)) ↔
      a ∈ anns ∧ roa.pfx.covers a.pfx = true ∧
        ((validate roas a).validity = .invalidLength ∨ (validate roas a).validity = .invalidAsn) := by
  rw [disallowsOf, coveredBy, List.filter_filter, map_ann_filter_validated, List.mem_filter,
    validate_ann]
  simp only [Bool.and_eq_true, Bool.or_eq_true, beq_iff_eq, and_comm]

theorem mem_othersIncluding {roa o : Roa} {all : List RoaConf} :
    o ∈ othersIncluding roa all ↔
      (∃ oc ∈ all, oc.payload = o) ∧ o.pfx.covers roa.pfx = true ∧ roa ≠ o ∧
        o.asn = roa.asn ∧ o.pfx.len ≤ roa.pfx.len ∧ roa.effMax ≤ o.effMax := by
  simp only [othersIncluding, othersCovering, List.mem_filter, List.mem_map, Bool.and_eq_true,
    beq_iff_eq, decide_eq_true_eq, bne_iff_ne, ne_eq, ge_iff_le]
  constructor
  · rintro ⟨⟨oc, ⟨hoc, hcov, hne⟩, rfl⟩, ⟨hasn, hlen⟩, hmax⟩
    exact ⟨⟨oc, hoc, rfl⟩, hcov, hne, hasn, hlen, hmax⟩
  · rintro ⟨⟨oc, hoc, rfl⟩, hcov, hne, hasn, hlen, hmax⟩
    exact ⟨⟨oc, ⟨hoc, hcov, hne⟩, rfl⟩, ⟨hasn, hlen⟩, hmax⟩

theorem matches_of_including {o roa : Roa} {a : Ann} (hcov : o.pfx.covers roa.pfx = true)
    (hasn : o.asn = roa.asn) (hmax : roa.effMax ≤ o.effMax) (hm : roa.matches a = true) :
    o.matches a = true := by
  obtain ⟨m1, m2, m3⟩ := (matches_iff roa a).mp hm
  exact (matches_iff o a).mpr ⟨hasn.trans m1, covers_trans _ _ _ hcov m2, Nat.le_trans m3 hmax⟩

/-! ## `categoriseRoa` branch by branch: the entry of an AS0 ROA, the entry of any other ROA -/

/-- The entry `e` of a ROA `rc` for another AS than 0: in every branch its two sets are `authorizesOf` and
`disallowsOf` (a branch that leaves one out is taken only when that one is empty). -/
structure NonAs0Entry (rc : RoaConf) (validated : List Validated) (all : List RoaConf) (e : Entry) : Prop where
  subject : e.subject = .inl rc
  authorizes : e.authorizes = authorizesOf rc.payload validated
  disallows : e.disallows = disallowsOf rc.payload validated
  notAs0 : e.state ≠ .roaAs0
  notAs0Redundant : e.state ≠ .roaAs0Redundant
  unseen : e.state = .roaUnseen → authorizesOf rc.payload validated = []
  redundant : e.state = .roaRedundant → othersIncluding rc.payload all ≠ []

section Categorised
variable {rc : RoaConf} {validated : List Validated} {all : List RoaConf} {e : Entry}
  (h : categoriseRoa rc validated all = some e)
include h

theorem categoriseRoa_as0 (h0 : rc.payload.asn = 0) :
    e.subject = .inl rc ∧ e.authorizes = [] ∧
    (e.state = .roaAs0 ∨ e.state = .roaAs0Redundant) ∧
    (e.state = .roaAs0 → e.disallows = (coveredBy rc.payload validated).map (·.ann)) := by
  unfold categoriseRoa at h
  simp only at h
  split at h
  · cases h
  · rw [Option.some.injEq, if_pos (beq_iff_eq.mpr h0)] at h
    split at h <;> subst h
    · exact ⟨rfl, rfl, .inl rfl, fun _ => rfl⟩
    · exact ⟨rfl, rfl, .inr rfl, nofun⟩

theorem categoriseRoa_nonAs0 (h0 : rc.payload.asn ≠ 0) : NonAs0Entry rc validated all e := by
  unfold categoriseRoa at h
  simp only at h
  split at h
  · cases h
  · rw [Option.some.injEq, if_neg (mt beq_iff_eq.mp h0)] at h
    by_cases hoi : (!(othersIncluding rc.payload all).isEmpty) = true
    · rw [if_pos hoi] at h
      subst h
      refine ⟨rfl, rfl, rfl, nofun, nofun, nofun, fun _ hc => ?_⟩
      rw [hc] at hoi; cases hoi
    · rw [if_neg hoi] at h
      by_cases hempty : ((authorizesOf rc.payload validated).isEmpty &&
          (disallowsOf rc.payload validated).isEmpty) = true
      · rw [if_pos hempty] at h
        rw [Bool.and_eq_true, List.isEmpty_iff, List.isEmpty_iff] at hempty
        subst h
        exact ⟨rfl, hempty.1.symm, hempty.2.symm, nofun, nofun, fun _ => hempty.1, nofun⟩
      · rw [if_neg hempty] at h
        split at h
        · subst h; exact ⟨rfl, rfl, rfl, nofun, nofun, nofun, nofun⟩
        · by_cases ha : (authorizesOf rc.payload validated).isEmpty = true
          · rw [if_pos ha] at h
            subst h
            exact ⟨rfl, (List.isEmpty_iff.mp ha).symm, rfl, nofun, nofun, nofun, nofun⟩
          · rw [if_neg ha] at h
            subst h; exact ⟨rfl, rfl, rfl, nofun, nofun, nofun, nofun⟩

theorem categoriseRoa_subject : e.subject = .inl rc :=
  if h0 : rc.payload.asn = 0 then (categoriseRoa_as0 h h0).1 else (categoriseRoa_nonAs0 h h0).subject

theorem categoriseRoa_asn_zero_iff :
    rc.payload.asn = 0 ↔ (e.state = .roaAs0 ∨ e.state = .roaAs0Redundant) := by
  refine ⟨fun h0 => (categoriseRoa_as0 h h0).2.2.1, fun hs => Classical.byContradiction fun h0 => ?_⟩
  exact hs.elim (categoriseRoa_nonAs0 h h0).notAs0 (categoriseRoa_nonAs0 h h0).notAs0Redundant

end Categorised

/-! ## Four lists of `suggestOf`: each holds the ROAs of the entries in one state -/

theorem fold_field {β} (g : Suggestion → List β) (c : Entry → List β) (E : List Entry)
    (hstep : ∀ s e, g (suggestStep E s e) = g s ++ c e) (entries : List Entry) (s0 : Suggestion) :
    g (entries.foldl (suggestStep E) s0) = g s0 ++ entries.flatMap c := by
  induction entries generalizing s0 with
  | nil => simp
  | cons e rest ih => rw [List.foldl_cons, ih, hstep, List.flatMap_cons, List.append_assoc]

theorem mem_suggestOf_field {β} (g : Suggestion → List β) (c : Entry → List β) (entries : List Entry)
    (h0 : g {} = []) (hstep : ∀ s e, g (suggestStep entries s e) = g s ++ c e) (x : β) :
    x ∈ g (suggestOf entries) ↔ ∃ e ∈ entries, x ∈ c e := by
  rw [suggestOf, fold_field g c entries hstep, h0, List.nil_append, List.mem_flatMap]

/-- The ROA of an entry that is in state `st`. -/
def roaIn (st : RState) (e : Entry) : List RoaConf :=
  match e.subject with
  | .inl rc => if e.state = st then [rc] else []
  | .inr _ => []

theorem mem_roaIn {st : RState} {e : Entry} {rc : RoaConf} :
    rc ∈ roaIn st e ↔ e.subject = .inl rc ∧ e.state = st := by
  unfold roaIn
  split
  · rename_i rc' h
    rw [h, Sum.inl.injEq]
    split
    · simp only [List.mem_singleton, eq_comm, and_true, *]
    · simp only [List.not_mem_nil, and_false, *]
  · rename_i h
    simp only [h, List.not_mem_nil, reduceCtorEq, false_and]

theorem suggestStep_fields (E : List Entry) (s : Suggestion) (e : Entry) :
    (suggestStep E s e).stale = s.stale ++ roaIn .roaUnseen e ∧
    (suggestStep E s e).redundant = s.redundant ++ roaIn .roaRedundant e ∧
    (suggestStep E s e).as0Redundant = s.as0Redundant ++ roaIn .roaAs0Redundant e ∧
    (suggestStep E s e).tooPermissive =
      s.tooPermissive ++ (roaIn .roaTooPermissive e).map (⟨·, replaceWith E e⟩) := by
  unfold suggestStep roaIn
  rcases e with ⟨subj, st, _, _, _, _, _⟩
  cases subj with
  | inl rc => cases st <;> simp
  | inr a =>
    -- an announcement's entry touches none of the four lists, whatever its state
    simp only [List.map_nil, List.append_nil]
    split <;> exact ⟨rfl, rfl, rfl, rfl⟩

theorem mem_suggest_stale (entries : List Entry) (rc : RoaConf) :
    rc ∈ (suggestOf entries).stale ↔ ∃ e ∈ entries, e.subject = .inl rc ∧ e.state = .roaUnseen := by
  simp only [mem_suggestOf_field (·.stale) _ entries rfl (fun s e => (suggestStep_fields entries s e).1), mem_roaIn]

theorem mem_suggest_redundant (entries : List Entry) (rc : RoaConf) :
    rc ∈ (suggestOf entries).redundant ↔
      ∃ e ∈ entries, e.subject = .inl rc ∧ e.state = .roaRedundant := by
  simp only [mem_suggestOf_field (·.redundant) _ entries rfl (fun s e => (suggestStep_fields entries s e).2.1), mem_roaIn]

theorem mem_suggest_as0Redundant (entries : List Entry) (rc : RoaConf) :
    rc ∈ (suggestOf entries).as0Redundant ↔
      ∃ e ∈ entries, e.subject = .inl rc ∧ e.state = .roaAs0Redundant := by
  simp only [mem_suggestOf_field (·.as0Redundant) _ entries rfl (fun s e => (suggestStep_fields entries s e).2.2.1), mem_roaIn]

theorem mem_suggest_tooPermissive (entries : List Entry) (rep : Replacement) :
    rep ∈ (suggestOf entries).tooPermissive ↔
      ∃ e ∈ entries, e.subject = .inl rep.current ∧ e.state = .roaTooPermissive ∧
        rep.new_ = replaceWith entries e := by
  rw [mem_suggestOf_field (·.tooPermissive) _ entries rfl (fun s e => (suggestStep_fields entries s e).2.2.2)]
  refine exists_congr fun e => and_congr_right fun _ => ?_
  rw [List.mem_map]
  simp only [mem_roaIn]
  constructor
  · rintro ⟨rc, h, rfl⟩; exact ⟨h.1, h.2, rfl⟩
  · rintro ⟨h1, h2, h3⟩; exact ⟨rep.current, ⟨h1, h2⟩, by rw [← h3]⟩

/-! ## A report: where its entries come from, and what each of these four lists says of the analysed input -/

theorem roaConf?_eq (e : Entry) : e.roaConf? = e.subject.getLeft? := by
  unfold Entry.roaConf?; cases e.subject <;> rfl

theorem ann?_eq (e : Entry) : e.ann? = e.subject.getRight? := by
  unfold Entry.ann?; cases e.subject <;> rfl

theorem toEntry_subject (v : Validated) : v.toEntry.subject = .inr v.ann := by
  unfold Validated.toEntry; split <;> rfl

theorem toEntry_authorizes (v : Validated) : v.toEntry.authorizes = [] := by
  unfold Validated.toEntry; split <;> rfl

theorem filterMap_none {α β} (l : List α) : l.filterMap (fun _ => (none : Option β)) = [] :=
  List.filterMap_eq_nil_iff.mpr fun _ _ => rfl

theorem allSome_eq_some {α} {l : List (Option α)} {ys : List α} (h : allSome l = some ys) :
    l = ys.map some := by
  fun_induction allSome l generalizing ys with
  | case1 => cases h; rfl
  | case2 => cases h
  | case3 x rest ih =>
    obtain ⟨zs, hz, rfl⟩ := Option.map_eq_some_iff.mp h
    rw [ih hz]; rfl

theorem allSome_eq_none {α} {l : List (Option α)} : allSome l = none ↔ none ∈ l := by
  fun_induction allSome l with
  | case1 => exact ⟨nofun, nofun⟩
  | case2 => exact ⟨fun _ => List.mem_cons_self, fun _ => rfl⟩
  | case3 x rest ih => rw [Option.map_eq_none_iff, ih, List.mem_cons, or_iff_right nofun]

section Report
/-! A report `entries` made with announcement data. -/
variable {i : AnalyseInput} {s : List Ann} {entries : List Entry}
  (hseen : i.seen = some s) (h : analyse i = some entries)
include hseen h

theorem analyse_shape :
    ∃ roaEntries,
      i.roasHeld.map (fun r => categoriseRoa r i.validated i.roasHeld) = roaEntries.map some ∧
      entries = i.roasNotHeld.map (fun r => ({ subject := .inl r, state := .roaNotHeld } : Entry)) ++
        roaEntries ++ i.validated.map (·.toEntry) := by
  revert h
  fun_cases analyse i
  · rename_i hn
    rw [hn] at hseen; cases hseen
  · nofun
  · rename_i roaEntries hre
    exact fun h => ⟨roaEntries, allSome_eq_some hre, (Option.some.inj h).symm⟩

theorem mem_analyse (e : Entry) (he : e ∈ entries) :
    (∃ r, e = { subject := .inl r, state := .roaNotHeld }) ∨
    (∃ rc ∈ i.roasHeld, categoriseRoa rc i.validated i.roasHeld = some e) ∨
    (∃ v : Validated, e = v.toEntry) := by
  obtain ⟨roaEntries, hre, rfl⟩ := analyse_shape hseen h
  rw [List.mem_append, List.mem_append, List.mem_map, List.mem_map] at he
  rcases he with (⟨r, _, rfl⟩ | he) | ⟨v, _, rfl⟩
  · exact .inl ⟨r, rfl⟩
  · have hm : some e ∈ roaEntries.map some := List.mem_map_of_mem he
    rw [← hre] at hm
    exact .inr (.inl (List.mem_map.mp hm))
  · exact .inr (.inr ⟨v, rfl⟩)

/-- An entry of the report that lists an announcement as authorised is the entry of a held ROA, not for AS0,
that matches it. -/
theorem entry_of_authorizes (e : Entry) (he : e ∈ entries) (a : Ann) (ha : a ∈ e.authorizes) :
    ∃ rc ∈ i.roasHeld, categoriseRoa rc i.validated i.roasHeld = some e ∧
      a ∈ i.scoped ∧ rc.payload.matches a = true := by
  have hne : e.authorizes ≠ [] := List.ne_nil_of_mem ha
  rcases mem_analyse hseen h e he with ⟨r, rfl⟩ | ⟨rc, hrc, hcat⟩ | ⟨v, rfl⟩
  · exact absurd rfl hne
  · have hnz : rc.payload.asn ≠ 0 := fun h0 => hne (categoriseRoa_as0 hcat h0).2.1
    rw [(categoriseRoa_nonAs0 hcat hnz).authorizes, AnalyseInput.validated,
      authorizesOf_eq _ _ _ (List.mem_map_of_mem hrc), List.mem_filter] at ha
    exact ⟨rc, hrc, hcat, ha⟩
  · exact absurd (toEntry_authorizes v) hne

theorem entry_of_roa (e : Entry) (he : e ∈ entries) (rc : RoaConf)
    (hsub : e.subject = .inl rc) (hne : e.state ≠ .roaNotHeld) :
    rc ∈ i.roasHeld ∧ categoriseRoa rc i.validated i.roasHeld = some e := by
  rcases mem_analyse hseen h e he with ⟨r, rfl⟩ | ⟨rc', hrc', hcat⟩ | ⟨v, rfl⟩
  · exact absurd rfl hne
  · cases (categoriseRoa_subject hcat).symm.trans hsub
    exact ⟨hrc', hcat⟩
  · rw [toEntry_subject] at hsub; cases hsub

theorem stale_spec (rc : RoaConf) (hrc : rc ∈ (suggestOf entries).stale) :
    rc ∈ i.roasHeld ∧ ∀ a ∈ i.scoped, rc.payload.matches a = false := by
  obtain ⟨e, he, hsub, hst⟩ := (mem_suggest_stale entries rc).mp hrc
  obtain ⟨hheld, hcat⟩ := entry_of_roa hseen h e he rc hsub (by rw [hst]; nofun)
  have hnz : rc.payload.asn ≠ 0 := mt (categoriseRoa_asn_zero_iff hcat).mp (by rw [hst]; nofun)
  have hnone := (categoriseRoa_nonAs0 hcat hnz).unseen hst
  rw [AnalyseInput.validated, authorizesOf_eq _ _ _ (List.mem_map_of_mem hheld), List.filter_eq_nil_iff] at hnone
  exact ⟨hheld, fun a ha => Bool.eq_false_iff.mpr (hnone a ha)⟩

theorem redundant_spec (rc : RoaConf) (hrc : rc ∈ (suggestOf entries).redundant) :
    ∃ oc ∈ i.roasHeld, oc.payload ≠ rc.payload ∧
      ∀ a, rc.payload.matches a = true → oc.payload.matches a = true := by
  obtain ⟨e, he, hsub, hst⟩ := (mem_suggest_redundant entries rc).mp hrc
  obtain ⟨_, hcat⟩ := entry_of_roa hseen h e he rc hsub (by rw [hst]; nofun)
  have hnz : rc.payload.asn ≠ 0 := mt (categoriseRoa_asn_zero_iff hcat).mp (by rw [hst]; nofun)
  obtain ⟨o, ho⟩ := List.exists_mem_of_ne_nil _ ((categoriseRoa_nonAs0 hcat hnz).redundant hst)
  obtain ⟨⟨oc, hoc, rfl⟩, hcov, hne, hasn, _, hmax⟩ := mem_othersIncluding.mp ho
  exact ⟨oc, hoc, Ne.symm hne, fun a => matches_of_including hcov hasn hmax⟩

theorem as0Redundant_spec (rc : RoaConf) (hrc : rc ∈ (suggestOf entries).as0Redundant) :
    rc.payload.asn = 0 := by
  obtain ⟨e, he, hsub, hst⟩ := (mem_suggest_as0Redundant entries rc).mp hrc
  obtain ⟨_, hcat⟩ := entry_of_roa hseen h e he rc hsub (by rw [hst]; nofun)
  exact (categoriseRoa_asn_zero_iff hcat).mpr (.inr hst)

/-- An announcement in scope that a too permissive ROA matches is matched by another held ROA or is among the
ROAs proposed in its place - provided the held payloads are pairwise different, so that different entries belong
to different payloads. -/
theorem tooPermissive_spec (hnd : (i.roasHeld.map (·.payload)).Nodup) (rep : Replacement)
    (hrep : rep ∈ (suggestOf entries).tooPermissive) (a : Ann) (ha : a ∈ i.scoped)
    (hm : rep.current.payload.matches a = true) :
    (∃ rc ∈ i.roasHeld, rc.payload ≠ rep.current.payload ∧ rc.payload.matches a = true) ∨
      a.toRoa ∈ rep.new_ := by
  obtain ⟨e, he, hsub, hst, hnew⟩ := (mem_suggest_tooPermissive entries rep).mp hrep
  obtain ⟨hheld, hcat⟩ := entry_of_roa hseen h e he rep.current hsub (by rw [hst]; nofun)
  by_cases hoth : entries.any (fun o => o != e && o.authorizes.contains a) = true
  · -- another entry authorises it: that is the entry of a held ROA that matches
    obtain ⟨o, ho, hcond⟩ := List.any_eq_true.mp hoth
    rw [Bool.and_eq_true, bne_iff_ne, List.contains_iff_mem] at hcond
    obtain ⟨rc', hrc', hcat', _, hm'⟩ := entry_of_authorizes hseen h o ho a hcond.2
    refine .inl ⟨rc', hrc', fun hc => ?_, hm'⟩
    cases Assoc.eq_of_nodup_map (fun x : RoaConf => x.payload) hnd hrc' hheld hc
    exact hcond.1 (Option.some.inj (hcat'.symm.trans hcat))
  · -- nobody else does: the exact announcement is proposed
    have hnz : rep.current.payload.asn ≠ 0 :=
      mt (categoriseRoa_asn_zero_iff hcat).mp (by rw [hst]; nofun)
    have hauth : a ∈ e.authorizes := by
      rw [(categoriseRoa_nonAs0 hcat hnz).authorizes, AnalyseInput.validated,
        authorizesOf_eq _ _ _ (List.mem_map_of_mem hheld)]
      exact List.mem_filter.mpr ⟨ha, hm⟩
    rw [hnew, replaceWith]
    exact .inr (List.mem_map_of_mem (List.mem_filter.mpr
      ⟨hauth, (Bool.not_eq_true' _).mpr (Bool.eq_false_iff.mpr hoth)⟩))

theorem analyse_subjects :
    entries.map (·.subject) =
      i.roasNotHeld.map Sum.inl ++ i.roasHeld.map Sum.inl ++ i.scoped.map Sum.inr := by
  obtain ⟨roaEntries, hre, rfl⟩ := analyse_shape hseen h
  have hsub : ∀ (l : List RoaConf) (es : List Entry),
      l.map (fun r => categoriseRoa r i.validated i.roasHeld) = es.map some →
      es.map (·.subject) = l.map Sum.inl := by
    intro l
    induction l with
    | nil => intro es h; cases es with | nil => rfl | cons _ _ => cases h
    | cons r rest ih =>
      intro es h
      cases es with
      | nil => cases h
      | cons e es' =>
        rw [List.map_cons, List.map_cons, List.cons.injEq] at h
        rw [List.map_cons, List.map_cons, categoriseRoa_subject h.1, ih es' h.2]
  rw [List.map_append, List.map_append, hsub _ _ hre, List.map_map, List.map_map,
    AnalyseInput.validated, List.map_map]
  congr 1
  exact List.map_congr_left fun a _ => (toEntry_subject _).trans (congrArg _ (validate_ann _ a))

end Report

end KM.Bgp
