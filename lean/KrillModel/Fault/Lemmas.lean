/-
The crash model, store by store: what a list of mutations does to the log, the object set and the task queue.  The
mutations of a command are its listener part `pre` (what the listeners ask for, `listen`, on the events of an accepted
command) followed by its record `rec?` (`execMuts_eq`), so a cut falls inside the listener part, leaving the log alone,
or lets everything through (`crashAt_eq`).
-/
import KrillModel.Fault.Model
import KrillModel.Base.Fold

namespace KM.Fault
open KM.Fold
variable {S C Ev Er O T : Type} [DecidableEq T]

theorem applyMuts_append (w : World C Ev Er O T) (a b : List (Mut C Ev Er O T)) :
    applyMuts w (a ++ b) = applyMuts (applyMuts w a) b :=
  List.foldl_append

theorem applyMuts_cons (w : World C Ev Er O T) (m : Mut C Ev Er O T) (ms : List (Mut C Ev Er O T)) :
    applyMuts w (m :: ms) = applyMuts (applyMut w m) ms := rfl

/-- The log record a mutation writes, if it is the command write. -/
def Mut.toRec : Mut C Ev Er O T → Option (Rec C Ev Er)
  | .appendLog r => some r
  | _ => none

theorem log_applyMuts (w : World C Ev Er O T) (ms : List (Mut C Ev Er O T)) :
    (applyMuts w ms).log = w.log ++ ms.filterMap Mut.toRec := by
  induction ms generalizing w with
  | nil => exact (List.append_nil _).symm
  | cons m rest ih =>
    rw [applyMuts_cons, ih]
    cases m <;> simp [applyMut, Mut.toRec, List.filterMap_cons]

theorem applyMuts_log_of_noLog (w : World C Ev Er O T) (ms : List (Mut C Ev Er O T))
    (h : ∀ m ∈ ms, m.toRec = none) : (applyMuts w ms).log = w.log := by
  rw [log_applyMuts, List.filterMap_eq_nil_iff.mpr h, List.append_nil]

/-- The object set a mutation writes, if it is the listener's write. -/
def Mut.obj? : Mut C Ev Er O T → Option O
  | .setObjects o => some o
  | _ => none

theorem objects_applyMut (w : World C Ev Er O T) (m : Mut C Ev Er O T) :
    (applyMut w m).objects = m.obj?.getD w.objects := by
  cases m <;> rfl

/-- The object set after a list of mutations is the last one written, if any was. -/
theorem objects_applyMuts (w : World C Ev Er O T) (ms : List (Mut C Ev Er O T)) :
    (applyMuts w ms).objects = (lastSome Mut.obj? ms).getD w.objects :=
  foldl_lastSome applyMut (·.objects) Mut.obj? objects_applyMut ms w

omit [DecidableEq T] in
theorem setObjects_mem_of_lastSome {ms : List (Mut C Ev Er O T)} {o : O}
    (h : lastSome Mut.obj? ms = some o) : Mut.setObjects o ∈ ms := by
  obtain ⟨m, hm, ho⟩ := exists_of_lastSome h
  cases m <;> cases ho
  exact hm

theorem mem_tasks_applyMuts (w : World C Ev Er O T) (ms : List (Mut C Ev Er O T)) (t : T) :
    t ∈ (applyMuts w ms).tasks ↔ t ∈ w.tasks ∨ Mut.addTask t ∈ ms := by
  induction ms generalizing w with
  | nil => simp [applyMuts]
  | cons m rest ih =>
    rw [applyMuts_cons, ih]
    cases m with
    | setObjects o => simp [applyMut]
    | appendLog r => simp [applyMut]
    | addTask t' =>
      by_cases h : t = t'
      · simp [applyMut, h]
      · simp [applyMut, h]

/-- What the listeners ask for on the events `evs`, the object set being `o` and the state `s`: the write of the object
set, if any, then the tasks. -/
def listen (sys : Sys S C Ev Er O T) (o : O) (s : S) (evs : List Ev) : List (Mut C Ev Er O T) :=
  (sys.objUpd o s evs).toList.map .setObjects ++ (sys.tasks s evs).map .addTask

omit [DecidableEq T] in
theorem listen_noLog (sys : Sys S C Ev Er O T) (o : O) (s : S) (evs : List Ev) :
    ∀ m ∈ listen sys o s evs, m.toRec = none := by
  intro m hm
  rcases List.mem_append.mp hm with h | h
  · obtain ⟨_, _, rfl⟩ := List.mem_map.mp h; rfl
  · obtain ⟨_, _, rfl⟩ := List.mem_map.mp h; rfl

omit [DecidableEq T] in
theorem mem_listen_setObjects {sys : Sys S C Ev Er O T} {o o' : O} {s : S} {evs : List Ev}
    (h : Mut.setObjects o' ∈ listen sys o s evs) : sys.objUpd o s evs = some o' := by
  rcases List.mem_append.mp h with h | h
  · obtain ⟨x, hx, hxo⟩ := List.mem_map.mp h
    cases hxo; exact Option.mem_toList.mp hx
  · obtain ⟨t, _, ht⟩ := List.mem_map.mp h; cases ht

/-- The listener part of the mutations (everything before the log record): only an accepted command with events
has one. -/
def pre (sys : Sys S C Ev Er O T) (w : World C Ev Er O T) (c : C) : List (Mut C Ev Er O T) :=
  match sys.process (state sys w) c with
  | .ok (e :: evs) => listen sys w.objects (state sys w) (e :: evs)
  | _ => []

omit [DecidableEq T] in
theorem pre_ok {sys : Sys S C Ev Er O T} {w : World C Ev Er O T} {c : C} {e : Ev} {evs : List Ev}
    (hp : sys.process (state sys w) c = .ok (e :: evs)) :
    pre sys w c = listen sys w.objects (state sys w) (e :: evs) := by
  rw [pre, hp]

/-- The record the command leaves in the log, if any. -/
def rec? (sys : Sys S C Ev Er O T) (w : World C Ev Er O T) (c : C) : Option (Rec C Ev Er) :=
  match sys.process (state sys w) c with
  | .error e => some ⟨c, .err e⟩
  | .ok [] => none
  | .ok evs => some ⟨c, .ok evs⟩

omit [DecidableEq T] in
theorem execMuts_eq (sys : Sys S C Ev Er O T) (w : World C Ev Er O T) (c : C) :
    execMuts sys w c = pre sys w c ++ (rec? sys w c).toList.map .appendLog := by
  unfold execMuts pre rec? listen
  cases hp : sys.process (state sys w) c with
  | error e => simp [hp]
  | ok evs =>
    cases evs with
    | nil => simp [hp]
    | cons e evs =>
      simp only [hp]
      cases sys.objUpd w.objects (state sys w) (e :: evs) <;> simp

omit [DecidableEq T] in
theorem pre_noLog (sys : Sys S C Ev Er O T) (w : World C Ev Er O T) (c : C) :
    ∀ m ∈ pre sys w c, m.toRec = none := by
  unfold pre
  split
  · exact listen_noLog sys _ _ _
  · exact fun _ h => nomatch h

omit [DecidableEq T] in
theorem lastSome_obj?_execMuts (sys : Sys S C Ev Er O T) (w : World C Ev Er O T) (c : C) :
    lastSome Mut.obj? (execMuts sys w c) = lastSome Mut.obj? (pre sys w c) := by
  rw [execMuts_eq, lastSome_append]
  cases rec? sys w c <;> rfl

theorem exec_eq (sys : Sys S C Ev Er O T) (w : World C Ev Er O T) (c : C) :
    exec sys w c = applyMuts (applyMuts w (pre sys w c)) ((rec? sys w c).toList.map .appendLog) := by
  rw [exec, execMuts_eq, applyMuts_append]

theorem exec_log (sys : Sys S C Ev Er O T) (w : World C Ev Er O T) (c : C) :
    (exec sys w c).log = w.log ++ (rec? sys w c).toList := by
  rw [exec, execMuts_eq, log_applyMuts, List.filterMap_append,
    List.filterMap_eq_nil_iff.mpr (pre_noLog sys w c)]
  cases rec? sys w c <;> rfl

/-- The world after a cut: the completed execution once the record is written, before that the old world with a
prefix of the listener mutations. -/
theorem crashAt_eq (sys : Sys S C Ev Er O T) (w : World C Ev Er O T) (c : C) (k : Nat) :
    crashAt sys w c k =
      if logged sys w c k then exec sys w c else applyMuts w ((pre sys w c).take k) := by
  by_cases hk : k ≤ (pre sys w c).length
  · -- the cut falls inside the listener part: the log is untouched
    have h : crashAt sys w c k = applyMuts w ((pre sys w c).take k) := by
      rw [crashAt, execMuts_eq, List.take_append_of_le_length hk]
    have hlog : (applyMuts w ((pre sys w c).take k)).log = w.log :=
      applyMuts_log_of_noLog _ _ fun m hm => pre_noLog sys w c m (List.mem_of_mem_take hm)
    rw [logged, h, hlog, if_neg (by simp)]
  · -- everything went through; no record then means that the command leaves none
    have h : crashAt sys w c k = exec sys w c := by
      rw [crashAt, exec, List.take_of_length_le]
      rw [execMuts_eq]
      cases rec? sys w c <;> simp <;> omega
    rw [h]
    split
    · rfl
    · rename_i hl
      rw [logged, h, exec_log] at hl
      cases hr : rec? sys w c with
      | some r => rw [hr] at hl; simp at hl
      | none => rw [exec_eq, hr, List.take_of_length_le (Nat.le_of_lt (Nat.lt_of_not_le hk))]; rfl

theorem crashAt_of_logged (sys : Sys S C Ev Er O T) (w : World C Ev Er O T) (c : C) (k : Nat)
    (hl : logged sys w c k = true) : crashAt sys w c k = exec sys w c := by
  rw [crashAt_eq, if_pos hl]

theorem crashAt_of_not_logged (sys : Sys S C Ev Er O T) (w : World C Ev Er O T) (c : C) (k : Nat)
    (hl : logged sys w c k = false) : crashAt sys w c k = applyMuts w ((pre sys w c).take k) := by
  rw [crashAt_eq, hl, if_neg Bool.false_ne_true]

theorem crashAt_log_of_not_logged (sys : Sys S C Ev Er O T) (w : World C Ev Er O T) (c : C)
    (k : Nat) (hl : logged sys w c k = false) : (crashAt sys w c k).log = w.log := by
  rw [crashAt_of_not_logged sys w c k hl]
  exact applyMuts_log_of_noLog _ _ fun m hm => pre_noLog sys w c m (List.mem_of_mem_take hm)

/-- A command without listener mutations is atomic in all three stores. -/
theorem crashAt_of_pre_nil (sys : Sys S C Ev Er O T) (w : World C Ev Er O T) (c : C) (k : Nat)
    (h : pre sys w c = []) : crashAt sys w c k = w ∨ crashAt sys w c k = exec sys w c := by
  rw [crashAt_eq, h]
  split
  · exact .inr rfl
  · exact .inl (by rw [List.take_nil]; rfl)

omit [DecidableEq T] in
theorem state_congr (sys : Sys S C Ev Er O T) (w w2 : World C Ev Er O T) (h : w.log = w2.log) :
    state sys w = state sys w2 := by
  rw [state, h, state]

omit [DecidableEq T] in
theorem rec?_congr (sys : Sys S C Ev Er O T) (w w2 : World C Ev Er O T) (c : C)
    (h : w.log = w2.log) : rec? sys w c = rec? sys w2 c := by
  rw [rec?, state_congr sys w w2 h, rec?]

/-- What a fault-free execution appends to the log depends on the log alone (not on the
published-object set or the task queue). -/
theorem exec_log_congr (sys : Sys S C Ev Er O T) (w w2 : World C Ev Er O T) (c : C)
    (h : w.log = w2.log) : (exec sys w c).log = (exec sys w2 c).log := by
  rw [exec_log, exec_log, h, rec?_congr sys w w2 c h]

theorem runClean_log_congr (sys : Sys S C Ev Er O T) (cs : List C) (w w2 : World C Ev Er O T)
    (h : w.log = w2.log) : (runClean sys w cs).log = (runClean sys w2 cs).log :=
  List.foldl_rel (r := fun a b => a.log = b.log) h fun c _ a b hab => exec_log_congr sys a b c hab

end KM.Fault
