/- Lemmas about the queue model: membership in the key-value primitives, names, the key invariant, and what
`schedule`, `claim`, `finish` and `reschedule` return. -/
import KrillModel.Queue.TaskQueue
namespace KM.Queue

@[simp] theorem sameKey_iff (e : Entry) (ts : Nat) (n : String) :
    e.sameKey ts n = true ↔ e.ts = ts ∧ e.name = n := by
  simp [Entry.sameKey]

@[simp] theorem mem_kvDel {l : List Entry} {ts : Nat} {n : String} {x : Entry} :
    x ∈ kvDel l ts n ↔ x ∈ l ∧ ¬ (x.ts = ts ∧ x.name = n) := by
  simp only [kvDel, List.mem_filter, Bool.not_eq_true', ← sameKey_iff, Bool.not_eq_true]

@[simp] theorem mem_kvPut {l : List Entry} {e x : Entry} :
    x ∈ kvPut l e ↔ x = e ∨ (x ∈ l ∧ ¬ (x.ts = e.ts ∧ x.name = e.name)) := by
  simp [kvPut]

theorem kvGet?_some {l : List Entry} {ts : Nat} {n : String} {e : Entry}
    (h : kvGet? l ts n = some e) : e ∈ l ∧ e.ts = ts ∧ e.name = n := by
  unfold kvGet? at h
  have hk := List.find?_some h
  exact ⟨List.mem_of_find?_eq_some h, (sameKey_iff e ts n).mp hk⟩

theorem kvGet?_isSome_of_mem {l : List Entry} {e : Entry} (h : e ∈ l) :
    (kvGet? l e.ts e.name).isSome = true :=
  List.find?_isSome.mpr ⟨e, h, (sameKey_iff e _ _).mpr ⟨rfl, rfl⟩⟩

@[simp] theorem mem_byName {l : List Entry} {n : String} {x : Entry} :
    x ∈ byName l n ↔ x ∈ l ∧ x.name = n := by
  simp [byName]

/-- Some entry of the scope has the name. -/
def Named (l : List Entry) (n : String) : Prop := ∃ x ∈ l, x.name = n

theorem hasName_iff {s : QState} {n : String} :
    s.hasName n = true ↔ Named s.pending n ∨ Named s.running n := by
  simp only [QState.hasName, Named, Bool.or_eq_true, List.any_eq_true, beq_iff_eq]

/-- A put overwrites an entry with its own key only, and that entry has its name. -/
theorem named_kvPut {l : List Entry} {e : Entry} {n : String} :
    Named (kvPut l e) n ↔ e.name = n ∨ Named l n := by
  constructor
  · rintro ⟨y, hy, hn⟩
    rcases mem_kvPut.mp hy with rfl | hy
    · exact Or.inl hn
    · exact Or.inr ⟨y, hy.1, hn⟩
  · rintro (hn | ⟨y, hy, hn⟩)
    · exact ⟨e, mem_kvPut.mpr (Or.inl rfl), hn⟩
    · by_cases hk : y.ts = e.ts ∧ y.name = e.name
      · exact ⟨e, mem_kvPut.mpr (Or.inl rfl), hk.2 ▸ hn⟩
      · exact ⟨y, mem_kvPut.mpr (Or.inr ⟨hy, hk⟩), hn⟩

theorem named_kvDel {l : List Entry} {ts : Nat} {name n : String} (hne : n ≠ name) (h : Named l n) :
    Named (kvDel l ts name) n := by
  obtain ⟨y, hy, hn⟩ := h
  exact ⟨y, mem_kvDel.mpr ⟨hy, fun hk => hne (hn ▸ hk.2)⟩, hn⟩

/-- A resolution of a name look-up is `none` only if no entry has the name, and otherwise
an entry of the list with that name. -/
theorem optChoices_spec {l : List Entry} {n : String} {o : Option Entry}
    (h : o ∈ optChoices l n) :
    (o = none ∧ ¬ Named l n) ∨ (∃ e, o = some e ∧ e ∈ l ∧ e.name = n) := by
  unfold optChoices at h
  split at h
  · rename_i hb
    refine Or.inl ⟨List.mem_singleton.mp h, ?_⟩
    rintro ⟨x, hx, hn⟩
    have : x ∈ byName l n := mem_byName.mpr ⟨hx, hn⟩
    rw [hb] at this
    cases this
  · obtain ⟨e, he, rfl⟩ := List.mem_map.mp h
    exact Or.inr ⟨e, rfl, mem_byName.mp he⟩

theorem optChoices_ne_nil (l : List Entry) (n : String) : optChoices l n ≠ [] := by
  unfold optChoices
  split
  · simp
  · rename_i h; simpa using h

theorem named_delOpt {l : List Entry} {name n : String} {o : Option Entry} (ho : o ∈ optChoices l name)
    (hne : n ≠ name) (h : Named l n) : Named (delOpt l o) n := by
  rcases optChoices_spec ho with ⟨rfl, _⟩ | ⟨e, rfl, _, hen⟩
  · exact h
  · exact named_kvDel (hen ▸ hne) h

/-- Key-value invariant: no two entries of a scope share a storage key. -/
def KeysNodup (l : List Entry) : Prop :=
  l.Pairwise (fun a b => ¬ (a.ts = b.ts ∧ a.name = b.name))

theorem keysNodup_kvDel {l : List Entry} (h : KeysNodup l) (ts : Nat) (n : String) :
    KeysNodup (kvDel l ts n) :=
  List.Pairwise.filter _ h

theorem keysNodup_kvPut {l : List Entry} (h : KeysNodup l) (e : Entry) :
    KeysNodup (kvPut l e) :=
  List.pairwise_cons.mpr
    ⟨fun _ hx hc => (mem_kvDel.mp hx).2 ⟨hc.1.symm, hc.2.symm⟩, keysNodup_kvDel h _ _⟩

theorem keysNodup_delOpt {l : List Entry} (h : KeysNodup l) (o : Option Entry) :
    KeysNodup (delOpt l o) := by
  cases o
  · exact h
  · exact keysNodup_kvDel h _ _

def WF (s : QState) : Prop := KeysNodup s.pending ∧ KeysNodup s.running

theorem wf_empty : WF QState.empty := by
  simp [WF, KeysNodup, QState.empty]

/-- Every mode does the same thing or nothing: the pending entry the look-up found goes, the new entry is put,
and the running entry that was found may go too. -/
theorem scheduleWith_eq (s : QState) (name val : String) (ts : Nat) (mode : Mode) (p r : Option Entry) :
    scheduleWith s name val ts mode p r = s ∨ ∃ t r', (r' = r ∨ r' = none) ∧
      scheduleWith s name val ts mode p r =
        { pending := kvPut (delOpt s.pending p) ⟨t, name, val⟩, running := delOpt s.running r' } := by
  cases mode
  · exact Or.inr ⟨ts, none, Or.inr rfl, rfl⟩  -- replaceExisting
  · exact Or.inr ⟨minOpt ts p, none, Or.inr rfl, rfl⟩  -- replaceExistingSoonest
  · exact Or.inr ⟨ts, r, Or.inl rfl, rfl⟩  -- finishOrReplaceExisting
  · exact Or.inr ⟨minOpt ts p, r, Or.inl rfl, rfl⟩  -- finishOrReplaceExistingSoonest
  · cases p  -- ifMissing: stores only when both look-ups found nothing
    · cases r
      · exact Or.inr ⟨ts, none, Or.inr rfl, rfl⟩
      · exact Or.inl rfl
    · exact Or.inl rfl

theorem wf_scheduleWith {s : QState} (h : WF s) (name val : String) (ts : Nat) (mode : Mode)
    (p r : Option Entry) : WF (scheduleWith s name val ts mode p r) := by
  rcases scheduleWith_eq s name val ts mode p r with he | ⟨t, r', _, he⟩ <;> rw [he]
  · exact h
  · exact ⟨keysNodup_kvPut (keysNodup_delOpt h.1 p) _, keysNodup_delOpt h.2 r'⟩

theorem mem_schedule {s s' : QState} {name val : String} {ts : Nat} {mode : Mode} :
    s' ∈ schedule s name val ts mode ↔
      ∃ p ∈ optChoices s.pending name, ∃ r ∈ optChoices s.running name,
        scheduleWith s name val ts mode p r = s' := by
  simp only [schedule, List.mem_flatMap, List.mem_map]

/-- `schedule_missing` in every outcome: the queue as it was when the name is pending or running, else the queue
with the new entry pending. -/
theorem mem_schedule_ifMissing {s s' : QState} {name val : String} {ts : Nat}
    (h : s' ∈ schedule s name val ts .ifMissing) :
    ((Named s.pending name ∨ Named s.running name) ∧ s' = s) ∨
    (¬ Named s.pending name ∧ ¬ Named s.running name ∧ s' = { s with pending := kvPut s.pending ⟨ts, name, val⟩ }) := by
  obtain ⟨p, hp, r, hr, rfl⟩ := mem_schedule.mp h
  rcases optChoices_spec hp with ⟨rfl, hpn⟩ | ⟨e, rfl, he, hen⟩
  · rcases optChoices_spec hr with ⟨rfl, hrn⟩ | ⟨e, rfl, he, hen⟩
    · exact Or.inr ⟨hpn, hrn, rfl⟩
    · exact Or.inl ⟨Or.inr ⟨e, he, hen⟩, rfl⟩
  · exact Or.inl ⟨Or.inl ⟨e, he, hen⟩, rfl⟩

theorem wf_schedule {s s' : QState} (h : WF s) {name val : String} {ts : Nat} {mode : Mode}
    (hs : s' ∈ schedule s name val ts mode) : WF s' := by
  obtain ⟨p, _, r, _, rfl⟩ := mem_schedule.mp hs
  exact wf_scheduleWith h _ _ _ _ _ _

theorem schedule_ne_nil (s : QState) (name val : String) (ts : Nat) (mode : Mode) :
    schedule s name val ts mode ≠ [] := by
  obtain ⟨p, hp⟩ := List.exists_mem_of_ne_nil _ (optChoices_ne_nil s.pending name)
  obtain ⟨r, hr⟩ := List.exists_mem_of_ne_nil _ (optChoices_ne_nil s.running name)
  exact List.ne_nil_of_mem (mem_schedule.mpr ⟨p, hp, r, hr, rfl⟩)

theorem mem_due {s : QState} {now : Nat} {x : Entry} :
    x ∈ due s now ↔ x ∈ s.pending ∧ x.ts ≤ now := by
  simp [due]

theorem mem_claimChoices {s : QState} {now : Nat} {e : Entry} :
    e ∈ claimChoices s now ↔
      (e ∈ s.pending ∧ e.ts ≤ now) ∧ ∀ x ∈ s.pending, x.ts ≤ now → e.ts ≤ x.ts := by
  simp only [claimChoices, List.mem_filter, List.all_eq_true, decide_eq_true_eq, mem_due, and_imp]

theorem exists_min {α : Type} (f : α → Nat) (l : List α) (hl : l ≠ []) : ∃ m ∈ l, ∀ y ∈ l, f m ≤ f y := by
  induction l with
  | nil => exact absurd rfl hl
  | cons a t ih =>
    by_cases ht : t = []
    · exact ⟨a, .head _, fun y hy => by cases ht; cases List.mem_singleton.mp hy; exact Nat.le_refl _⟩
    · obtain ⟨m, hm, hmin⟩ := ih ht
      by_cases hc : f a ≤ f m
      · exact ⟨a, .head _, List.forall_mem_cons.mpr ⟨Nat.le_refl _, fun y hy => Nat.le_trans hc (hmin y hy)⟩⟩
      · exact ⟨m, .tail _ hm, List.forall_mem_cons.mpr ⟨Nat.le_of_lt (Nat.lt_of_not_le hc), hmin⟩⟩

/-- Nothing can be claimed exactly when nothing is due: among due entries one is earliest. -/
theorem claimChoices_eq_nil_iff {s : QState} {now : Nat} :
    claimChoices s now = [] ↔ ∀ x ∈ s.pending, now < x.ts := by
  constructor
  · intro hnil x hx
    refine Nat.lt_of_not_le fun hle => ?_
    obtain ⟨m, hm, hmin⟩ := exists_min Entry.ts (due s now) (List.ne_nil_of_mem (mem_due.mpr ⟨hx, hle⟩))
    have : m ∈ claimChoices s now :=
      mem_claimChoices.mpr ⟨mem_due.mp hm, fun y hy hyle => hmin y (mem_due.mpr ⟨hy, hyle⟩)⟩
    rw [hnil] at this
    cases this
  · intro h
    refine List.eq_nil_iff_forall_not_mem.mpr fun e he => ?_
    have := (mem_claimChoices.mp he).1
    exact Nat.not_le_of_lt (h e this.1) this.2

theorem mem_claim_some {s s' : QState} {now now2 : Nat} {r : Entry} :
    (s', some r) ∈ claim s now now2 ↔
      ∃ e ∈ claimChoices s now, s' = (claimWith s e now now2).1 ∧ r = (claimWith s e now now2).2 := by
  unfold claim
  split
  · rename_i h; simp [h]
  · simp [Prod.ext_iff, eq_comm]

theorem mem_claim_none {s s' : QState} {now now2 : Nat} :
    (s', none) ∈ claim s now now2 ↔ claimChoices s now = [] ∧ s' = s := by
  unfold claim
  split
  · rename_i h; simp [h]
  · rename_i h; simpa using fun h' => absurd h' h

theorem wf_claimWith {s : QState} (h : WF s) (e : Entry) (now now2 : Nat) :
    WF (claimWith s e now now2).1 :=
  ⟨keysNodup_kvDel h.1 _ _, keysNodup_kvPut h.2 _⟩

theorem finish_eq_some {s s' : QState} {ts : Nat} {n : String} :
    finish s ts n = some s' ↔
      (kvGet? s.running ts n).isSome = true ∧ s' = { s with running := kvDel s.running ts n } := by
  unfold finish
  cases kvGet? s.running ts n <;> simp [eq_comm]

theorem reschedule_eq_some {s s' : QState} {ts nts : Nat} {n : String} :
    reschedule s ts n nts = some s' ↔
      ∃ e, kvGet? s.running ts n = some e ∧
        s' = { pending := kvPut s.pending ⟨nts, n, e.val⟩, running := kvDel s.running ts n } := by
  unfold reschedule
  cases kvGet? s.running ts n <;> simp [eq_comm]

theorem wf_finish {s s' : QState} (h : WF s) {ts : Nat} {n : String}
    (hf : finish s ts n = some s') : WF s' := by
  obtain ⟨_, rfl⟩ := finish_eq_some.mp hf
  exact ⟨h.1, keysNodup_kvDel h.2 _ _⟩

theorem wf_reschedule {s s' : QState} (h : WF s) {ts nts : Nat} {n : String}
    (hf : reschedule s ts n nts = some s') : WF s' := by
  obtain ⟨_, _, rfl⟩ := reschedule_eq_some.mp hf
  exact ⟨keysNodup_kvPut h.1 _, keysNodup_kvDel h.2 _ _⟩

end KM.Queue
