/-
The WAL store keeps its invariant.  `WInv e cur`: the snapshot and every cache entry lead to the current value `cur`
through the stored change sets (`Reaches`), and nothing is stored at or above `cur`'s revision; `WState` adds the entity
that does not exist.  Every operation of a `SafeRun` history preserves `WState` (`step_preserves`), and the side
condition of `update_snapshot` is exact (`snapshot_safe_iff`).
-/
import KrillModel.ES.Lemmas
namespace KM.ES.Wal
open KM.ES

variable {T : WalT}

theorem applySet_revision {v v' : WVer T} {s : WSet T} (h : applySet v s = some v') :
    v'.revision = v.revision + 1 := by
  unfold applySet at h
  simp at h
  obtain ⟨_, _, rfl⟩ := h
  rfl

theorem applySet_lt {v v' : WVer T} {s : WSet T} (h : applySet v s = some v') {n : Nat}
    (hn : v'.revision ≤ n) : v.revision < n := by
  rw [applySet_revision h] at hn; exact hn

theorem reaches_rev_le {kv : Scope T} {v cur : WVer T} (h : Reaches kv v cur) :
    v.revision ≤ cur.revision := by
  induction h with
  | refl v => exact Nat.le_refl _
  | step _ ha _ ih => exact Nat.le_of_lt (applySet_lt ha ih)

theorem reaches_stuck {kv : Scope T} {v cur : WVer T} (h : Reaches kv v cur)
    (hn : kv.getWal v.revision = none) : v = cur := by
  cases h with
  | refl => rfl
  | step hg _ _ => rw [hn] at hg; cases hg

theorem reaches_trans {kv : Scope T} {a b c : WVer T} (h1 : Reaches kv a b) (h2 : Reaches kv b c) :
    Reaches kv a c := by
  induction h1 with
  | refl => exact h2
  | step hg ha _ ih => exact Reaches.step hg ha (ih h2)

/-- Looking only below `cur`'s revision, a reachability proof survives any change of the
change sets at or above it. -/
theorem reaches_congr {kv kv' : Scope T} {v cur : WVer T} (h : Reaches kv v cur)
    (hc : ∀ k, k < cur.revision → kv'.getWal k = kv.getWal k) : Reaches kv' v cur := by
  induction h with
  | refl v => exact Reaches.refl v
  | step hg ha hr ih =>
    rename_i v v' cur s
    have hlt : v.revision < cur.revision := applySet_lt ha (reaches_rev_le hr)
    exact Reaches.step (by rw [hc _ hlt]; exact hg) ha (ih hc)

@[simp] theorem getWal_insert (kv : Scope T) (n k : Nat) (s : WSet T) :
    ({ kv with wals := ainsert kv.wals n s } : Scope T).getWal k
      = if k = n then some s else kv.getWal k := by
  simp [Scope.getWal, alookup_ainsert]

theorem catchUp_reaches {kv : Scope T} {v cur : WVer T} (h : Reaches kv v cur)
    (hn : kv.getWal cur.revision = none) :
    ∀ fuel, cur.revision - v.revision < fuel →
      catchUp kv fuel v = some (cur, decide (v.revision < cur.revision)) := by
  induction h with
  | refl v =>
    intro fuel hf
    cases fuel with
    | zero => exact absurd hf (Nat.not_lt_zero _)
    | succ f => simp only [catchUp, hn, Nat.lt_irrefl, decide_false]
  | step hg ha hr ih =>
    rename_i v v' cur s
    intro fuel hf
    have hlt : v.revision < cur.revision := applySet_lt ha (reaches_rev_le hr)
    cases fuel with
    | zero => exact absurd hf (Nat.not_lt_zero _)
    | succ f =>
      have hf' : cur.revision - v'.revision < f := applySet_revision ha ▸ fuel_step hlt hf
      simp only [catchUp, hg, ha, ih hn f hf', Option.map_some, hlt, decide_true]

/-- The keys between `v` and `cur` all exist. -/
theorem reaches_le_keyBound {kv : Scope T} {v cur : WVer T} (h : Reaches kv v cur)
    (hlt : v.revision < cur.revision) : cur.revision ≤ keyBound kv.wals := by
  induction h with
  | refl v => exact absurd hlt (Nat.lt_irrefl _)
  | step hg ha hr ih =>
    rename_i v v' cur s
    rcases Nat.eq_or_lt_of_le (reaches_rev_le hr) with heq | hc
    · exact heq ▸ applySet_revision ha ▸ alookup_lt_keyBound hg
    · exact ih hc

theorem fuel_enough {kv : Scope T} {v cur : WVer T} (h : Reaches kv v cur) :
    cur.revision - v.revision < kv.fuel := by
  by_cases hlt : v.revision < cur.revision
  · exact Nat.lt_succ_of_le (Nat.le_trans (Nat.sub_le ..) (reaches_le_keyBound h hlt))
  · unfold Scope.fuel; omega

/-! Which part of the entity a phase can touch. -/

theorem phLoad_fst (i : Nat) (p : Ent T × Local T) : (phLoad i p).1 = p.1 := by
  fun_cases phLoad i p <;> rfl

theorem phCatchUp_fst (p : Ent T × Local T) : (phCatchUp p).1 = p.1 := by
  fun_cases phCatchUp p <;> rfl

theorem phProcess_cache (cmd : Option T.Cmd) (wfail : Bool) (p : Ent T × Local T) :
    (phProcess cmd wfail p).1.cache = p.1.cache := by
  fun_cases phProcess cmd wfail p <;> rfl

theorem phCache_kv (i : Nat) (p : Ent T × Local T) : (phCache i p).1.kv = p.1.kv := by
  fun_cases phCache i p <;> rfl

theorem phSnapshot_cache (snap wfail : Bool) (p : Ent T × Local T) :
    (phSnapshot snap wfail p).1.cache = p.1.cache := by
  fun_cases phSnapshot snap wfail p <;> rfl

theorem phFinish_fst (p : Ent T × Local T) : (phFinish p).1 = p.1 := by
  fun_cases phFinish p <;> rfl

theorem execOpt_eq (e : Ent T) (i : Nat) (cmd : Option T.Cmd) (snap wfail : Bool) :
    execOpt e i cmd snap wfail =
      let r := phFinish (phSnapshot snap wfail (phCache i (phProcess cmd wfail
        (phCatchUp (phLoad i (e, Local.start))))))
      (r.1, r.2.out) := by
  unfold execOpt execPhases runPhases
  rfl

/-- Load and catch-up on an existing entity deliver `cur`; the flag is false only on a cache
hit that was already current. -/
theorem load_catchUp {e : Ent T} {cur : WVer T} (h : WInv e cur) (i : Nat) :
    ∃ ch, phCatchUp (phLoad i (e, Local.start)) = (e, Local.loaded cur ch) ∧
      (ch = false → alookup e.cache i = some cur) := by
  have hn := h.above cur.revision (Nat.le_refl _)
  cases hc : alookup e.cache i with
  | some c =>
    have hr := h.cache i c hc
    have := catchUp_reaches hr hn e.kv.fuel (fuel_enough hr)
    refine ⟨decide (c.revision < cur.revision), by simp [phLoad, hc, phCatchUp, this], ?_⟩
    intro hch
    have heq : c.revision = cur.revision :=
      Nat.le_antisymm (reaches_rev_le hr) (Nat.le_of_not_lt (of_decide_eq_false hch))
    rw [reaches_stuck hr (by rw [heq]; exact hn)]
  | none =>
    obtain ⟨s, hs, hr⟩ := h.snap
    have := catchUp_reaches hr hn e.kv.fuel (fuel_enough hr)
    exact ⟨true, by simp [phLoad, hc, hs, phCatchUp, this], by intro h; cases h⟩

theorem absent_empty : Absent ({} : Ent T) := ⟨rfl, fun _ => rfl, fun _ => rfl⟩

theorem load_absent {e : Ent T} (h : Absent e) (i : Nat) :
    phLoad i (e, Local.start) = (e, Local.done .unknown) := by
  simp [phLoad, h.2.2 i, h.1]

theorem execOpt_absent {e : Ent T} (h : Absent e) (i : Nat) (cmd : Option T.Cmd) (snap wfail : Bool) :
    execOpt e i cmd snap wfail = (e, .unknown) := by
  rw [execOpt_eq, load_absent h i]; rfl

theorem WInv.setCache {e : Ent T} {cur : WVer T} (h : WInv e cur) (i : Nat) :
    WInv { e with cache := ainsert e.cache i cur } cur :=
  { h with
    cache := fun j c hj => (alookup_ainsert_some hj).elim (· ▸ Reaches.refl _) (h.cache j c) }

theorem WInv.clearCache {e : Ent T} {cur : WVer T} (h : WInv e cur) : WInv { e with cache := [] } cur :=
  { h with cache := by intro i c hc; simp at hc }

/-- A snapshot of the current value, taken while every store object that caches the entity is
current: the change sets can go. -/
theorem WInv.setSnap {e : Ent T} {cur : WVer T} (h : WInv e cur)
    (hs : ∀ j c, alookup e.cache j = some c → e.kv.getWal c.revision = none) :
    WInv { e with kv := { wals := [], snapshot := some cur, emptyDir := false } } cur :=
  ⟨⟨cur, rfl, Reaches.refl _⟩, fun _ _ => rfl,
    fun j c hj => reaches_stuck (h.cache j c hj) (hs j c hj) ▸ Reaches.refl _⟩

/-- The closing phases (cache, snapshot, finish) of a call that got as far as `processed` with
the current value.  A snapshot needs the other store objects to be current, and the calling one
too unless it is about to cache the current value. -/
theorem closing_spec {e : Ent T} {cur : WVer T} (h : WInv e cur) (i : Nat) (snap wfail ch : Bool)
    (hs : snap = true → wfail = false →
      othersCurrent e i ∧ (ch = false → alookup e.cache i = some cur)) :
    ∃ e', phFinish (phSnapshot snap wfail (phCache i (e, .processed cur ch))) =
        (e', .done (if snap && wfail then .kvErr else .ok cur)) ∧ WInv e' cur := by
  -- after `phCache` store object `i` holds `cur` if a snapshot is to be taken, the others hold what they held
  obtain ⟨e1, h1, hI1, hk1, hi, ho⟩ : ∃ e1, phCache i (e, .processed cur ch) = (e1, .processed cur ch) ∧
      WInv e1 cur ∧ e1.kv = e.kv ∧ (snap = true → wfail = false → alookup e1.cache i = some cur) ∧
      ∀ j, j ≠ i → alookup e1.cache j = alookup e.cache j := by
    cases ch
    · exact ⟨e, rfl, h, rfl, fun h1 h2 => (hs h1 h2).2 rfl, fun _ _ => rfl⟩
    · exact ⟨_, rfl, h.setCache i, rfl, fun _ _ => by rw [alookup_ainsert, if_pos rfl],
        fun j hj => by rw [alookup_ainsert, if_neg hj]⟩
  rw [h1]
  cases snap
  · exact ⟨e1, rfl, hI1⟩
  · cases wfail
    · refine ⟨_, rfl, hI1.setSnap fun j c hj => ?_⟩
      rw [hk1]
      by_cases hji : j = i
      · rw [hji, hi rfl rfl] at hj
        cases hj
        exact h.above cur.revision (Nat.le_refl _)
      · exact (hs rfl rfl).1 j c hji (ho j hji ▸ hj)
    · exact ⟨e1, rfl, hI1⟩

/-- `get_latest`: a read through store object `i` returns the current value and keeps the invariant. -/
theorem execOpt_get {e : Ent T} {cur : WVer T} (h : WInv e cur) (i : Nat) :
    (execOpt e i none false false).2 = .ok cur ∧ WInv (execOpt e i none false false).1 cur := by
  obtain ⟨ch, hlc, _⟩ := load_catchUp h i
  obtain ⟨e', he', hI⟩ := closing_spec h i false false ch (fun h => nomatch h)
  rw [execOpt_eq, hlc]
  simp only [phProcess, he']
  exact ⟨rfl, hI⟩

/-- `update_snapshot` when the other store objects are current. -/
theorem execOpt_snap {e : Ent T} {cur : WVer T} (h : WInv e cur) (i : Nat) (wfail : Bool)
    (hs : othersCurrent e i) :
    WInv (execOpt e i none true wfail).1 cur := by
  obtain ⟨ch, hlc, hch⟩ := load_catchUp h i
  obtain ⟨e', he', hI⟩ := closing_spec h i true wfail ch fun _ _ => ⟨hs, hch⟩
  rw [execOpt_eq, hlc]
  simp only [phProcess, he']
  exact hI

/-- Storing the next change set moves the current value on. -/
theorem WInv.append {e : Ent T} {cur cur' : WVer T} (h : WInv e cur) {s : WSet T}
    (ha : applySet cur s = some cur') :
    WInv { e with kv := { e.kv with wals := ainsert e.kv.wals cur.revision s } } cur' := by
  have hrev := applySet_revision ha
  have hext : ∀ v, Reaches e.kv v cur →
      Reaches ({ e.kv with wals := ainsert e.kv.wals cur.revision s } : Scope T) v cur' := fun v hv =>
    reaches_trans
      (reaches_congr hv fun k hk => by rw [getWal_insert, if_neg (Nat.ne_of_lt hk)])
      (Reaches.step (by rw [getWal_insert, if_pos rfl]) ha (Reaches.refl _))
  refine ⟨h.snap.imp fun s hs => ⟨hs.1, hext s hs.2⟩, fun k hk => ?_, fun j c hj => hext c (h.cache j c hj)⟩
  rw [getWal_insert, if_neg (by omega)]
  exact h.above k (by omega)

/-- A command: the current value moves on by one change set, or nothing happens. -/
theorem execOpt_cmd {e : Ent T} {cur : WVer T} (h : WInv e cur) (i : Nat) (c : T.Cmd) (wfail : Bool) :
    ∃ cur', WInv (execOpt e i (some c) false wfail).1 cur' := by
  obtain ⟨ch, hlc, _⟩ := load_catchUp h i
  have hn := h.above cur.revision (Nat.le_refl _)
  rw [execOpt_eq, hlc]
  cases hp : T.process cur.st c with
  | error err => simp only [phProcess, hp]; exact ⟨cur, h⟩
  | ok xs =>
    cases xs with
    | nil =>
      obtain ⟨e', he', hI⟩ := closing_spec h i false wfail ch (fun h => nomatch h)
      simp only [phProcess, hp, he']
      exact ⟨cur, hI⟩
    | cons x xs =>
      simp only [phProcess, hp, hn, Option.isSome_none, Bool.false_eq_true, if_false]
      cases ha : applySet cur ⟨cur.revision, x :: xs⟩ with
      | none => exact ⟨cur, h⟩
      | some cur' =>
        cases wfail
        · obtain ⟨e', he', hI⟩ := closing_spec (h.append ha) i false false true (fun h => nomatch h)
          simp only [Bool.false_eq_true, if_false, he']
          exact ⟨cur', hI⟩
        · exact ⟨cur, h⟩

theorem WInv.restart {e : Ent T} {cur : WVer T} (h : WInv e cur) (i : Nat) : WInv (restart e i) cur :=
  { h with cache := fun j c hj => h.cache j c (alookup_aerase_some hj).2 }

theorem Absent.restart {e : Ent T} (h : Absent e) (i : Nat) : Absent (restart e i) := by
  refine ⟨h.1, h.2.1, fun j => ?_⟩
  show alookup (aerase e.cache i) j = none
  rw [alookup_aerase, h.2.2 j, ite_self]

/-- Either the entity does not exist, or the invariant holds for some current value. -/
def WState (e : Ent T) : Prop := Absent e ∨ ∃ cur, WInv e cur

theorem step_preserves {e : Ent T} (h : WState e) (op : Op T)
    (hsafe : match op with
      | .snap i _ => othersCurrent e i
      | .add _ _ _ _ => Absent e
      | _ => True) : WState (step e op).1 := by
  cases op with
  | add i inst wf disk =>
    simp only [step, add]
    cases wf
    · simp only [Bool.false_eq_true, if_false]
      right
      refine ⟨inst, ⟨inst, rfl, Reaches.refl _⟩, ?_, ?_⟩
      · intro k _; exact hsafe.2.1 k
      · intro j c hj
        rcases alookup_ainsert_some hj with rfl | hj
        · exact Reaches.refl _
        · rw [hsafe.2.2 j] at hj; cases hj
    · simp only [if_true]
      exact Or.inl hsafe
  | cmd i c wf =>
    simp only [step, sendCommand]
    rcases h with ha | ⟨cur, hc⟩
    · rw [execOpt_absent ha]; exact Or.inl ha
    · exact Or.inr (execOpt_cmd hc i c wf)
  | get i =>
    simp only [step, getLatest]
    rcases h with ha | ⟨cur, hc⟩
    · rw [execOpt_absent ha]; exact Or.inl ha
    · exact Or.inr ⟨cur, (execOpt_get hc i).2⟩
  | snap i wf =>
    simp only [step, updateSnapshot]
    rcases h with ha | ⟨cur, hc⟩
    · rw [execOpt_absent ha]; exact Or.inl ha
    · exact Or.inr ⟨cur, execOpt_snap hc i wf hsafe⟩
  | restart i =>
    simp only [step]
    rcases h with ha | ⟨cur, hc⟩
    · exact Or.inl (ha.restart i)
    · exact Or.inr ⟨cur, hc.restart i⟩

theorem run_preserves {e : Ent T} (h : WState e) (ops : List (Op T)) (hs : SafeRun e ops) :
    WState (run e ops) := by
  induction ops generalizing e with
  | nil => exact h
  | cons op rest ih =>
    simp only [run, List.foldl_cons]
    exact ih (step_preserves h op hs.1) hs.2

theorem snapshot_safe_iff {e : Ent T} {cur : WVer T} (h : WInv e cur) (i : Nat) :
    (∀ j, (getLatest (updateSnapshot e i).1 j).2 = .ok cur) ↔ othersCurrent e i := by
  constructor
  · intro hall j c hj hc
    -- suppose `j`'s cache `c` still had a change set to apply
    cases hg : e.kv.getWal c.revision with
    | none => rfl
    | some s =>
      exfalso
      have hlt : c.revision < cur.revision := by
        rcases Nat.lt_or_ge c.revision cur.revision with h1 | h1
        · exact h1
        · rw [h.above c.revision h1] at hg; cases hg
      -- after the snapshot `j` still holds `c`, and there is nothing left to apply to it
      obtain ⟨ch, hlc, _⟩ := load_catchUp h i
      have hj' : alookup (updateSnapshot e i).1.cache j = some c ∧
          (updateSnapshot e i).1.kv.wals = [] := by
        simp only [updateSnapshot]
        rw [execOpt_eq, hlc]
        cases ch <;>
          simp [phProcess, phCache, phSnapshot, phFinish, alookup_ainsert, hj, hc]
      have hres := hall j
      simp only [getLatest] at hres
      rw [execOpt_eq] at hres
      have hcu : catchUp (updateSnapshot e i).1.kv (updateSnapshot e i).1.kv.fuel c = some (c, false) := by
        unfold Scope.fuel
        simp [catchUp, Scope.getWal, hj'.2]
      simp [phLoad, hj'.1, phCatchUp, hcu, phProcess, phCache, phSnapshot, phFinish, Local.out] at hres
      rw [hres] at hlt
      omega
  · intro hs j
    exact (execOpt_get (execOpt_snap h i false hs) j).1

theorem absent_of_B {e : Ent T} (h : absentB e = true) : Absent e := by
  unfold absentB at h
  simp only [Bool.and_eq_true] at h
  obtain ⟨⟨h1, h2⟩, h3⟩ := h
  refine ⟨by simpa using h1, ?_, ?_⟩
  · intro k
    have : e.kv.wals = [] := by simpa using h2
    simp [Scope.getWal, this]
  · intro i
    have : e.cache = [] := by simpa using h3
    simp [this]

theorem othersCurrent_of_B {e : Ent T} {i : Nat} (h : othersCurrentB e i = true) :
    othersCurrent e i := by
  unfold othersCurrentB at h
  intro j c hj hc
  have := List.all_eq_true.mp h (j, c) (alookup_mem hc)
  simp only [Bool.or_eq_true, beq_iff_eq] at this
  rcases this with h1 | h1
  · exact absurd h1 hj
  · simpa using h1

theorem safeRun_of_B {e : Ent T} {ops : List (Op T)} (h : safeRunB e ops = true) :
    SafeRun e ops := by
  induction ops generalizing e with
  | nil => trivial
  | cons o rest ih =>
    simp only [safeRunB, Bool.and_eq_true] at h
    refine ⟨?_, ih h.2⟩
    cases o with
    | add i inst wf disk => exact absent_of_B h.1
    | cmd i c wf => trivial
    | get i => trivial
    | snap i wf => exact othersCurrent_of_B h.1
    | restart i => trivial

end KM.ES.Wal
