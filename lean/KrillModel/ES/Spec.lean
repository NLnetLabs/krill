/-
Specification-level notions for the aggregate store, with which the property theorems in `Props/C06.lean` /
`Props/C07.lean` are stated: the stored log as a plain list and its replay as a pure function; the invariant `Inv` tying
an entity to its log; what each operation does to the log (`specCommand`, `specStep`; `specStepH` with `drop_aggregate`);
the log a history query sees while other calls slip in between its reads (`logAt`, `readAt`); the states a store can
hold, without and with the listener's veto (`Reachable`, `ReachableV`), and over each the hypothesis that `process` only
emits applicable events.
-/
import KrillModel.ES.AggStore
namespace KM.ES

variable {A : Agg}

/-- The audit log of one entity: `L[k]` is the content of `command-k.json`. -/
abbrev Log (A : Agg) := List (Stored A)

/-- The aggregate right after `A::init` of the init command's event. -/
def baseOf (L : Log A) : Option (Ver A) :=
  match L with
  | [] => none
  | c0 :: _ =>
    match c0.effect with
    | .init ev => some ⟨A.initVersion, A.init ev⟩
    | _ => none

/-- Apply the `j` stored commands following the base version, in order.  `none` = some
`apply` panicked on the way. -/
def replayN (L : Log A) (b : Ver A) : Nat → Option (Ver A)
  | 0 => some b
  | j + 1 =>
    match replayN L b j with
    | none => none
    | some v =>
      match L[A.initVersion + j]? with
      | none => none
      | some c => applyStored v c

/-- The state obtained by replaying the whole log from scratch. -/
def finalOf (L : Log A) : Option (Ver A) :=
  match baseOf L with
  | none => none
  | some b => replayN L b (L.length - A.initVersion)

/-- `v` is the state after replaying some prefix of the log (at least up to the init
command, at most everything). -/
def PrefixState (L : Log A) (v : Ver A) : Prop :=
  ∃ b j, baseOf L = some b ∧ A.initVersion + j ≤ L.length ∧ replayN L b j = some v

def Effect.isInit : Effect A → Bool
  | .init _ => true
  | _ => false

/-- The history records the history API must show for log `L`, up to index `m`. -/
def recordsUpTo (L : Log A) (m : Nat) : List (Record A) := ((L.take m).drop 1).map Stored.toRecord

/-- The invariant: entity `e` stores exactly the log `L`, the replay of `L` is defined, and
the snapshot and every cache entry are prefix states of `L`. -/
structure Inv (e : Ent A) (L : Log A) : Prop where
  cmds : ∀ k, e.kv.getCmd k = L[k]?
  head : ∀ c : Stored A, L[0]? = some c → c.effect.isInit = true
  tail : ∀ (k : Nat) (c : Stored A), 0 < k → L[k]? = some c → c.effect.isInit = false
  vers : ∀ (k : Nat) (c : Stored A), L[k]? = some c → c.version = k
  total : L ≠ [] → ∃ w, finalOf L = some w
  snap : ∀ v, e.kv.snapshot = some v → PrefixState L v
  cache : ∀ i v, alookup e.cache i = some v → PrefixState L v
  hcache : ∀ i recs, alookup e.hcache i = some recs → ∃ m, m ≤ L.length ∧ recs = recordsUpTo L m

/-- What a command does, as a function of the log alone (`w` = the replayed state). -/
def specCommand (L : Log A) (w : Ver A) (c : Sent A) : Log A × Out A :=
  match A.process w.st c.details with
  | .error e => (L ++ [⟨c.actor, L.length, some c.details, .error e⟩], .err e)
  | .ok [] => (L, .ok w)
  | .ok (ev :: evs) =>
    match applyEvents A w.st (ev :: evs) with
    | none => (L, .panic)
    | some s' =>
      match A.preSave s' (ev :: evs) with
      | some e => (L, .err e)
      | none =>
        (L ++ [⟨c.actor, L.length, some c.details, .success (ev :: evs)⟩], .ok ⟨w.version + 1, s'⟩)

/-- Specification of one operation on the log: new log and (for calls that return an
aggregate) the result.  Failed writes (`wfail`) change nothing. -/
def specStep (L : Log A) : Op A → Log A × Option (Out A)
  | .add _ actor ic wfail =>
    if L ≠ [] then (L, some .duplicate)
    else match A.processInit ic with
      | .error e => (L, some (.err e))
      | .ok ev =>
        if wfail then (L, some .kvErr)
        else ([⟨actor, 0, none, .init ev⟩], some (.ok ⟨A.initVersion, A.init ev⟩))
  | .cmd _ c wfail =>
    match finalOf L with
    | none => (L, some .unknown)
    | some w =>
      let r := specCommand L w c
      if wfail && r.1.length != L.length then (L, some .kvErr) else (r.1, some r.2)
  | .get _ =>
    match finalOf L with
    | none => (L, some .unknown)
    | some w => (L, some (.ok w))
  | .snap _ wfail =>
    match finalOf L with
    | none => (L, some .unknown)
    | some w => (L, some (if wfail then .kvErr else .ok w))
  | .restart _ => (L, none)
  | .hist _ _ => (L, none)

def specRun (L : Log A) (ops : List (Op A)) : Log A := ops.foldl (fun l o => (specStep l o).1) L

/-- Histories that also delete the entity: `drop_aggregate` empties the log. -/
def specStepH (L : Log A) : HOp A → Log A
  | .op o => (specStep L o).1
  | .drop _ => []

def specRunH (L : Log A) (ops : List (HOp A)) : Log A := ops.foldl specStepH L

/-! ### a history query running concurrently with other calls

`update_history_records` reads `command-1`, `command-2`, … one key-value call (one acquisition of
the scope lock) at a time and stops at the first key that is missing; commands of other threads
can slip in between two reads.  `logAt L between k` is the log the `k`-th read (`k = 0, 1, …`)
sees: `between k` are the operations serialised between read `k` and read `k+1`. -/

def logAt (L : Log A) (between : Nat → List (Op A)) : Nat → Log A
  | 0 => L
  | k + 1 => specRun (logAt L between k) (between k)

/-- Read number `k` looks at `command-(k+1).json`. -/
def readAt (L : Log A) (between : Nat → List (Op A)) (k : Nat) : Option (Stored A) :=
  (logAt L between k)[k + 1]?

/-- The closure of the initial states under accepted commands. -/
inductive Reachable (A : Agg) : A.State → Prop where
  | init (ic : A.InitCmd) (ev : A.InitEv) : A.processInit ic = .ok ev → Reachable A (A.init ev)
  | step (s s' : A.State) (c : A.Cmd) (evs : List A.Ev) :
      Reachable A s → A.process s c = .ok evs → applyEvents A s evs = some s' → Reachable A s'

/-- "`process` only emits applicable events", in the states that can occur. -/
def ProcessApplicable (A : Agg) : Prop :=
  ∀ s c evs, Reachable A s → A.process s c = .ok evs → (applyEvents A s evs).isSome = true

/-! ### veto-aware reachability

`Reachable` over-approximates what the store can hold: `execute_opt_command` calls the pre-save
listener on the *updated* aggregate (store.rs:458) and, when the listener returns an error, neither
stores the command nor keeps the updated aggregate (`phDecide`, branch `A.preSave … = some e`).
The listener is the component `A.preSave` of the aggregate – a function of the updated state and the
events, not an input of the operation –, so a vetoed command is an ordinary `Op.cmd` whose outcome is
`Out.err`.  `ReachableV` is the closure of the initial
states under the commands that are accepted by `process`, applied by `apply` **and** let through by
the listener. -/

inductive ReachableV (A : Agg) : A.State → Prop where
  | init (ic : A.InitCmd) (ev : A.InitEv) : A.processInit ic = .ok ev → ReachableV A (A.init ev)
  | step (s s' : A.State) (c : A.Cmd) (evs : List A.Ev) :
      ReachableV A s → A.process s c = .ok evs → applyEvents A s evs = some s' →
      A.preSave s' evs = none → ReachableV A s'

/-- "`process` only emits applicable events" in the states the store can really hold. -/
def ProcessApplicableV (A : Agg) : Prop :=
  ∀ s c evs, ReachableV A s → A.process s c = .ok evs → (applyEvents A s evs).isSome = true

/-- Every state reachable with the veto is reachable without it. -/
theorem ReachableV.reachable {s : A.State} (h : ReachableV A s) : Reachable A s := by
  induction h with
  | init ic ev hp => exact Reachable.init ic ev hp
  | step s s' c evs _ hp ha _ ih => exact Reachable.step s s' c evs ih hp ha

/-- The veto-aware hypothesis is the weaker one. -/
theorem ProcessApplicable.toV (h : ProcessApplicable A) : ProcessApplicableV A :=
  fun s c evs hr hp => h s c evs hr.reachable hp

/-- Without a listener the two notions coincide. -/
theorem reachableV_of_no_listener (hno : ∀ s evs, A.preSave s evs = none) {s : A.State}
    (h : Reachable A s) : ReachableV A s := by
  induction h with
  | init ic ev hp => exact ReachableV.init ic ev hp
  | step s s' c evs _ hp ha ih => exact ReachableV.step s s' c evs ih hp ha (hno s' evs)

theorem applyEvents_total (htot : ∀ s e, (A.apply s e).isSome = true) (s : A.State)
    (evs : List A.Ev) : (applyEvents A s evs).isSome = true := by
  induction evs generalizing s with
  | nil => rfl
  | cons e es ih =>
    have h := htot s e
    cases ha : A.apply s e with
    | none => rw [ha] at h; cases h
    | some s' => simp only [applyEvents, ha]; exact ih s'

/-- An aggregate whose `apply` has no panic arm meets the stronger hypothesis, hence both. -/
theorem processApplicable_of_total (htot : ∀ s e, (A.apply s e).isSome = true) :
    ProcessApplicable A := fun s _ evs _ _ => applyEvents_total htot s evs

end KM.ES
