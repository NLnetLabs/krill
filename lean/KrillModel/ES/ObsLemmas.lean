/-
The observations of `ES/Obs.lean` in terms of the audit log: scanning the keys of an entity that stores the log `L`
yields `L` rendered position by position, `L.mapIdx (oCmd R)` (`filterMap_range_eq_mapIdx`, `oView_cmds`), so the observed
records, keys and well-formedness follow from `Inv`, and appending a record appends its rendering
(`appendedOne_of_append`).
-/
import KrillModel.ES.Lemmas
namespace KM.ES.Obs
open KM.ES

/-- Scanning the keys `0 … B-1` of a store that holds exactly the list `L`. -/
theorem filterMap_range_eq_mapIdx {α β : Type} (L : List α) (g : Nat → α → β) (B : Nat)
    (hB : L.length ≤ B) : (List.range B).filterMap (fun k => (L[k]?).map (g k)) = L.mapIdx g := by
  induction L generalizing g B with
  | nil => exact List.filterMap_eq_nil_iff.mpr fun _ _ => rfl
  | cons a L ih =>
    obtain ⟨B, rfl⟩ : ∃ B', B = B' + 1 :=
      ⟨B - 1, (Nat.sub_add_cancel (Nat.le_trans (Nat.le_add_left 1 _) hB)).symm⟩
    rw [List.range_succ_eq_map, List.filterMap_cons, List.filterMap_map, List.mapIdx_cons]
    exact congrArg _ (ih (fun i => g (i + 1)) B (Nat.le_of_succ_le_succ hB))

/-- Mapping over a rendering that forgets the position. -/
theorem map_mapIdx_of_eq {α β γ : Type} {g : Nat → α → β} {f : β → γ} {f' : α → γ}
    (hf : ∀ i c, f (g i c) = f' c) (l : List α) : (l.mapIdx g).map f = l.map f' := by
  apply List.ext_getElem?
  intro i
  rw [List.getElem?_map, List.getElem?_mapIdx, List.getElem?_map]
  cases l[i]? <;> simp [hf]

/-- A rendering that looks at the position only. -/
theorem mapIdx_eq_map_range {α β : Type} (f : Nat → β) (l : List α) :
    l.mapIdx (fun i _ => f i) = (List.range l.length).map f := by
  apply List.ext_getElem?
  intro i
  rw [List.getElem?_mapIdx, List.getElem?_map]
  by_cases hi : i < l.length
  · rw [List.getElem?_eq_getElem hi, List.getElem?_eq_getElem (by rwa [List.length_range]),
      List.getElem_range]
    rfl
  · rw [List.getElem?_eq_none (Nat.le_of_not_lt hi),
      List.getElem?_eq_none (by rw [List.length_range]; exact Nat.le_of_not_lt hi)]
    rfl

variable {A : Agg}

theorem oView_cmds {e : Ent A} {L : Log A} (h : Inv e L) (R : Render A) :
    (oView R e.kv).cmds = L.mapIdx (oCmd R) := by
  unfold oView oCmds
  simp only [h.cmds]
  exact filterMap_range_eq_mapIdx L (oCmd R) _ (length_le_keyBound h)

theorem oKeys_eq {e : Ent A} {L : Log A} (h : Inv e L) :
    oKeys e.kv = expectedKeys L.length e.kv.snapshot.isSome := by
  unfold oKeys expectedKeys
  congr 1
  have hf : ∀ k, (if e.kv.hasCmd k then some (cmdKeyName k) else none) =
      (L[k]?).map (fun _ => cmdKeyName k) := by
    intro k; simp only [Scope.hasCmd, h.cmds k]; cases L[k]? <;> rfl
  simp only [hf]
  rw [filterMap_range_eq_mapIdx L (fun k _ => cmdKeyName k) _ (length_le_keyBound h), mapIdx_eq_map_range]

/-- Records whose rendering carries its position as key and version, the first and only the first being the init
command, are well formed from that position on. -/
theorem wfFrom_mapIdx (l : List (Stored A)) (g : Nat → Stored A → OCmd) (k : Nat)
    (h : ∀ j c, l[j]? = some c → (g j c).key = k + j ∧ (g j c).version = k + j ∧
      (g j c).effect.isInit = (k + j == 0)) : wfFrom k (l.mapIdx g) = true := by
  induction l generalizing g k with
  | nil => rfl
  | cons c t ih =>
    obtain ⟨h1, h2, h3⟩ := h 0 c rfl
    rw [List.mapIdx_cons, wfFrom, h1, h2, h3, ih (fun i => g (i + 1)) (k + 1) fun j c' hc' => by
      rw [Nat.add_right_comm, Nat.add_assoc]; exact h (j + 1) c' hc']
    simp

theorem length_oView_cmds {e : Ent A} {L : Log A} (h : Inv e L) (R : Render A) :
    (oView R e.kv).cmds.length = L.length := by rw [oView_cmds h R, List.length_mapIdx]

/-- The history record of an observed command is the observed history record of the command. -/
theorem oRecOfCmd_oCmd (R : Render A) (k : Nat) (c : Stored A) :
    oRecOfCmd (oCmd R k c) = oRec R c.toRecord := by
  unfold oRecOfCmd oRec oCmd Stored.toRecord oResult
  cases c.effect <;> rfl

/-- Appending a record to the log appends its rendering to the view and changes nothing else. -/
theorem appendedOne_of_append {e e' : Ent A} {L : Log A} {sc : Stored A} (h : Inv e L)
    (h' : Inv e' (L ++ [sc])) (R : Render A) (hsnap : e'.kv.snapshot = e.kv.snapshot)
    (hver : sc.version = L.length) (isErr : Bool) (kind : String)
    (heff : match (oCmd R L.length sc).effect with
      | .err k => isErr = true ∧ k = kind
      | .ok _ => isErr = false
      | .init _ => False) :
    appendedOne (oView R e.kv) (oView R e'.kv) sc.actor isErr kind = true := by
  unfold appendedOne
  have hlen : (L.mapIdx (oCmd R)).length = L.length := List.length_mapIdx
  have hs : (oView R e'.kv).snap = (oView R e.kv).snap := by simp [oView, oSnap, hsnap]
  rw [oView_cmds h R, oView_cmds h' R, List.mapIdx_concat, hs, hlen, List.take_left' hlen,
    List.drop_left' hlen]
  have h2 : (oCmd R L.length sc).version = L.length := hver
  simp only [beq_self_eq_true, Bool.true_and, h2]
  cases hE : (oCmd R L.length sc).effect with
  | init s => rw [hE] at heff; exact heff.elim
  | ok s => rw [hE] at heff; simp [heff, oCmd]
  | err k => rw [hE] at heff; simp [heff.1, heff.2, oCmd]

end KM.ES.Obs
