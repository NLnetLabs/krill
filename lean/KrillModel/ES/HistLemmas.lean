/-
History queries that run concurrently with commands.  Operations only append to the log (`specStep_prefix`), so what
an earlier read of the query saw is what the log at its last read holds at that key (`history_read_spec`).
-/
import KrillModel.ES.ObsLemmas
namespace KM.ES
open KM.ES.Obs

theorem filterMap_congr {α β} {l : List α} {f g : α → Option β} (h : ∀ x ∈ l, f x = g x) :
    l.filterMap f = l.filterMap g := by
  induction l with
  | nil => rfl
  | cons a t ih =>
    rw [List.filterMap_cons, List.filterMap_cons, h a List.mem_cons_self,
      ih fun x hx => h x (List.mem_cons_of_mem _ hx)]

theorem prefix_getElem? {α} {l1 l2 : List α} (h : l1 <+: l2) {i : Nat} (hi : i < l1.length) :
    l2[i]? = l1[i]? := by
  obtain ⟨t, rfl⟩ := h
  exact List.getElem?_append_left hi

variable {A : Agg}

theorem specStep_prefix (L : Log A) (o : Op A) : L <+: (specStep L o).1 := by
  fun_cases specStep L o
  case case4 h _ _ _ => exact Classical.not_not.mp h ▸ List.nil_prefix  -- `add` creates the entity: the log was empty
  case case7 i c wf w hf r _ =>  -- `cmd` whose write, if any, succeeds: its record is appended, or nothing
    rcases specCommand_cases L w c with ⟨_, _, hs⟩ | ⟨_, _, _, _, _, _, hs⟩ | ⟨hs, _⟩
    · simp only [r, hs]; exact List.prefix_append _ _
    · simp only [r, hs]; exact List.prefix_append _ _
    · simp only [r, hs]; exact List.prefix_refl _
  all_goals exact List.prefix_refl _  -- every other arm leaves the log as it is

theorem specRun_prefix (L : Log A) (ops : List (Op A)) : L <+: specRun L ops :=
  List.foldlRecOn (motive := (L <+: ·)) ops _ (List.prefix_refl L) fun L' hL o _ =>
    hL.trans (specStep_prefix L' o)

theorem logAt_prefix (L : Log A) (between : Nat → List (Op A)) {k m : Nat} (h : k ≤ m) :
    logAt L between k <+: logAt L between m := by
  induction m with
  | zero => exact Nat.le_zero.mp h ▸ List.prefix_refl _
  | succ m ih =>
    by_cases hk : k = m + 1
    · subst hk; exact List.prefix_refl _
    · exact List.IsPrefix.trans (ih (Nat.le_of_lt_succ (Nat.lt_of_le_of_ne h hk))) (specRun_prefix _ _)

/-- The records a concurrent history query collects are exactly the history of the log as it is
at the query's last read. -/
theorem history_read_spec (L : Log A) (between : Nat → List (Op A)) (m : Nat)
    (hsome : ∀ k, k < m → (readAt L between k).isSome = true)
    (hnone : readAt L between m = none) :
    (List.range m).filterMap (fun k => (readAt L between k).map Stored.toRecord) =
      recordsUpTo (logAt L between m) (logAt L between m).length := by
  have hlen : (logAt L between m).length ≤ m + 1 := List.getElem?_eq_none_iff.mp hnone
  -- every earlier read saw what the final log holds at that key
  have hsame : ∀ k ∈ List.range m, (readAt L between k).map Stored.toRecord =
      (((logAt L between m).drop 1)[k]?).map Stored.toRecord := by
    intro k hk
    have hk := List.mem_range.mp hk
    obtain ⟨_, hs⟩ := Option.isSome_iff_exists.mp (hsome k hk)
    have hlt : k + 1 < (logAt L between k).length := (List.getElem?_eq_some_iff.mp hs).1
    rw [readAt, List.getElem?_drop, Nat.add_comm 1,
      prefix_getElem? (logAt_prefix L between (Nat.le_of_lt hk)) hlt]
  rw [filterMap_congr hsame, filterMap_range_eq_mapIdx _ (fun _ c => Stored.toRecord c) m
    (by rw [List.length_drop]; exact Nat.sub_le_of_le_add hlen), recordsUpTo, List.take_length]
  exact List.mapIdx_eq_iff.mpr fun i => by rw [List.getElem?_map]

end KM.ES
