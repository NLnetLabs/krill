/-
The generic aggregate store (`ES/AggStore.lean`) instantiated with the models of three of krill's
aggregates, and the hypothesis `ProcessApplicableV` of `no_panic_of_applicable_veto` discharged for
each of them (`…_applicable`); the property statements are in `Props/C06.lean`.

* `caAgg`      – `CertAuth` (`Ca/CertAuth.lean`, `src/server/ca/certauth.rs`) with its pre-save
                 listener `CaObjectsStore` (`Ca/ObjKeys.lean`, `src/server/ca/publishing.rs`);
                 applicable by C04's `process_emits_applicable`, through the simulation
                 `caAgg_sim` (store-reachable ⇒ `CaK.Reachable`).
* `taProxyAgg` – `TrustAnchorProxy` (`Ta/Proxy.lean`, `src/server/taproxy.rs`); the three
                 `unwrap()`s of its `apply` made explicit (`applyP`); applicable in *every* state.
* `taSignerAgg`– `TrustAnchorSigner` (`Ta/Signer.lean`, `src/tasigner/signer.rs`); `apply` total.

No instance for `RepositoryAccess` (`src/server/pubd/access.rs`; under `Pubd/` the publisher list is a field
of `Pubd.Server`, changed by big-step functions): its `apply` has no panic arm, the case of the generic
`processApplicable_of_total` (`ES/Spec.lean`).

Failures outside the aggregates (the task queue's part of `pre_save_events`, `Rfc8183Id::generate`,
`create_self_signed_id_cert`) are a parameter `env` of `caAgg` and `taProxyAgg` (the signer has no
listener), and their theorems are for all `env`.  Limit of the generic model: the listener is a
*function* of the updated state and the events (`Agg.preSave`), so the same command in the same state
is vetoed either always or never.
-/
import KrillModel.ES.Lemmas
import KrillModel.Props.C04
import KrillModel.Ta.Signer
import KrillModel.Ta.Lemmas
namespace KM.ES.Inst
open KM.ES

section CertAuth
open KM.CaK

/-- The state of the `CertAuth` instance.

**Why not `State := Ca`.**  The pre-save listener of a CA (`CaObjectsStore`) is stateful: whether
it accepts a batch of events depends on the object sets it holds, which are not a field of
`CertAuth`.  `Agg.preSave` is a function of the *updated* aggregate and the events, so the
listener's state has to travel with the aggregate state.  **Why not `State := Sys` either.**  The
store applies the events first and asks the listener afterwards, and a refusal must end in
`Out.err` (nothing stored), not in `Out.panic`; `apply` therefore must not fail where the listener
does.  `objs` is the listener's *answer* to everything applied so far: the new object sets, or the
error with which it refused.  `preSave` reads that answer.  A refused batch is not stored and the
updated state is thrown away (`phDecide`), so every state the store holds has `objs = .ok _`
(`caAgg_sim`), i.e. is a `CaK.Sys`.

`objs` is a history variable: in krill the object sets live in their own key-value scope and are not
rebuilt by a replay; what the API shows of the CA is the `ca` component.  (That the listener writes
its scope *before* the command is written – a failed command write leaves the two out of step – is
about crash consistency, C08, not about this model, in which `wfail` undoes both.) -/
structure CaSt where
  ca : Ca := {}
  objs : Except ObjErr Objs := .ok []

inductive CaErr where
  /-- `process_command` returned an error -/
  | refused (e : Err)
  /-- `cert_auth_pre_save_events` of the object store returned an error -/
  | listener (e : ObjErr)
  /-- a failure outside the aggregate: `Rfc8183Id::generate` in `process_init_command`, the task
  queue's part of `pre_save_events` -/
  | env (n : Nat)

/-- The listener's answer after one more event. -/
def objsStep (r : Except ObjErr Objs) (e : Ev) : Except ObjErr Objs :=
  match r with
  | .ok o => o.step e
  | .error x => .error x

/-- `CertAuth::apply`, the listener's answer carried along.  `none` only where `Ca.apply` is. -/
def CaSt.apply (s : CaSt) (e : Ev) : Option CaSt :=
  match s.ca.apply e with
  | none => none
  | some ca' => some ⟨ca', objsStep s.objs e⟩

def CaSt.process (s : CaSt) (c : Cmd) : Except CaErr (List Ev) :=
  match s.ca.process c with
  | .ok evs => .ok evs
  | .error e => .error (.refused e)

/-- `CertAuth::pre_save_events` (certauth.rs:676-720): the object store first, then the task
queue (`env`). -/
def CaSt.preSave (env : CaSt → List Ev → Option Nat) (s : CaSt) (evs : List Ev) : Option CaErr :=
  match s.objs with
  | .error e => some (.listener e)
  | .ok _ => (env s evs).map .env

/-- `CertAuth` as an instance of the generic store model.  `CertAuthInitCommand` carries nothing
the model has (`InitCmd`: does `Rfc8183Id::generate` succeed, and if not with which error);
`CertAuthInitEvent { id }` likewise (`InitEv := Unit`); `init` gives version 1 and the empty CA. -/
@[reducible] def caAgg (env : CaSt → List Ev → Option Nat) : Agg where
  State := CaSt
  Cmd := Cmd
  Ev := Ev
  InitCmd := Option Nat
  InitEv := Unit
  Err := CaErr
  initVersion := 1
  init := fun _ => {}
  processInit := fun ic => match ic with
    | none => .ok ()
    | some n => .error (.env n)
  process := CaSt.process
  apply := CaSt.apply
  preSave := CaSt.preSave env

/-- No failure outside the aggregate and its object store. -/
def noEnv : CaSt → List Ev → Option Nat := fun _ _ => none

theorem foldl_objsStep_error (x : ObjErr) (evs : List Ev) :
    evs.foldl objsStep (.error x) = .error x := by
  induction evs with
  | nil => rfl
  | cons e es ih => simp only [List.foldl_cons, objsStep]; exact ih

theorem foldl_objsStep_ok (o : Objs) (evs : List Ev) :
    evs.foldl objsStep (.ok o) = o.stepAll evs := by
  induction evs generalizing o with
  | nil => rfl
  | cons e es ih =>
    simp only [List.foldl_cons, objsStep, Objs.stepAll]
    cases o.step e with
    | ok o' => exact ih o'
    | error x => exact foldl_objsStep_error x es

/-- Applying a batch in the instance = `Ca.applyAll` on the aggregate, the listener's answers
folded along. -/
theorem applyEvents_caAgg (env : CaSt → List Ev → Option Nat) (ca : Ca) (r : Except ObjErr Objs)
    (evs : List Ev) :
    applyEvents (caAgg env) (⟨ca, r⟩ : CaSt) evs =
      (ca.applyAll evs).map fun ca' => (⟨ca', evs.foldl objsStep r⟩ : CaSt) := by
  induction evs generalizing ca r with
  | nil => rfl
  | cons e es ih =>
    simp only [applyEvents, CaSt.apply, Ca.applyAll, List.foldl_cons]
    cases ca.apply e with
    | none => rfl
    | some ca' => exact ih ca' (objsStep r e)

theorem CaSt.process_ok {s : CaSt} {c : Cmd} {evs : List Ev} (h : s.process c = .ok evs) :
    s.ca.process c = .ok evs := by
  unfold CaSt.process at h
  split at h
  · cases h; assumption
  · cases h

/-- **The simulation.**  Every state the store can hold (veto-aware reachability in the generic
model) has a listener that accepted everything so far, and is a reachable state of the CA model
(`CaK.Reachable`: histories of `Sys.next`, in which a command the listener refuses is not stored). -/
theorem caAgg_sim {env : CaSt → List Ev → Option Nat} {s : (caAgg env).State}
    (h : ReachableV (caAgg env) s) :
    ∃ o, CaSt.objs s = .ok o ∧ CaK.Reachable ⟨CaSt.ca s, o⟩ := by
  induction h with
  | init ic ev _ => exact ⟨[], rfl, CaK.Reachable.init⟩
  | step s s' c evs _ hp ha hps ih =>
    obtain ⟨o, ho, hr⟩ := ih
    obtain ⟨ca, r⟩ := s
    simp only at ho hr
    subst ho
    -- `process`
    have hp' : ca.process c = .ok evs := CaSt.process_ok (s := ⟨ca, .ok o⟩) hp
    -- `apply`
    rw [applyEvents_caAgg, foldl_objsStep_ok] at ha
    cases happ : ca.applyAll evs with
    | none => rw [happ] at ha; cases ha
    | some ca' =>
      rw [happ] at ha
      simp only [Option.map_some, Option.some.injEq] at ha
      subst ha
      -- the listener
      have hps' : CaSt.preSave env ⟨ca', o.stepAll evs⟩ evs = none := hps
      simp only [CaSt.preSave] at hps'
      cases hst : o.stepAll evs with
      | error e => rw [hst] at hps'; cases hps'
      | ok o' =>
        have hn : Sys.next ⟨ca, o⟩ c = ⟨ca', o'⟩ := by simp only [Sys.next, Sys.exec, hp', happ, hst]
        exact ⟨o', rfl, hn ▸ CaK.Reachable.step c hr⟩

/-- **`CertAuth` meets the hypothesis of `no_panic_of_applicable_veto`**: in every state its store
can hold, the events `process_command` returns are applied by `apply` without reaching a panic arm
(C04 `process_emits_applicable`, which needs the invariant of `CaK.Reachable` – an invariant that
only holds because commands the listener refuses are not stored). -/
theorem caAgg_applicable (env : CaSt → List Ev → Option Nat) : ProcessApplicableV (caAgg env) := by
  intro s c evs hr hp
  obtain ⟨o, ho, hR⟩ := caAgg_sim hr
  obtain ⟨ca, r⟩ := s
  simp only at ho hR
  subst ho
  have hp' : ca.process c = .ok evs := CaSt.process_ok (s := ⟨ca, .ok o⟩) hp
  have hsome : ((⟨ca, o⟩ : Sys).ca.applyAll evs).isSome = true :=
    KM.Props.C04.process_emits_applicable hR hp'
  rw [applyEvents_caAgg]
  simp only [Option.isSome_map]
  exact hsome

/-- Non-vacuity witness for `Props/C06.lean`: a CA is created, gets a repository, a parent, two
classes (class 0 certified, class 1 still pending) and a child with a certificate; then a complete
key roll of class 0 – initiate, new certificate received, activate, finish – through three store
objects, with a snapshot taken in the middle by the second one, a revocation request naming the
pending class (index 9: until fix 239f0a59 the **listener vetoed** it -
`pinned_revoke_for_pending_class_listener_error` of C04 -, now `process_command` refuses it: by
`C04.listener_accepts` the listener of a reachable `CertAuth` vetoes nothing any more; the veto
path of the store is exercised by `vetoAgg` and the task-queue `env` of the other instances), a
failed write, a cache drop and another refused command. -/
def caHistory : List (Op (caAgg noEnv)) :=
  [ .add 0 "admin" none false,
    .cmd 0 ⟨"u", .repoUpdate []⟩ false,
    .cmd 0 ⟨"u", .addParent 9⟩ false,
    .cmd 0 ⟨"u", .updateEntitlements 9 [⟨0, [1, 2], 100, []⟩, ⟨1, [3], 100, []⟩] 0 [4, 5]⟩ false,
    .cmd 0 ⟨"u", .updateRcvdCert 0 4 { res := [1, 2], na := 100 } 50 []⟩ false,
    .cmd 0 ⟨"u", .childAdd 7 [1, 2]⟩ false,
    .cmd 0 ⟨"u", .childCertify 7 0 6 none 60⟩ false,
    .cmd 0 ⟨"u", .keyrollInit [(0, 8)]⟩ false,
    .snap 1 false,
    .cmd 0 ⟨"c", .childRevokeKey 7 1 6⟩ false,
    .cmd 1 ⟨"u", .updateRcvdCert 0 8 { res := [1, 2], na := 100 } 62 []⟩ true,
    .cmd 1 ⟨"u", .updateRcvdCert 0 8 { res := [1, 2], na := 100 } 62 []⟩ false,
    .cmd 0 ⟨"u", .keyrollActivate 70⟩ false,
    .restart 0,
    .cmd 0 ⟨"u", .dropClass 5⟩ false,
    .cmd 2 ⟨"u", .keyrollFinish 0⟩ false ]

/-- What the examples look at: version, key state of class 0, number of classes. -/
def caView (o : Out (caAgg noEnv)) : Option (Nat × Option KVar × Nat) :=
  match o with
  | .ok v => some (v.version, (AMap.get (CaSt.ca v.st).classes 0).map (·.keys.variant),
                   (CaSt.ca v.st).classes.length)
  | _ => none

end CertAuth

section TaProxy
open KM.Ta

/-- `TrustAnchorProxy::apply` (taproxy.rs:155-241) with its three `unwrap()`s as `none`:
`self.signer.as_mut().unwrap()` in `SignerResponseReceived` (the entries before it do not touch
`signer`, so the test can be made on the state before them) and
`self.child_details.get_mut(&child_handle).unwrap()` in `ChildRequestAdded` /
`ChildResponseGiven`.  Where it is defined it is `Ta.apply` (`applyP_eq`), the total function the
C15 theorems are about. -/
def applyP (p : Proxy) : Ta.Ev → Option Proxy
  | .signerResponseReceived b =>
    if p.signer.isSome then some (Ta.apply p (.signerResponseReceived b)) else none
  | .childRequestAdded c r => if p.known c then some (Ta.apply p (.childRequestAdded c r)) else none
  | .childResponseGiven c k => if p.known c then some (Ta.apply p (.childResponseGiven c k)) else none
  | e => some (Ta.apply p e)

theorem applyP_eq {p p' : Proxy} {e : Ta.Ev} (h : applyP p e = some p') : p' = Ta.apply p e := by
  revert h
  fun_cases applyP p e
  all_goals intro h; cases h
  all_goals rfl

inductive Failure (ε : Type) where
  /-- `process_command` returned an error -/
  | refused (e : ε)
  /-- a failure outside the aggregate (signer, task queue) -/
  | env (n : Nat)

/-- `TrustAnchorProxy` as an instance of the generic store model.  `InitCmd`: the ID key
`create_self_signed_id_cert()` makes, or the number of the error it fails with; the listener
(`ta_proxy_pre_save_events`) is the task queue alone, i.e. `env`. -/
@[reducible] def taProxyAgg (env : Proxy → List Ta.Ev → Option Nat) : Agg where
  State := Proxy
  Cmd := Ta.Cmd
  Ev := Ta.Ev
  InitCmd := Except Nat Ta.Key
  InitEv := Ta.Key
  Err := Failure Ta.Err
  initVersion := 1
  init := Proxy.init
  processInit := fun ic => match ic with
    | .ok k => .ok k
    | .error n => .error (.env n)
  process := fun p c => match Ta.process p c with
    | .ok evs => .ok evs
    | .error e => .error (.refused e)
  apply := applyP
  preSave := fun p evs => (env p evs).map .env

/-- `process_command` of the proxy emits one event at a time, and only where `apply` does not
unwrap `None` – in every state, reachable or not. -/
theorem ta_process_applicable (p : Proxy) (c : Ta.Cmd) (evs : List Ta.Ev)
    (h : Ta.process p c = .ok evs) : ∃ p', evs.foldlM applyP p = some p' := by
  obtain ⟨hg, rfl⟩ := Ta.process_ok_iff.mp h
  suffices ∃ q, applyP p c.event = some q from this.imp fun q hq => by simp only [List.foldlM, hq]; rfl
  -- `applyP` unwraps in three arms only, and there the guard of the command is what it asks for
  cases c with
  | processSignerResponse m =>
    obtain ⟨i, _, hs, _⟩ := hg
    exact ⟨_, if_pos (by rw [hs]; rfl)⟩
  | addChildRequest c r =>
    obtain ⟨_, hr⟩ := hg
    exact ⟨_, if_pos (Ta.processAddChildRequest_ok hr).1⟩
  | giveChildResponse c k => exact ⟨_, if_pos hg.1⟩
  | _ => exact ⟨_, rfl⟩

theorem applyEvents_eq_foldlM (A : Agg) (s : A.State) (evs : List A.Ev) :
    applyEvents A s evs = evs.foldlM A.apply s := by
  induction evs generalizing s with
  | nil => rfl
  | cons e es ih =>
    simp only [applyEvents, List.foldlM_cons]
    cases A.apply s e with
    | none => rfl
    | some s' => exact ih s'

/-- The proxy meets the hypothesis – the strong form (`ProcessApplicable`, all states reachable
without regard to the listener), hence also the veto-aware one. -/
theorem taProxyAgg_applicable (env : Proxy → List Ta.Ev → Option Nat) :
    ProcessApplicable (taProxyAgg env) := by
  intro p c evs _ hp
  have hp' : Ta.process p c = .ok evs := by
    dsimp only [taProxyAgg] at hp
    split at hp
    · cases hp; assumption
    · cases hp
  obtain ⟨p', h'⟩ := ta_process_applicable p c evs hp'
  rw [applyEvents_eq_foldlM]
  show (evs.foldlM applyP p).isSome = true
  rw [h']; rfl

end TaProxy

section TaSigner
open KM.Ta

/-- `TrustAnchorSignerEvent::ProxySignerExchangeDone(exchange)`; `nextSerial` stands for the random
serial numbers the exchange used up (a field of the model's `Signer` only). -/
structure ExchangeDone where
  req : ReqBody
  resp : RespBody
  nextSerial : Nat

/-- `TrustAnchorSigner::apply` (signer.rs:142-160): take over the objects of the response, push
the exchange.  No panic arm. -/
def signerApply (s : Signer) (e : ExchangeDone) : Signer :=
  { s with objects := e.resp.objects, exchanges := s.exchanges ++ [(e.req, e.resp)],
           nextSerial := e.nextSerial }

/-- `process_command` for `TrustAnchorSignerRequest` (the model of `Ta/Signer.lean` returns the new
state; this is the event in between).  `SignerReissueDone` is not modelled. -/
def signerProcess (s : Signer) (c : Signed ReqBody × Option Nat) : Except SErr (List ExchangeDone) :=
  match processSignerRequest s c.1 c.2 with
  | .ok (s', r) => .ok [⟨c.1.clear, r.clear, s'.nextSerial⟩]
  | .error e => .error e

/-- `process` then `apply` is the model's `processSignerRequest`. -/
theorem signer_apply_process {s s' : Signer} {m : Signed ReqBody} {ov : Option Nat}
    {r : Signed RespBody} (h : processSignerRequest s m ov = .ok (s', r)) :
    signerProcess s (m, ov) = .ok [⟨m.clear, r.clear, s'.nextSerial⟩] ∧
    signerApply s ⟨m.clear, r.clear, s'.nextSerial⟩ = s' := by
  refine ⟨by simp only [signerProcess, h], ?_⟩
  obtain ⟨_, _, a, _, rfl, rfl⟩ := processSignerRequest_ok_iff.mp h
  rfl

/-- `TrustAnchorSigner` as an instance of the generic store model (no pre-save listener).
`InitCmd`/`InitEv`: ID key, proxy ID, TA key, initial manifest number. -/
@[reducible] def taSignerAgg : Agg where
  State := Signer
  Cmd := Signed ReqBody × Option Nat
  Ev := ExchangeDone
  InitCmd := Except Nat (Ta.Key × Ta.Key × Ta.Key × Option Nat)
  InitEv := Ta.Key × Ta.Key × Ta.Key × Option Nat
  Err := Failure SErr
  initVersion := 1
  init := fun i => Signer.init i.1 i.2.1 i.2.2.1 i.2.2.2
  processInit := fun ic => match ic with
    | .ok i => .ok i
    | .error n => .error (.env n)
  process := fun s c => match signerProcess s c with
    | .ok evs => .ok evs
    | .error e => .error (.refused e)
  apply := fun s e => some (signerApply s e)
  preSave := fun _ _ => none

theorem taSignerAgg_applicable : ProcessApplicable taSignerAgg :=
  processApplicable_of_total (fun _ _ => rfl)

end TaSigner

end KM.ES.Inst
