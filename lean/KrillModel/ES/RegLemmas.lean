/- The test aggregate `regAgg` applies any number of `added 1` events from any state (`multi_applicable`);
used by the non-vacuity statement in `Props/C06.lean`. -/
import KrillModel.ES.Reg
import KrillModel.ES.Spec
namespace KM.ES.Reg
open KM.ES

theorem multi_applicable (iv n : Nat) (s : St) :
    (applyEvents (regAgg iv) s (List.replicate n (Ev.added 1))).isSome = true := by
  induction n generalizing s with
  | zero => rfl
  | succ n ih =>
    simp only [List.replicate_succ, applyEvents, regAgg, apply]
    exact ih _

end KM.ES.Reg
