/-
The aggregate store refines its audit log.  `Inv e L` ties an entity to the list `L` of its stored commands; every
public operation keeps it while the log moves as `specStep` says (`step_refines`), so every way of loading returns
the replay `finalOf L` (`getLatest_spec`).  In order: association lists, replay of a log, the invariant under each
kind of update, the phases of `execute_opt_command`, history queries, whole histories, and the states a log can replay to.
-/
import KrillModel.ES.AggStore
import KrillModel.ES.Spec
import KrillModel.ES.Wal
import KrillModel.ES.Obs
import KrillModel.Base.Assoc
namespace KM.ES

section AList
variable {β : Type}

@[simp] theorem alookup_nil (k : Nat) : alookup ([] : List (Nat × β)) k = none := rfl

theorem alookup_cons (k' : Nat) (v : β) (t : List (Nat × β)) (k : Nat) :
    alookup ((k', v) :: t) k = if k' = k then some v else alookup t k := rfl

theorem alookup_eq_lookup (l : List (Nat × β)) (k : Nat) : alookup l k = l.lookup k :=
  Assoc.eq_lookup_of_eqns alookup (fun _ => rfl) (fun _ _ _ _ => rfl) l k

theorem alookup_aerase (l : List (Nat × β)) (k k' : Nat) :
    alookup (aerase l k) k' = if k' = k then none else alookup l k' := by
  rw [alookup_eq_lookup, alookup_eq_lookup]; exact Assoc.lookup_erase l k k'

theorem alookup_ainsert (l : List (Nat × β)) (k k' : Nat) (v : β) :
    alookup (ainsert l k v) k' = if k' = k then some v else alookup l k' := by
  rw [alookup_eq_lookup, alookup_eq_lookup]; exact Assoc.lookup_insert l k k' v

theorem alookup_ainsert_some {l : List (Nat × β)} {i j : Nat} {v u : β}
    (h : alookup (ainsert l i v) j = some u) : u = v ∨ alookup l j = some u := by
  rw [alookup_ainsert] at h
  split at h
  · exact .inl (Option.some.inj h).symm
  · exact .inr h

theorem alookup_aerase_some {l : List (Nat × β)} {i j : Nat} {u : β}
    (h : alookup (aerase l i) j = some u) : j ≠ i ∧ alookup l j = some u := by
  rw [alookup_aerase] at h
  split at h
  · cases h
  · exact ⟨‹_›, h⟩

theorem alookup_mem {l : List (Nat × β)} {k : Nat} {v : β} (h : alookup l k = some v) :
    (k, v) ∈ l :=
  Assoc.mem_of_lookup ((alookup_eq_lookup l k).symm.trans h)

theorem alookup_lt_keyBound {l : List (Nat × β)} {k : Nat} {v : β}
    (h : alookup l k = some v) : k < keyBound l := by
  induction l with
  | nil => cases h
  | cons p t ih =>
    rw [alookup_cons] at h
    unfold keyBound
    split at h
    · exact ‹p.1 = k› ▸ Nat.le_max_left ..
    · exact Nat.lt_of_lt_of_le (ih h) (Nat.le_max_right ..)

theorem alookup_none_of_keys {l : List (Nat × β)} {i j : Nat}
    (h : l.all (fun p => p.1 == i) = true) (hj : j ≠ i) : alookup l j = none := by
  rw [alookup_eq_lookup, Assoc.lookup_eq_none]
  intro hm
  obtain ⟨p, hp, rfl⟩ := List.mem_map.mp hm
  exact hj (beq_iff_eq.mp (List.all_eq_true.mp h p hp))

end AList

variable {A : Agg}

section Replay

theorem applyStored_version {v v' : Ver A} {c : Stored A} (h : applyStored v c = some v') :
    v'.version = v.version + 1 := by
  unfold applyStored at h
  split at h
  · obtain ⟨s, _, rfl⟩ := Option.map_eq_some_iff.mp h; rfl
  · cases h; rfl

theorem replayN_version {L : Log A} {b v : Ver A} {j : Nat} (h : replayN L b j = some v) :
    v.version = b.version + j := by
  induction j generalizing v with
  | zero => cases h; rfl
  | succ j ih =>
    simp only [replayN] at h
    split at h
    · cases h
    · split at h
      · cases h
      · rw [applyStored_version h, ih ‹_›]; rfl

theorem replayN_succ {L : Log A} {b v : Ver A} {j : Nat} {c : Stored A}
    (h : replayN L b j = some v) (hc : L[A.initVersion + j]? = some c) :
    replayN L b (j + 1) = applyStored v c := by
  simp only [replayN, h, hc]

theorem replayN_some_of_le {L : Log A} {b w : Ver A} {j' : Nat} (h : replayN L b j' = some w) :
    ∀ j, j ≤ j' → ∃ v, replayN L b j = some v := by
  induction j' generalizing w with
  | zero => intro j hj; exact ⟨w, by rwa [Nat.le_zero.mp hj]⟩
  | succ j' ih =>
    intro j hj
    by_cases hjj : j = j' + 1
    · exact ⟨w, hjj ▸ h⟩
    · simp only [replayN] at h
      split at h
      · cases h
      · exact ih ‹_› j (Nat.le_of_lt_succ (Nat.lt_of_le_of_ne hj hjj))

theorem replayN_congr {L L' : Log A} {b : Ver A} (j : Nat)
    (h : ∀ k, k < A.initVersion + j → L'[k]? = L[k]?) : replayN L' b j = replayN L b j := by
  induction j with
  | zero => rfl
  | succ j ih =>
    simp only [replayN]
    rw [ih (fun k hk => h k (Nat.lt_succ_of_lt hk)), h (A.initVersion + j) (Nat.lt_succ_self _)]

theorem replayN_append {L : Log A} {b : Ver A} {j : Nat} (c : Stored A)
    (hj : A.initVersion + j ≤ L.length) : replayN (L ++ [c]) b j = replayN L b j :=
  replayN_congr j fun _ hk => List.getElem?_append_left (Nat.lt_of_lt_of_le hk hj)

theorem baseOf_some {L : Log A} {b : Ver A} (hb : baseOf L = some b) :
    L ≠ [] ∧ b.version = A.initVersion := by
  cases L with
  | nil => cases hb
  | cons c0 t =>
    refine ⟨List.cons_ne_nil _ _, ?_⟩
    simp only [baseOf] at hb
    split at hb
    · cases hb; rfl
    · cases hb

theorem baseOf_append {L : Log A} (hne : L ≠ []) (c : Stored A) : baseOf (L ++ [c]) = baseOf L := by
  cases L with
  | nil => exact absurd rfl hne
  | cons x t => rfl

theorem finalOf_eq_some {L : Log A} {w : Ver A} :
    finalOf L = some w ↔
      ∃ b, baseOf L = some b ∧ replayN L b (L.length - A.initVersion) = some w := by
  unfold finalOf
  cases baseOf L <;> simp

theorem ne_nil_of_finalOf {L : Log A} {w : Ver A} (hw : finalOf L = some w) : L ≠ [] := by
  obtain ⟨b, hb, _⟩ := finalOf_eq_some.mp hw
  exact (baseOf_some hb).1

theorem initVersion_le {L : Log A} (hiv : A.initVersion ≤ 1) (hne : L ≠ []) :
    A.initVersion ≤ L.length :=
  Nat.le_trans hiv (List.length_pos_iff.mpr hne)

theorem prefixState_ne_nil {L : Log A} {v : Ver A} (h : PrefixState L v) : L ≠ [] := by
  obtain ⟨b, _, hb, _, _⟩ := h
  exact (baseOf_some hb).1

theorem prefixState_append {L : Log A} {v : Ver A} (c : Stored A) (h : PrefixState L v) :
    PrefixState (L ++ [c]) v := by
  obtain ⟨b, j, hb, hj, hr⟩ := h
  exact ⟨b, j, by rw [baseOf_append (baseOf_some hb).1, hb],
    Nat.le_trans hj (by rw [List.length_append]; exact Nat.le_add_right ..),
    by rw [replayN_append c hj, hr]⟩

theorem prefixState_final {L : Log A} {w : Ver A} (hiv : A.initVersion ≤ 1)
    (hw : finalOf L = some w) : PrefixState L w := by
  obtain ⟨b, hb, hr⟩ := finalOf_eq_some.mp hw
  exact ⟨b, L.length - A.initVersion, hb,
    Nat.le_of_eq (Nat.add_sub_of_le (initVersion_le hiv (baseOf_some hb).1)), hr⟩

theorem finalOf_version {L : Log A} {w : Ver A} (hiv : A.initVersion ≤ 1)
    (hw : finalOf L = some w) : w.version = L.length := by
  obtain ⟨b, hb, hr⟩ := finalOf_eq_some.mp hw
  rw [replayN_version hr, (baseOf_some hb).2]
  exact Nat.add_sub_of_le (initVersion_le hiv (baseOf_some hb).1)

theorem finalOf_append {L : Log A} {w : Ver A} (hiv : A.initVersion ≤ 1)
    (hw : finalOf L = some w) (c : Stored A) : finalOf (L ++ [c]) = applyStored w c := by
  obtain ⟨b, hb, hr⟩ := finalOf_eq_some.mp hw
  have hne := (baseOf_some hb).1
  have hle := initVersion_le hiv hne
  have hlen : (L ++ [c]).length - A.initVersion = (L.length - A.initVersion) + 1 := by
    rw [List.length_append, List.length_singleton, Nat.sub_add_comm hle]
  unfold finalOf
  rw [baseOf_append hne, hb, hlen]
  refine replayN_succ (by rw [replayN_append c (Nat.le_of_eq (Nat.add_sub_of_le hle)), hr]) ?_
  rw [Nat.add_sub_of_le hle]
  exact List.getElem?_concat_length

/-- A loop that walks up to `n` and has fuel for what is left keeps it after one round. -/
theorem fuel_step {n s f : Nat} (hlt : s < n) (hf : n - s < f + 1) : n - (s + 1) < f := by omega

/-- Catch-up from any prefix state reaches the replay of the whole log; the flag tells
whether anything had to be applied. -/
theorem catchUp_spec {kv : Scope A} {L : Log A} {b w : Ver A}
    (hc : ∀ k, kv.getCmd k = L[k]?) (hbv : b.version = A.initVersion)
    (hw : replayN L b (L.length - A.initVersion) = some w) :
    ∀ (fuel j : Nat) (v : Ver A), replayN L b j = some v → A.initVersion + j ≤ L.length →
      L.length - (A.initVersion + j) < fuel →
      catchUp kv fuel v = some (w, decide (A.initVersion + j < L.length)) := by
  intro fuel
  induction fuel with
  | zero => exact fun _ _ _ _ h => absurd h (Nat.not_lt_zero _)
  | succ f ih =>
    intro j v hv hj hf
    have hver : v.version = A.initVersion + j := by rw [replayN_version hv, hbv]
    by_cases hlt : A.initVersion + j < L.length
    · obtain ⟨v', hv'⟩ :=
        replayN_some_of_le hw (j + 1) (Nat.succ_le_of_lt (Nat.lt_sub_iff_add_lt'.mpr hlt))
      have hstep := replayN_succ hv (List.getElem?_eq_getElem hlt)
      have hget : kv.getCmd v.version = some L[A.initVersion + j] := by
        rw [hc, hver, List.getElem?_eq_getElem hlt]
      simp only [catchUp, hget, ← hstep, hv', Option.map_some, hlt, decide_true,
        ih (j + 1) v' hv' hlt (fuel_step hlt hf)]
    · obtain rfl : j = L.length - A.initVersion :=
        Nat.eq_sub_of_add_eq' (Nat.le_antisymm hj (Nat.le_of_not_lt hlt))
      obtain rfl : v = w := Option.some.inj (hv.symm.trans hw)
      have : kv.getCmd v.version = none := by
        rw [hc, hver, List.getElem?_eq_none (Nat.le_of_not_lt hlt)]
      simp only [catchUp, this, hlt, decide_false]

end Replay

section InvLemmas

@[simp] theorem getCmd_putCmd (kv : Scope A) (n k : Nat) (c : Stored A) :
    (kv.putCmd n c).getCmd k = if k = n then some c else kv.getCmd k :=
  alookup_ainsert _ _ _ _

theorem getElem?_concat {α} (L : List α) (c : α) (k : Nat) :
    (L ++ [c])[k]? = if k = L.length then some c else L[k]? := by
  split
  · rw [‹k = L.length›]; exact List.getElem?_concat_length
  · rcases Nat.lt_or_gt_of_ne ‹k ≠ L.length› with hlt | hgt
    · exact List.getElem?_append_left hlt
    · rw [List.getElem?_eq_none (Nat.le_of_lt hgt), List.getElem?_eq_none]
      rw [List.length_append]; exact hgt

theorem getElem?_concat_some {α} {L : List α} {c c' : α} {k : Nat} (h : (L ++ [c])[k]? = some c') :
    L[k]? = some c' ∨ (k = L.length ∧ c' = c) := by
  rw [getElem?_concat] at h
  split at h
  · exact .inr ⟨‹_›, (Option.some.inj h).symm⟩
  · exact .inl h

theorem recordsUpTo_append {L : Log A} {m : Nat} (c : Stored A) (h : m ≤ L.length) :
    recordsUpTo (L ++ [c]) m = recordsUpTo L m := by
  unfold recordsUpTo
  rw [List.take_append_of_le_length h]

theorem Inv.nil_cache {e : Ent A} (h : Inv e []) (i : Nat) : alookup e.cache i = none :=
  Option.eq_none_iff_forall_ne_some.mpr fun v hc => prefixState_ne_nil (h.cache i v hc) rfl

theorem Inv.nil_snapshot {e : Ent A} (h : Inv e []) : e.kv.snapshot = none :=
  Option.eq_none_iff_forall_ne_some.mpr fun v hc => prefixState_ne_nil (h.snap v hc) rfl

theorem Inv.setCache {e : Ent A} {L : Log A} (h : Inv e L) (i : Nat) {v : Ver A}
    (hv : PrefixState L v) : Inv { e with cache := ainsert e.cache i v } L :=
  { h with cache := fun j u hj => (alookup_ainsert_some hj).elim (· ▸ hv) (h.cache j u) }

theorem Inv.setSnap {e : Ent A} {L : Log A} (h : Inv e L) {v : Ver A} (hv : PrefixState L v) :
    Inv { e with kv := { e.kv with snapshot := some v } } L :=
  { h with cmds := h.cmds, snap := fun _ hu => Option.some.inj hu ▸ hv }

theorem Inv.setHcache {e : Ent A} {L : Log A} (h : Inv e L) (i : Nat) {m : Nat}
    (hm : m ≤ L.length) : Inv { e with hcache := ainsert e.hcache i (recordsUpTo L m) } L :=
  { h with
    hcache := fun j rs hj => (alookup_ainsert_some hj).elim (⟨m, hm, ·⟩) (h.hcache j rs) }

theorem Inv.restart {e : Ent A} {L : Log A} (h : Inv e L) (i : Nat) : Inv (restart e i) L :=
  { h with
    cache := fun j u hj => h.cache j u (alookup_aerase_some hj).2
    hcache := fun j rs hj => h.hcache j rs (alookup_aerase_some hj).2 }

theorem Inv.append {e : Ent A} {L : Log A} {w w' : Ver A} {c : Stored A} (h : Inv e L)
    (hiv : A.initVersion ≤ 1) (hw : finalOf L = some w)
    (happ : applyStored w c = some w') (hver : c.version = L.length)
    (hni : c.effect.isInit = false) :
    Inv { e with kv := e.kv.putCmd L.length c } (L ++ [c]) where
  cmds k := by rw [getCmd_putCmd, h.cmds k, getElem?_concat]
  head c0 hc0 := by
    rw [List.getElem?_append_left (List.length_pos_iff.mpr (ne_nil_of_finalOf hw))] at hc0
    exact h.head c0 hc0
  tail k c' hk hc' := by
    rcases getElem?_concat_some hc' with h' | ⟨_, rfl⟩
    · exact h.tail k c' hk h'
    · exact hni
  vers k c' hc' := by
    rcases getElem?_concat_some hc' with h' | ⟨rfl, rfl⟩
    · exact h.vers k c' h'
    · exact hver
  total _ := ⟨w', by rw [finalOf_append hiv hw, happ]⟩
  snap v hv := prefixState_append c (h.snap v hv)
  cache i v hv := prefixState_append c (h.cache i v hv)
  hcache i rs hrs := by
    obtain ⟨m, hm, hr⟩ := h.hcache i rs hrs
    exact ⟨m, Nat.le_trans hm (by rw [List.length_append]; exact Nat.le_add_right ..),
      by rw [recordsUpTo_append c hm, hr]⟩

/-- A brand-new store object: no cache entries at all. -/
theorem Inv.clearCaches {e : Ent A} {L : Log A} (h : Inv e L) :
    Inv { e with cache := [], hcache := [] } L :=
  { h with
    cache := fun _ _ hv => nomatch hv
    hcache := fun _ _ hr => nomatch hr }

/-- A replay from `command-0` alone: no cache entries, the snapshot ignored. -/
theorem Inv.clearForScratch {e : Ent A} {L : Log A} (h : Inv e L) :
    Inv { kv := { e.kv with snapshot := none }, cache := [], hcache := [] } L :=
  { h with
    cmds := h.cmds
    snap := fun _ hv => nomatch hv
    cache := fun _ _ hv => nomatch hv
    hcache := fun _ _ hr => nomatch hr }

theorem inv_empty : Inv (Ent.empty : Ent A) [] where
  cmds _ := rfl
  head _ hc := nomatch hc
  tail _ _ _ hc := nomatch hc
  vers _ _ hc := nomatch hc
  total h := absurd rfl h
  snap _ hv := nomatch hv
  cache _ _ hv := nomatch hv
  hcache _ _ hr := nomatch hr

/-- `drop_aggregate` while no other store object remembers the entity: back to "absent". -/
theorem inv_dropAggregate {e : Ent A} (i : Nat) (hs : othersForgot e i) : Inv (dropAggregate e i) [] :=
  { inv_empty with
    cache := fun j v hj => by
      have := alookup_aerase_some hj
      rw [(hs j this.1).1] at this; cases this.2
    hcache := fun j rs hj => by
      have := alookup_aerase_some hj
      rw [(hs j this.1).2] at this; cases this.2 }

end InvLemmas

section Phases

/-! Which part of the entity a phase can touch. -/

theorem phLoad_fst (i : Nat) (p : Ent A × Local A) : (phLoad i p).1 = p.1 := by
  fun_cases phLoad i p <;> rfl

theorem phCatchUp_fst (p : Ent A × Local A) : (phCatchUp p).1 = p.1 := by
  fun_cases phCatchUp p <;> rfl

theorem phDecide_fst (cmd : Option (Sent A)) (p : Ent A × Local A) : (phDecide cmd p).1 = p.1 := by
  fun_cases phDecide cmd p <;> rfl

theorem phFinish_fst (p : Ent A × Local A) : (phFinish p).1 = p.1 := by
  fun_cases phFinish p <;> rfl

theorem phStore_cache (wfail : Bool) (p : Ent A × Local A) : (phStore wfail p).1.cache = p.1.cache := by
  fun_cases phStore wfail p <;> rfl

theorem phCache_kv (i : Nat) (p : Ent A × Local A) : (phCache i p).1.kv = p.1.kv := by
  fun_cases phCache i p <;> rfl

theorem phSnapshot_cache (snap wfail : Bool) (p : Ent A × Local A) :
    (phSnapshot snap wfail p).1.cache = p.1.cache := by
  fun_cases phSnapshot snap wfail p <;> rfl

/-- The two halves of `phProcess`. -/
theorem phStore_phDecide (cmd : Option (Sent A)) (wfail : Bool) (e : Ent A) (v : Ver A) (ch : Bool) :
    phStore wfail (phDecide cmd (e, .loaded v ch)) = phProcess cmd wfail (e, .loaded v ch) := by
  cases cmd with
  | none => rfl
  | some c =>
    unfold phDecide phProcess
    dsimp only
    cases e.kv.hasCmd v.version with
    | true => rfl
    | false =>
      cases A.process v.st c.details with
      | error err => cases wfail <;> rfl
      | ok evs =>
        cases evs with
        | nil => rfl
        | cons ev evs =>
          dsimp only
          cases applyStored v ⟨c.actor, v.version, some c.details, .success (ev :: evs)⟩ with
          | none => rfl
          | some v' => dsimp only; cases A.preSave v'.st (ev :: evs) <;> cases wfail <;> rfl

theorem phProcess_cache (cmd : Option (Sent A)) (wfail : Bool) (p : Ent A × Local A) :
    (phProcess cmd wfail p).1.cache = p.1.cache := by
  fun_cases phProcess cmd wfail p <;> rfl

/-- The closing phases (cache, snapshot, finish) of a call that got as far as `processed`. -/
theorem closing_spec {e : Ent A} {L : Log A} (h : Inv e L) {v : Ver A} (i : Nat)
    (snap wfail ch : Bool) (res : Option A.Err) (hv : (ch || snap) = true → PrefixState L v) :
    ∃ e', phFinish (phSnapshot snap wfail (phCache i (e, .processed v ch res))) =
        (e', .done (if snap && wfail then .kvErr else
          match res with | some err => .err err | none => .ok v)) ∧
      Inv e' L ∧ (e'.kv = if snap && !wfail then { e.kv with snapshot := some v } else e.kv) ∧
      (ch = false → snap = false → e' = e) := by
  have hfin : ∀ e2 : Ent A, phFinish (e2, .processed v ch res) =
      (e2, .done (match res with | some err => .err err | none => .ok v)) := by
    intro e2; cases res <;> rfl
  obtain ⟨e1, h1, hI1, hk1, he1⟩ : ∃ e1, phCache i (e, .processed v ch res) = (e1, .processed v ch res) ∧
      Inv e1 L ∧ e1.kv = e.kv ∧ (ch = false → e1 = e) := by
    cases ch
    · exact ⟨e, rfl, h, rfl, fun _ => rfl⟩
    · exact ⟨_, rfl, h.setCache i (hv rfl), rfl, fun h => nomatch h⟩
  rw [h1]
  cases snap
  · exact ⟨e1, hfin e1, hI1, hk1, fun hc _ => he1 hc⟩
  · cases wfail
    · exact ⟨_, hfin _, hI1.setSnap (hv (by simp)), by simp [hk1], fun _ h => nomatch h⟩
    · exact ⟨e1, rfl, hI1, hk1, fun _ h => nomatch h⟩

theorem isInit_iff {eff : Effect A} : eff.isInit = true ↔ ∃ ev, eff = .init ev := by
  cases eff <;> simp [Effect.isInit]

theorem load_spec {e : Ent A} {L : Log A} (hiv : A.initVersion ≤ 1) (h : Inv e L) (hne : L ≠ [])
    (i : Nat) :
    ∃ v ch, PrefixState L v ∧ phLoad i (e, Local.start) = (e, Local.loaded v ch) := by
  cases hc : alookup e.cache i with
  | some v => exact ⟨v, false, h.cache i v hc, by simp [phLoad, hc]⟩
  | none =>
    cases hs : e.kv.snapshot with
    | some v => exact ⟨v, true, h.snap v hs, by simp [phLoad, hc, hs]⟩
    | none =>
      cases L with
      | nil => exact absurd rfl hne
      | cons c0 t =>
        have hg : e.kv.getCmd 0 = some c0 := h.cmds 0
        obtain ⟨ev, hev⟩ := isInit_iff.mp (h.head c0 rfl)
        exact ⟨⟨A.initVersion, A.init ev⟩, true, ⟨_, 0, by simp [baseOf, hev], Nat.le_trans hiv (Nat.le_add_left 1 _), rfl⟩,
          by simp [phLoad, hc, hs, hg, hev]⟩

theorem load_nil {e : Ent A} (h : Inv e []) (i : Nat) :
    phLoad i (e, Local.start) = (e, Local.done .unknown) := by
  have h3 : e.kv.getCmd 0 = none := h.cmds 0
  simp [phLoad, h.nil_cache i, h.nil_snapshot, h3]

theorem length_le_keyBound {e : Ent A} {L : Log A} (h : Inv e L) : L.length ≤ keyBound e.kv.cmds := by
  cases hl : L.length with
  | zero => exact Nat.zero_le _
  | succ n =>
    have hn : n < L.length := hl ▸ Nat.lt_succ_self n
    exact alookup_lt_keyBound ((h.cmds n).trans (List.getElem?_eq_getElem hn))

theorem load_catchUp {e : Ent A} {L : Log A} {w : Ver A} (hiv : A.initVersion ≤ 1) (h : Inv e L)
    (hw : finalOf L = some w) (i : Nat) :
    ∃ ch, phCatchUp (phLoad i (e, Local.start)) = (e, Local.loaded w ch) := by
  obtain ⟨v, ch0, ⟨b, j, hb, hj, hr⟩, hl⟩ := load_spec hiv h (ne_nil_of_finalOf hw) i
  obtain ⟨b', hb', hw'⟩ := finalOf_eq_some.mp hw
  obtain rfl : b = b' := Option.some.inj (hb.symm.trans hb')
  have hkb := length_le_keyBound h
  have hcu := catchUp_spec (kv := e.kv) h.cmds (baseOf_some hb).2 hw' e.kv.fuel j v hr hj
    (Nat.lt_succ_of_le (Nat.le_trans (Nat.sub_le ..) hkb))
  exact ⟨ch0 || decide (A.initVersion + j < L.length), by rw [hl]; simp [phCatchUp, hcu]⟩

/-- A call that found the aggregate: what is left is the decision, the write and the closing phases. -/
theorem execOpt_loaded {e : Ent A} {i : Nat} {w : Ver A} {ch : Bool}
    (hl : phCatchUp (phLoad i (e, Local.start)) = (e, Local.loaded w ch))
    (cmd : Option (Sent A)) (snap wfail : Bool) :
    execOpt e i cmd snap wfail =
      let r := phFinish (phSnapshot snap wfail (phCache i (phStore wfail (phDecide cmd (e, .loaded w ch)))))
      (r.1, r.2.out) := by
  rw [← hl]; rfl

/-- Calls on an entity that does not exist: `UnknownAggregate`, nothing changes. -/
theorem execOpt_nil {e : Ent A} (h : Inv e []) (i : Nat) (cmd : Option (Sent A)) (snap wfail : Bool) :
    execOpt e i cmd snap wfail = (e, .unknown) := by
  show (let r := phFinish (phSnapshot snap wfail (phCache i (phStore wfail (phDecide cmd
    (phCatchUp (phLoad i (e, Local.start))))))); (r.1, r.2.out)) = _
  rw [load_nil h i]; rfl

/-- `get_latest` / `save_snapshot` on an existing entity. -/
theorem execOpt_read {e : Ent A} {L : Log A} {w : Ver A} (hiv : A.initVersion ≤ 1) (h : Inv e L)
    (hw : finalOf L = some w) (i : Nat) (snap wfail : Bool) :
    (execOpt e i none snap wfail).2 = (if snap && wfail then .kvErr else .ok w) ∧
    Inv (execOpt e i none snap wfail).1 L := by
  obtain ⟨ch, hl⟩ := load_catchUp hiv h hw i
  obtain ⟨e', he', hI, _⟩ :=
    closing_spec h i snap wfail ch none fun _ => prefixState_final hiv hw
  rw [execOpt_loaded hl]
  simp only [phDecide, phStore, he']
  exact ⟨rfl, hI⟩

theorem specStep_cmd {L : Log A} {w : Ver A} (hw : finalOf L = some w) (i : Nat) (c : Sent A)
    (wfail : Bool) :
    specStep L (.cmd i c wfail) =
      if wfail && (specCommand L w c).1.length != L.length then (L, some .kvErr)
      else ((specCommand L w c).1, some (specCommand L w c).2) := by
  simp only [specStep, hw]

theorem specStep_get (L : Log A) (i : Nat) :
    specStep L (.get i) = (L, some (match finalOf L with | some w => .ok w | none => .unknown)) := by
  unfold specStep
  cases finalOf L <;> rfl

/-- What a command can do to the log: append its error record, append its success record, or
nothing (no effect, veto, or `apply` panicked). -/
theorem specCommand_cases (L : Log A) (w : Ver A) (c : Sent A) :
    (∃ e, A.process w.st c.details = .error e ∧
        specCommand L w c = (L ++ [⟨c.actor, L.length, some c.details, .error e⟩], .err e)) ∨
    (∃ evs s', evs ≠ [] ∧ A.process w.st c.details = .ok evs ∧ applyEvents A w.st evs = some s' ∧
        A.preSave s' evs = none ∧
        specCommand L w c =
          (L ++ [⟨c.actor, L.length, some c.details, .success evs⟩], .ok ⟨w.version + 1, s'⟩)) ∨
    ((specCommand L w c).1 = L ∧ ((specCommand L w c).2 = .panic →
        ∃ evs, A.process w.st c.details = .ok evs ∧ applyEvents A w.st evs = none)) := by
  fun_cases specCommand L w c
  case case1 e hp => exact .inl ⟨e, hp, rfl⟩
  case case2 => exact .inr (.inr ⟨rfl, fun h => nomatch h⟩)
  case case3 ev evs hp ha => exact .inr (.inr ⟨rfl, fun _ => ⟨_, hp, ha⟩⟩)
  case case4 => exact .inr (.inr ⟨rfl, fun h => nomatch h⟩)
  case case5 ev evs hp s' ha hs => exact .inr (.inl ⟨_, s', List.cons_ne_nil _ _, hp, ha, hs, rfl⟩)

theorem specStep_cmd_wfail (L : Log A) (i : Nat) (c : Sent A) : (specStep L (.cmd i c true)).1 = L := by
  cases hf : finalOf L with
  | none => simp only [specStep, hf]
  | some w =>
    rw [specStep_cmd hf]
    rcases specCommand_cases L w c with ⟨_, _, hs⟩ | ⟨_, _, _, _, _, _, hs⟩ | ⟨hs, _⟩ <;> simp [hs]

/-- `specCommand` is the specification of `phDecide`: deciding to store a record is the log growing by that
record; a call that goes on without a record, or panics, leaves the log alone. -/
theorem phDecide_spec {e : Ent A} {L : Log A} {ws : A.State} (hhas : e.kv.hasCmd L.length = false)
    (c : Sent A) (ch : Bool) :
    (∃ v ch' res sc, phDecide (some c) (e, .loaded ⟨L.length, ws⟩ ch) = (e, .decided v ch' res sc) ∧
        specCommand L ⟨L.length, ws⟩ c =
          (L ++ [sc], match res with | some err => .err err | none => .ok v) ∧
        sc.version = L.length ∧ sc.effect.isInit = false ∧ applyStored ⟨L.length, ws⟩ sc = some v) ∨
    (∃ v ch' res, phDecide (some c) (e, .loaded ⟨L.length, ws⟩ ch) = (e, .processed v ch' res) ∧
        specCommand L ⟨L.length, ws⟩ c = (L, match res with | some err => .err err | none => .ok v) ∧
        (ch' = true → v = ⟨L.length, ws⟩) ∧ (res.isSome = true → ch' = false)) ∨
    (phDecide (some c) (e, .loaded ⟨L.length, ws⟩ ch) = (e, .done .panic) ∧
        specCommand L ⟨L.length, ws⟩ c = (L, .panic)) := by
  unfold phDecide specCommand
  dsimp only
  rw [hhas]
  cases A.process ws c.details with
  | error err => exact .inl ⟨_, _, some err, _, rfl, rfl, rfl, rfl, rfl⟩
  | ok evs =>
    cases evs with
    | nil => exact .inr (.inl ⟨_, _, none, rfl, rfl, fun _ => rfl, fun h => nomatch h⟩)
    | cons ev evs =>
      dsimp only [applyStored]
      cases ha : applyEvents A ws (ev :: evs) with
      | none => exact .inr (.inr ⟨rfl, rfl⟩)
      | some s' =>
        dsimp only [Option.map_some]
        cases A.preSave s' (ev :: evs) with
        | some err => exact .inr (.inl ⟨_, false, some err, rfl, rfl, (fun h => nomatch h), fun _ => rfl⟩)
        | none => exact .inl ⟨_, _, none, _, rfl, rfl, rfl, rfl,
          by simp only [ha, Option.map_some]⟩

/-- A command on entity `e`, which stores `L`, ends in `e'` and returns `o`, where the specification answers `r`
(new log, result): the call refines `r`; the key-value scope is untouched when the log is, and gains exactly the new
record otherwise; a command refused without a record (the listener's veto) leaves the caches alone as well. -/
structure CmdRefines (e e' : Ent A) (L : Log A) (o : Out A) (r : Log A × Option (Out A)) : Prop where
  out : some o = r.2
  inv : Inv e' r.1
  kv_same : r.1 = L → e'.kv = e.kv
  kv_put : ∀ sc, r.1 = L ++ [sc] → e'.kv = e.kv.putCmd L.length sc
  veto_same : ∀ err, r.2 = some (.err err) → r.1 = L → e' = e

theorem execOpt_cmd {e : Ent A} {L : Log A} {w : Ver A} (hiv : A.initVersion ≤ 1) (h : Inv e L)
    (hw : finalOf L = some w) (i : Nat) (c : Sent A) (wfail : Bool) :
    CmdRefines e (execOpt e i (some c) false wfail).1 L (execOpt e i (some c) false wfail).2
      (specStep L (.cmd i c wfail)) := by
  obtain ⟨wv, ws⟩ := w
  obtain rfl : wv = L.length := finalOf_version hiv hw
  obtain ⟨ch, hl⟩ := load_catchUp hiv h hw i
  have hhas : e.kv.hasCmd L.length = false := by simp [Scope.hasCmd, h.cmds]
  have hne : ∀ sc : Stored A, L ≠ L ++ [sc] := fun sc hsc => by simpa using congrArg List.length hsc
  rw [execOpt_loaded hl, specStep_cmd hw]
  rcases phDecide_spec hhas c ch with
    ⟨v, ch', res, sc, hd, hs, hver, hni, happ⟩ | ⟨v, ch', res, hd, hs, hch, hveto⟩ | ⟨hd, hs⟩
  · -- a record is to be stored
    rw [hd, hs]
    cases wfail
    · -- it is written: the closing phases run on the longer log
      have hP : PrefixState (L ++ [sc]) v :=
        prefixState_final hiv (by rw [finalOf_append hiv hw, happ])
      obtain ⟨e', he', hI', (hk : e'.kv = e.kv.putCmd L.length sc), _⟩ :=
        closing_spec (h.append hiv hw happ hver hni) i false false ch' res fun _ => hP
      simp only [phStore, hver, Bool.false_eq_true, if_false, Bool.false_and, he']
      exact ⟨rfl, hI', fun hsc => absurd hsc.symm (hne sc),
        fun sc' hsc => by rw [hk, List.singleton_inj.mp (List.append_cancel_left hsc)],
        fun _ _ hsc => absurd hsc.symm (hne sc)⟩
    · -- the write fails
      simp only [phStore, if_true, List.length_append, List.length_singleton, Bool.true_and,
        Nat.add_one_ne_self, bne_iff_ne, ne_eq, not_false_eq_true]
      exact ⟨rfl, h, fun _ => rfl, fun sc' hsc => absurd hsc (hne sc'), fun _ _ _ => rfl⟩
  · -- the call goes on without a record; after a veto nothing is cached either
    obtain ⟨e', he', hI', hk, hsame⟩ :=
      closing_spec h i false wfail ch' res fun hc => hch (by simpa using hc) ▸ prefixState_final hiv hw
    rw [hd, hs]
    simp only [phStore, bne_self_eq_false, Bool.and_false, Bool.false_eq_true, if_false, he']
    exact ⟨rfl, hI', fun _ => hk, fun sc' hsc => absurd hsc (hne sc'), fun err herr _ =>
      hsame (hveto (by cases res with | none => cases herr | some _ => rfl)) rfl⟩
  · -- `apply` panicked
    rw [hd, hs]
    simp only [bne_self_eq_false, Bool.and_false, Bool.false_eq_true, if_false]
    exact ⟨rfl, h, fun _ => rfl, fun sc' hsc => absurd hsc (hne sc'), fun _ _ _ => rfl⟩

theorem finalOf_singleton (hiv : A.initVersion ≤ 1) (actor : String) (ev : A.InitEv) :
    ∃ n, finalOf [(⟨actor, 0, none, .init ev⟩ : Stored A)] = some ⟨n, A.init ev⟩ := by
  obtain h0 | h1 : A.initVersion = 0 ∨ A.initVersion = 1 := Nat.le_one_iff_eq_zero_or_eq_one.mp hiv
  · exact ⟨1, by simp [finalOf, baseOf, replayN, h0, applyStored]⟩
  · exact ⟨A.initVersion, by simp [finalOf, baseOf, replayN, h1]⟩

theorem Inv.init {e : Ent A} (hiv : A.initVersion ≤ 1) (h : Inv e []) (i : Nat) (actor : String)
    (ev : A.InitEv) :
    Inv { e with kv := e.kv.putCmd 0 ⟨actor, 0, none, .init ev⟩,
                 cache := ainsert e.cache i ⟨A.initVersion, A.init ev⟩ }
      [⟨actor, 0, none, .init ev⟩] where
  cmds k := by
    rw [getCmd_putCmd, h.cmds k, List.getElem?_singleton]; rfl
  head c0 hc0 := by cases hc0; rfl
  tail k c' hk hc' := by
    rw [List.getElem?_singleton, if_neg (Nat.ne_of_gt hk)] at hc'; cases hc'
  vers k c' hc' := by
    rw [List.getElem?_singleton] at hc'
    split at hc'
    · cases hc'; exact ‹k = 0›.symm
    · cases hc'
  total _ := let ⟨_, hn⟩ := finalOf_singleton hiv actor ev; ⟨_, hn⟩
  snap v hv := by
    have hv : e.kv.snapshot = some v := hv
    rw [h.nil_snapshot] at hv; cases hv
  cache j v hv := by
    rcases alookup_ainsert_some hv with rfl | hv
    · exact ⟨_, 0, rfl, hiv, rfl⟩
    · rw [h.nil_cache j] at hv; cases hv
  hcache j rs hrs := by
    obtain ⟨m, hm, hr⟩ := h.hcache j rs hrs
    obtain rfl : m = 0 := Nat.le_zero.mp hm
    exact ⟨0, Nat.zero_le _, hr⟩

/-- `add_with_context`: creating the entity through store object `i` returns what the specification
returns for the log, and the invariant holds of the new state and the new log. -/
theorem add_refines {e : Ent A} {L : Log A} (hiv : A.initVersion ≤ 1) (h : Inv e L)
    (i : Nat) (actor : String) (ic : A.InitCmd) (wfail : Bool) :
    some (add e i actor ic wfail).2 = (specStep L (.add i actor ic wfail)).2 ∧
    Inv (add e i actor ic wfail).1 (specStep L (.add i actor ic wfail)).1 := by
  by_cases hne : L = []
  · subst hne
    have hhas : e.kv.hasCmd 0 = false := by simp [Scope.hasCmd, h.cmds]
    cases hp : A.processInit ic with
    | error err => simp [add, phAdd, hhas, hp, specStep, Local.out, h]
    | ok ev =>
      cases wfail
      · simp only [add, phAdd, hhas, hp, specStep, Local.out]
        exact ⟨rfl, h.init hiv i actor ev⟩
      · simp [add, phAdd, hhas, hp, specStep, Local.out, h]
  · have hhas : e.kv.hasCmd 0 = true := by
      simp [Scope.hasCmd, h.cmds, List.getElem?_eq_getElem (List.length_pos_iff.mpr hne)]
    simp [add, phAdd, hhas, specStep, hne, Local.out, h]

end Phases

section HistoryQueries

theorem recordsUpTo_succ {L : Log A} {s : Nat} (hs : 1 ≤ s) (hlt : s < L.length) :
    recordsUpTo L (s + 1) = recordsUpTo L s ++ [L[s].toRecord] := by
  unfold recordsUpTo
  rw [List.take_succ_eq_append_getElem hlt, List.drop_append_of_le_length (by simp; omega)]
  simp

theorem recordsUpTo_ge {L : Log A} {s : Nat} (hs : L.length ≤ s) :
    recordsUpTo L s = recordsUpTo L L.length := by
  unfold recordsUpTo
  rw [List.take_of_length_le hs, List.take_of_length_le (Nat.le_refl _)]

theorem recordsUpTo_le_one {L : Log A} {m : Nat} (h : m ≤ 1) : recordsUpTo L m = [] := by
  unfold recordsUpTo
  exact List.map_eq_nil_iff.mpr (List.drop_eq_nil_of_le (Nat.le_trans (List.length_take_le ..) h))

theorem histLoop_spec {kv : Scope A} {L : Log A} (hc : ∀ k, kv.getCmd k = L[k]?) :
    ∀ (fuel s : Nat), 1 ≤ s → L.length - s < fuel →
      histLoop kv fuel s (recordsUpTo L s) = recordsUpTo L L.length := by
  intro fuel
  induction fuel with
  | zero => exact fun s _ h => absurd h (Nat.not_lt_zero _)
  | succ f ih =>
    intro s hs hf
    by_cases hlt : s < L.length
    · simp only [histLoop, hc, List.getElem?_eq_getElem hlt, ← recordsUpTo_succ hs hlt]
      exact ih (s + 1) (Nat.le_succ_of_le hs) (fuel_step hlt hf)
    · have hge : L.length ≤ s := Nat.le_of_not_lt hlt
      simp only [histLoop, hc, List.getElem?_eq_none hge, recordsUpTo_ge hge]

theorem nextHistVersion_spec {e : Ent A} {L : Log A} (h : Inv e L) {n : Nat} (hm : n + 1 ≤ L.length) :
    nextHistVersion (recordsUpTo L (n + 1)) = n + 1 := by
  cases n with
  | zero => rw [recordsUpTo_le_one (Nat.le_refl 1)]; rfl
  | succ n =>
    rw [recordsUpTo_succ (Nat.le_add_left 1 n) hm]
    simp only [nextHistVersion, List.getLast?_concat, Stored.toRecord,
      h.vers (n + 1) _ (List.getElem?_eq_getElem hm)]

theorem updateHistory_spec {e : Ent A} {L : Log A} (h : Inv e L) {m : Nat} (hm : m ≤ L.length) :
    updateHistory e.kv (recordsUpTo L m) = recordsUpTo L L.length := by
  have hfuel : ∀ s, L.length - s < e.kv.fuel := fun s =>
    Nat.lt_succ_of_le (Nat.le_trans (Nat.sub_le ..) (length_le_keyBound h))
  unfold updateHistory
  cases m with
  | zero =>
    -- nothing cached: the loop starts after the init command
    have := histLoop_spec h.cmds e.kv.fuel 1 (Nat.le_refl 1) (hfuel 1)
    rw [recordsUpTo_le_one (Nat.le_refl 1)] at this
    rw [recordsUpTo_le_one (Nat.zero_le 1)]
    exact this
  | succ n =>
    rw [nextHistVersion_spec h hm]
    exact histLoop_spec h.cmds e.kv.fuel (n + 1) (Nat.le_add_left 1 n) (hfuel _)

/-- With the default criteria the page is the whole list. -/
theorem pageLoop_all {rows : Nat} :
    ∀ (l : List (Record A)) (tot : Nat) (acc : List (Record A)), tot + l.length ≤ rows →
      pageLoop ({} : Criteria) rows l (0, tot, acc) = (0, tot + l.length, acc ++ l) := by
  intro l
  induction l with
  | nil => intro tot acc _; simp [pageLoop]
  | cons r t ih =>
    intro tot acc hle
    simp only [List.length_cons] at hle
    have hm : ({} : Criteria).matches r = true := rfl
    have h1 : ¬ (0 < ({} : Criteria).offset) := by simp
    have h2 : tot + 1 - 0 ≤ rows := by omega
    simp only [pageLoop, hm, if_true, h1, if_false, h2]
    rw [ih (tot + 1) (acc ++ [r]) (by rwa [Nat.add_right_comm]), Nat.add_right_comm, List.append_assoc]
    rfl

theorem historyFor_all (records : List (Record A)) :
    (historyFor ({} : Criteria) records).commands = records ∧
    (historyFor ({} : Criteria) records).total = records.length := by
  unfold historyFor
  simp [pageLoop_all (rows := records.length) records 0 [] (Nat.le_of_eq (Nat.zero_add _))]

theorem commandHistory_spec {e : Ent A} {L : Log A} (h : Inv e L) (i : Nat) (cached : Bool) :
    (commandHistory e i cached {}).2.commands = (L.drop 1).map Stored.toRecord ∧
    Inv (commandHistory e i cached {}).1 L := by
  have h0 : ([] : List (Record A)) = recordsUpTo L 0 := (recordsUpTo_le_one (Nat.zero_le 1)).symm
  have hall : recordsUpTo L L.length = (L.drop 1).map Stored.toRecord := by rw [recordsUpTo, List.take_length]
  cases cached
  · simp only [commandHistory, Bool.false_eq_true, if_false]
    rw [h0, updateHistory_spec h (Nat.zero_le _)]
    exact ⟨(historyFor_all _).1.trans hall, h⟩
  · obtain ⟨m, hm, hr⟩ : ∃ m, m ≤ L.length ∧ (alookup e.hcache i).getD [] = recordsUpTo L m := by
      cases hh : alookup e.hcache i with
      | none => exact ⟨0, Nat.zero_le _, h0⟩
      | some rs => exact h.hcache i rs hh
    simp only [commandHistory, if_true, hr, updateHistory_spec h hm]
    exact ⟨(historyFor_all _).1.trans hall, h.setHcache i (Nat.le_refl _)⟩

end HistoryQueries

section Histories

theorem step_refines {e : Ent A} {L : Log A} (hiv : A.initVersion ≤ 1) (h : Inv e L) (op : Op A) :
    (step e op).2 = (specStep L op).2 ∧ Inv (step e op).1 (specStep L op).1 := by
  -- without a replayed state the entity does not exist
  have unknown : finalOf L = none → ∀ i cmd snap wf, execOpt e i cmd snap wf = (e, .unknown) := by
    intro hf
    obtain rfl : L = [] := Classical.byContradiction fun hne => by
      obtain ⟨w, hw⟩ := h.total hne
      rw [hw] at hf; cases hf
    exact execOpt_nil h
  cases op with
  | add i actor ic wf => exact add_refines hiv h i actor ic wf
  | cmd i c wf =>
    cases hf : finalOf L with
    | none => simp only [step, command, unknown hf, specStep, hf]; exact ⟨trivial, h⟩
    | some w => exact ⟨(execOpt_cmd hiv h hf i c wf).out, (execOpt_cmd hiv h hf i c wf).inv⟩
  | get i =>
    cases hf : finalOf L with
    | none => simp only [step, getLatest, unknown hf, specStep, hf]; exact ⟨trivial, h⟩
    | some w =>
      obtain ⟨h1, h2⟩ := execOpt_read hiv h hf i false false
      simp only [specStep, hf]
      exact ⟨congrArg some h1, h2⟩
  | snap i wf =>
    cases hf : finalOf L with
    | none => simp only [step, saveSnapshot, unknown hf, specStep, hf]; exact ⟨trivial, h⟩
    | some w =>
      obtain ⟨h1, h2⟩ := execOpt_read hiv h hf i true wf
      simp only [specStep, hf]
      exact ⟨congrArg some h1, h2⟩
  | restart i => exact ⟨rfl, h.restart i⟩
  | hist i cached => exact ⟨rfl, (commandHistory_spec h i cached).2⟩

/-- A read through any store object returns the replay of the log. -/
theorem getLatest_spec {e : Ent A} {L : Log A} (hiv : A.initVersion ≤ 1) (h : Inv e L) (i : Nat) :
    (getLatest e i).2 = match finalOf L with | some w => .ok w | none => .unknown :=
  Option.some.inj ((step_refines hiv h (.get i)).1.trans (congrArg Prod.snd (specStep_get L i)))

theorem run_refines {e : Ent A} {L : Log A} (hiv : A.initVersion ≤ 1) (h : Inv e L)
    (ops : List (Op A)) : Inv (run e ops) (specRun L ops) :=
  List.foldl_rel (r := Inv) h fun op _ _ _ hI => (step_refines hiv hI op).2

theorem othersForgot_of_B {e : Ent A} {i : Nat} (h : othersForgotB e i = true) :
    othersForgot e i := by
  unfold othersForgotB at h
  rw [Bool.and_eq_true] at h
  exact fun j hj => ⟨alookup_none_of_keys h.1 hj, alookup_none_of_keys h.2 hj⟩

theorem dropSafe_of_B {e : Ent A} {ops : List (HOp A)} (h : dropSafeB e ops = true) :
    DropSafe e ops := by
  induction ops generalizing e with
  | nil => trivial
  | cons o rest ih =>
    simp only [dropSafeB, Bool.and_eq_true] at h
    refine ⟨?_, ih h.2⟩
    cases o with
    | op o' => trivial
    | drop i => exact othersForgot_of_B h.1

theorem runH_refines {e : Ent A} {L : Log A} (hiv : A.initVersion ≤ 1) (h : Inv e L)
    (ops : List (HOp A)) (hs : DropSafe e ops) : Inv (runH e ops) (specRunH L ops) := by
  induction ops generalizing e L with
  | nil => exact h
  | cons o rest ih =>
    cases o with
    | op o' => exact ih (step_refines hiv h o').2 hs.2
    | drop i => exact ih (inv_dropAggregate i hs.1) hs.2

end Histories

section Reachability

/-- The state obtained by replaying the log is reachable by commands the listener let through. -/
def FinalReachableV (L : Log A) : Prop := ∀ w, finalOf L = some w → ReachableV A w.st

theorem FinalReachableV.nil : FinalReachableV ([] : Log A) := fun _ hw => nomatch hw

theorem FinalReachableV.step (hiv : A.initVersion ≤ 1) {L : Log A} (hL : FinalReachableV L)
    (op : Op A) : FinalReachableV (specStep L op).1 := by
  -- arms of `specStep` as it is written: `add` 1-4, `cmd` 5-7, `get` 8-9, `snap` 10-11, `restart`, `hist`
  fun_cases specStep L op
  case case4 i actor ic wf _ ev hp _ =>  -- `add` on the empty log, accepted and written: the entity is created
    intro w hw
    obtain ⟨n, hn⟩ := finalOf_singleton hiv actor ev
    obtain rfl : (⟨n, A.init ev⟩ : Ver A) = w := Option.some.inj (hn.symm.trans hw)
    exact .init ic ev hp
  case case7 i c wf w hf r _ =>  -- `cmd` whose write, if any, succeeds: an error record leaves the state, a success record is a step
    rcases specCommand_cases L w c with ⟨err, _, hs⟩ | ⟨evs, s', _, hp, ha, hps, hs⟩ | ⟨hs, _⟩
    · intro w' hw'
      simp only [r, hs, finalOf_append hiv hf] at hw'
      cases hw'; exact hL w hf
    · intro w' hw'
      simp only [r, hs, finalOf_append hiv hf, applyStored, ha, Option.map_some] at hw'
      cases hw'; exact .step w.st s' c.details evs (hL w hf) hp ha hps
    · simp only [r, hs]; exact hL
  all_goals exact hL  -- every other arm leaves the log as it is

theorem FinalReachableV.run (hiv : A.initVersion ≤ 1) (ops : List (Op A)) {L : Log A}
    (hL : FinalReachableV L) : FinalReachableV (specRun L ops) :=
  List.foldlRecOn ops _ hL fun _ hL op _ => FinalReachableV.step hiv hL op

/-- Histories with `drop_aggregate`: deletion empties the log, and the empty log is trivially
fine. -/
theorem FinalReachableV.runH (hiv : A.initVersion ≤ 1) (ops : List (HOp A)) {L : Log A}
    (hL : FinalReachableV L) : FinalReachableV (specRunH L ops) :=
  List.foldlRecOn ops _ hL fun _ hL o _ =>
    match o with
    | .op o' => FinalReachableV.step hiv hL o'
    | .drop _ => FinalReachableV.nil

theorem specStep_no_panic (hA : ProcessApplicableV A) {L : Log A} (hL : FinalReachableV L)
    (op : Op A) : (specStep L op).2 ≠ some .panic := by
  fun_cases specStep L op
  case case7 i c wf w hf r _ =>  -- `cmd` whose write, if any, succeeds: `specCommand` panics only where `apply` does
    rcases specCommand_cases L w c with ⟨err, _, hs⟩ | ⟨evs, s', _, _, _, _, hs⟩ | ⟨_, hpanic⟩
    · simp [r, hs]
    · simp [r, hs]
    · intro heq
      obtain ⟨evs, hp, ha⟩ := hpanic (Option.some.inj heq)
      have := hA w.st c.details evs (hL w hf) hp
      rw [ha] at this; cases this
  case case11 => split <;> simp  -- `snap` on an existing entity: `kvErr` or `ok`
  all_goals simp  -- the other arms return a constructor other than `panic`, or nothing

end Reachability
end KM.ES
