/-
When the checked operations of `Input/Checked.lean` answer; the paging loop in closed form (`pageAt`: the
state after `k` matching records); a checked counter over a list in memory is `List.countP`.
-/
import KrillModel.Input.Checked
import KrillModel.Input.Pipeline
import KrillModel.Bgp.Lemmas
namespace KM.Input
open KM.Bgp

theorem checkedSub_eq_some {a b : Nat} (h : b ≤ a) : checkedSub a b = some (a - b) := by
  unfold checkedSub; simp [h]

theorem checkedShl_eq_none (width x s : Nat) : checkedShl width x s = none ↔ width ≤ s := by
  unfold checkedShl
  by_cases h : s < width
  · simp [h]
  · simp [h]; omega

theorem checkedAdd_eq_some {w a b : Nat} (h : a + b < 2 ^ w) : checkedAdd w a b = some (a + b) := by
  unfold checkedAdd; simp [h]

theorem checkedAdd_eq_none (w a b : Nat) : checkedAdd w a b = none ↔ 2 ^ w ≤ a + b := by
  unfold checkedAdd
  by_cases h : a + b < 2 ^ w
  · rw [if_pos h]; exact ⟨nofun, fun h' => absurd h (Nat.not_lt.mpr h')⟩
  · rw [if_neg h]; exact ⟨fun _ => Nat.le_of_not_lt h, fun _ => rfl⟩

theorem checkedAddSecs_eq_some {t d : Int} (h : minUtc ≤ t + d ∧ t + d ≤ maxUtc) :
    checkedAddSecs t d = some (t + d) := by
  unfold checkedAddSecs; rw [if_pos h]

theorem maxLengthValid_iff (r : Roa) :
    maxLengthValid r = true ↔ ∀ m, r.maxLen = some m → r.pfx.len ≤ m ∧ m ≤ r.pfx.fam.bits := by
  unfold maxLengthValid
  cases r.maxLen with
  | none => simp
  | some m => simp

/-- Two one-byte characters are cut off at a character boundary. -/
theorem sliceFrom_two {a b : Char} (rest : List Char) (ha : a.utf8Size = 1) (hb : b.utf8Size = 1) :
    sliceFrom (a :: b :: rest) 2 = some rest := by
  simp [sliceFrom, utf8Size, ha, hb]

theorem authorizesExcess_ne_none (r : Roa) (n : Nat) : authorizesExcess r n ≠ none := by
  unfold authorizesExcess
  split <;> nofun

/-- `categorise_roa` answers: its one partial step is `authorizes_excess`. -/
theorem categoriseRoa_ne_none (rc : RoaConf) (validated : List Validated) (all : List RoaConf) :
    categoriseRoa rc validated all ≠ none := by
  fun_cases categoriseRoa rc validated all
  · rename_i h
    exact absurd h (authorizesExcess_ne_none _ _)
  · nofun

/-- The state of the paging loop after `k` matching records: the first `offset` of them skipped, of
the others up to `rows` taken. -/
def pageAt (offset rows k : Nat) : Page := ⟨min k offset, k, min (k - min k offset) rows⟩

theorem pageStep_pageAt (offset rows k : Nat) (hk : k + 1 < 2 ^ 64) :
    pageStep offset rows (pageAt offset rows k) true = some (pageAt offset rows (k + 1)) := by
  by_cases hs : k < offset
  · -- still skipping
    have a : pageAt offset rows k = ⟨k, k, min 0 rows⟩ := by
      rw [pageAt, Nat.min_eq_left (Nat.le_of_lt hs), Nat.sub_self]
    have b : pageAt offset rows (k + 1) = ⟨k + 1, k + 1, min 0 rows⟩ := by
      rw [pageAt, Nat.min_eq_left hs, Nat.sub_self]
    rw [a, b]
    simp only [pageStep, Bool.not_true, Bool.false_eq_true, if_false, checkedAdd_eq_some hk,
      Option.bind_eq_bind, Option.bind_some, hs, if_true]
  · have hle : offset ≤ k := Nat.le_of_not_lt hs
    have a : pageAt offset rows k = ⟨offset, k, min (k - offset) rows⟩ := by
      rw [pageAt, Nat.min_eq_right hle]
    have b : pageAt offset rows (k + 1) = ⟨offset, k + 1, min (k + 1 - offset) rows⟩ := by
      rw [pageAt, Nat.min_eq_right (Nat.le_succ_of_le hle)]
    rw [a, b]
    simp only [pageStep, Bool.not_true, Bool.false_eq_true, if_false, checkedAdd_eq_some hk,
      Option.bind_eq_bind, Option.bind_some, Nat.lt_irrefl,
      checkedSub_eq_some (Nat.le_succ_of_le hle)]
    have hup : k - offset ≤ k + 1 - offset := Nat.sub_le_sub_right (Nat.le_succ k) offset
    split
    · -- one more is taken
      rename_i h
      rw [Nat.min_eq_left h, Nat.min_eq_left (Nat.le_trans hup h), Nat.succ_sub hle]
    · -- the page is full
      rename_i h
      have hfull : rows ≤ k - offset := by
        rw [Nat.succ_sub hle] at h
        exact Nat.le_of_lt_succ (Nat.lt_of_not_le h)
      rw [Nat.min_eq_right hfull, Nat.min_eq_right (Nat.le_trans hfull hup)]

theorem pageLoop_pageAt (offset rows : Nat) (hits : List Bool) (k : Nat)
    (hk : k + hits.length < 2 ^ 64) :
    pageLoop offset rows (pageAt offset rows k) hits =
      some (pageAt offset rows (k + hits.count true)) := by
  induction hits generalizing k with
  | nil => rfl
  | cons h rest ih =>
    rw [List.length_cons] at hk
    cases h with
    | false => exact (ih k (by omega)).trans (by rw [List.count_cons_of_ne (by decide)])
    | true =>
      rw [pageLoop, pageStep_pageAt _ _ _ (by omega), Option.bind_some, ih _ (by omega),
        List.count_cons_self, Nat.add_assoc, Nat.add_comm 1]

theorem countChecked_eq {α} (p : α → Bool) (l : List α) (hb : l.length < 2 ^ 64) :
    countChecked p l = some (l.countP p) := by
  suffices H : ∀ k, k + l.length < 2 ^ 64 →
      l.foldl (fun acc x => acc.bind fun n => if p x then checkedAdd 64 n 1 else some n) (some k) =
        some (k + l.countP p) by
    rw [countChecked, H 0 (by omega), Nat.zero_add]
  induction l with
  | nil => intro k _; rfl
  | cons x rest ih =>
    intro k hk
    rw [List.length_cons] at hk hb
    rw [List.foldl_cons, Option.bind_some]
    cases hp : p x with
    | false =>
      rw [if_neg Bool.false_ne_true, ih (by omega) k (by omega), List.countP_cons_of_neg (by rw [hp]; nofun)]
    | true =>
      rw [if_pos rfl, checkedAdd_eq_some (by omega), ih (by omega) _ (by omega),
        List.countP_cons_of_pos hp, Nat.add_assoc, Nat.add_comm 1]

end KM.Input
