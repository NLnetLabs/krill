/-
C04 — Key rollover is safe in every interleaving and always completes: in every reachable state the
events of a command are applied without panic and accepted by the listener, aggregate and published
sets mirror each other, activation moves every product in one command, and each step of the roll is
stored and moves the class on.
-/
import KrillModel.Ca.LemmasDomain
import KrillModel.Ca.Witnesses
import KrillModel.Ca.LemmasProcess
import KrillModel.Ca.LemmasAllCls
import KrillModel.Ca.LemmasKeySync
import KrillModel.Ca.LemmasActivate
import KrillModel.Ca.LemmasTidy
import KrillModel.Ca.LemmasProgress
namespace KM.Props.C04
open KM KM.CaK KM.AMap KM.Generated.ApplyDomain

/-! ## The model's partiality is the source's panic domain -/

/-- `Ca.apply` returns a state exactly when the table GENERATED from `CertAuth::apply`,
`ResourceClass::apply_*` and `KeyState` says the arm does not reach `panic!`/`unwrap()`:
the class is there where the arm unwraps the class look-up, the child is there where it unwraps
the child look-up, and the key state is one of the variants whose `apply_*` arm is not a panic
arm.  Editing a panic arm in rc.rs changes the table and this theorem no longer checks. -/
theorem apply_domain_matches_model (s : Ca) (e : Ev) : (s.apply e).isSome = applicable s e :=
  apply_isSome_eq_applicable s e

/-- The event kinds the model does not distinguish (`Ev.other`) never panic in any state. -/
theorem other_kinds_total :
    ∀ k ∈ otherKinds, dom k = ⟨false, false, false, [], allVariants⟩ := by decide +kernel

/-- Non-vacuity: an event in its panic domain and one outside. -/
example :
    applicable { classes := [(0, Rc.create 9 0 1)] } (.key 0 (.pendingToActive ⟨1, { res := [1] }, false⟩)) = true ∧
    applicable { classes := [(0, Rc.create 9 0 1)] } (.key 0 .activated) = false ∧
    applicable {} (.childKeyRevoked 5 7 1) = false := by decide +kernel

/-! ## `process` only emits events that can be applied -/

/-- For every reachable state and every modelled command – key rolls, received certificates,
entitlements, child commands including revocation requests under any class-name mapping (since fix
43d7eca0), configuration, parents, repository – the events `process` returns are applied by `apply`
without reaching a panic arm or an `unwrap` of `None`. -/
theorem process_emits_applicable {s : Sys} {c : Cmd} {evs : List Ev} (h : Reachable s)
    (hp : s.ca.process c = .ok evs) : (s.ca.applyAll evs).isSome = true := by
  obtain ⟨s', _, happ, _⟩ := exec_of_process h hp
  rw [happ]; rfl

/-- The same, stated on the generated table: every emitted event is, at the moment it is
applied, in the panic-free domain read from the source. -/
theorem process_emits_in_domain {s : Sys} {c : Cmd} {evs : List Ev} (h : Reachable s)
    (hp : s.ca.process c = .ok evs) :
    ∀ (pre post : List Ev) (e : Ev), evs = pre ++ e :: post →
      ∃ s1, s.ca.applyAll pre = some s1 ∧ applicable s1 e = true := by
  intro pre post e hsplit
  have hsome := process_emits_applicable h hp
  rw [hsplit, applyAll_append] at hsome
  cases h1 : s.ca.applyAll pre with
  | none => simp [h1] at hsome
  | some s1 =>
    refine ⟨s1, rfl, ?_⟩
    simp only [h1, Option.bind_some, Ca.applyAll] at hsome
    rw [← apply_domain_matches_model]
    cases h2 : s1.apply e with
    | none => simp [h2] at hsome
    | some _ => rfl

/-- Hence no command of any history ends in the panic outcome. -/
theorem never_panics {s : Sys} (h : Reachable s) (c : Cmd) : s.exec c ≠ .panic := by
  intro hex
  cases hp : s.ca.process c with
  | error e => simp [Sys.exec, hp] at hex
  | ok evs =>
    obtain ⟨s', hst, _⟩ := exec_of_process h hp
    cases hst.symm.trans hex

/-- The pre-save listener that maintains the published object sets accepts the events as well –
for EVERY reachable state and EVERY command (full statement since fix 239f0a59: a revocation is
executed only for a key that is in use in the class the request names, and such a class is past
`pending`, so its object sets exist; before that fix a request naming a `pending` class made the
listener fail – `pinned_revoke_for_pending_class_listener_error`). -/
theorem listener_accepts {s : Sys} {c : Cmd} {evs : List Ev} (h : Reachable s)
    (hp : s.ca.process c = .ok evs) : ∃ o', s.objs.stepAll evs = .ok o' := by
  obtain ⟨s', _, _, ho⟩ := exec_of_process h hp
  exact ⟨_, ho⟩

/-- Hence in a reachable state a command is refused or stored – never a panic, never a listener
error. -/
theorem exec_refused_or_stored {s : Sys} (h : Reachable s) (c : Cmd) :
    (∃ e, s.exec c = .refused e) ∨ ∃ evs s', s.exec c = .stored evs s' := by
  cases hp : s.ca.process c with
  | error e => exact Or.inl ⟨e, by simp [Sys.exec, hp]⟩
  | ok evs =>
    obtain ⟨s', hst, _⟩ := exec_of_process h hp
    exact Or.inr ⟨evs, s', hst⟩

/-- The corner case of `listener_accepts`: class 1 exists but is pending, the child
(certified under class 0) names class 1 in a revocation request.  Counter-model of the PINNED tree
(before 239f0a59): the request was executed for class 1 and the listener failed (the command was
not stored).  On the current tree it is refused by `process` (F-C03-3). -/
theorem pinned_revoke_for_pending_class_listener_error :
    let s := Sys.run {} pendingClassHistory
    Reachable s ∧ s.pinnedExec (.childRevokeKey 7 1 6) = .listenerError .missingClass ∧
    s.exec (.childRevokeKey 7 1 6) = .refused .noIssuedCert :=
  ⟨reachable_run .init _, by decide +kernel, by decide +kernel⟩

/-- Counter-model of the pinned tree (before 43d7eca0, F-C04-1): with the class test made on the
child's name, a mapping to a class this CA does not have made `process` return
`ChildKeyRevoked` for the unknown class, and `apply` unwrapped `None` (certauth.rs:391-393).
On the fixed tree the same request is answered with no event.  Since fix 02d8de59 the mapping of
that history itself (`.childMapping 7 5 0`: a missing class onto the name of the class the child is
certified under) is refused, so the state is built with the pinned `process` (`Sys.pinnedRun`);
the last conjunct says the current tree refuses the mapping. -/
theorem pinned_revoke_under_mapping_panics :
    let s := Sys.pinnedRun {} witnessMapped
    s.ca.pinnedRevoke 7 0 6 = .ok [.childKeyRevoked 7 5 6, .childCerts 5 { removed := [6] }] ∧
    s.ca.applyAll [.childKeyRevoked 7 5 6, .childCerts 5 { removed := [6] }] = none ∧
    s.ca.process (.childRevokeKey 7 0 6) = .ok [] ∧
    (Sys.run {} (witnessMapped.take 6)).exec (.childMapping 7 5 0) = .refused .childNameClash := by decide +kernel

/-- Counter-model of the pinned tree (F-C03-1): a revocation request under a mapped class name
was answered positively and ignored; on the fixed tree it revokes. -/
theorem pinned_revoke_mapped_ignored :
    let s := Sys.run {} witnessRenamed
    s.ca.pinnedRevoke 7 5 6 = .ok [] ∧
    (match s.exec (.childRevokeKey 7 5 6) with
      | .stored evs s' => evs == [.childKeyRevoked 7 0 6, .childCerts 0 { removed := [6] }] &&
          ((get s'.ca.classes 0).map (·.certs.issued) == some [])
      | _ => false) = true := by decide +kernel

/-- Non-vacuity: the request without a mapping is stored (both sides accept the events). -/
example :
    (match (Sys.run {} (witnessMapped.take 6)).exec (.childRevokeKey 7 0 6) with
      | .stored evs _ => evs == [.childKeyRevoked 7 0 6, .childCerts 0 { removed := [6] }]
      | _ => false) = true := by decide +kernel

/-! ## Mirror: aggregate key state ↔ published object sets -/

/-- In every reachable state each resource class and its published object sets agree:
`pending` ↔ no object class, `active`/`rollPending` ↔ `current`, `rollNew` ↔ `staging`,
`rollOld` ↔ `old`, with the same keys holding the same certificates, and there is no object
class without a resource class (no key publishes without a certificate held by the aggregate).
It is preserved by every event batch because every reachable state has it. -/
theorem mirror {s : Sys} (h : Reachable s) : s.mirrorOk = true := by
  have hinv := (reachable_inv h).core
  simp only [Sys.mirrorOk, Bool.and_eq_true, List.all_eq_true]
  constructor
  · intro r _
    cases hg : get s.ca.classes r with
    | none => rfl
    | some rc => exact (hinv.cls_some hg).mirror
  · intro r hr
    cases hg : get s.ca.classes r with
    | some rc => rfl
    | none =>
      have hs := get_isSome_iff_mem_keys.mpr hr
      rw [hinv.cls_none hg] at hs; cases hs

/-- One batch: a stored command takes a mirrored pair to a mirrored pair. -/
theorem mirror_step {s : Sys} (h : Reachable s) (c : Cmd) : (s.next c).mirrorOk = true :=
  mirror (Reachable.step c h)

/-- Keys of one class are pairwise different in every reachable state (what routing a received
certificate by key identifier relies on). -/
theorem keys_distinct {s : Sys} (h : Reachable s) (r : Rcn) (rc : Rc) (hg : get s.ca.classes r = some rc) :
    rc.keys.distinct = true :=
  ((reachable_inv h).core.cls_some hg).distinct

/-! ## Single signer -/

/-- In every reachable state only the current key set of a class carries products: the staging
set (new key before activation) and the old set (old key after activation) publish nothing but
their manifest and CRL. -/
theorem single_signer {s : Sys} (h : Reachable s) : s.singleSigner = true := by
  have hinv := (reachable_inv h).core
  simp only [Sys.singleSigner, List.all_eq_true]
  intro r _
  cases hgo : get s.objs r with
  | none => rfl
  | some ok =>
    cases hg : get s.ca.classes r with
    | none => cases (hinv.cls_none hg).symm.trans hgo
    | some rc => exact (hinv.cls_some hg).sideEmpty hgo

/-! ## Activation moves every product in one command -/

/-- The command that stores `KeyRollActivated` for a class (new key `n`, current key `c`, both
without open request) leaves the published object sets of that class as follows – **in that
one command**: the set of the old key `c` publishes nothing (manifest and CRL only); the set of
the new key `n`, which published nothing before, publishes a product name exactly when the
class holds that product (ROA, ASPA, router certificate) and a child certificate name exactly
when the key was issued and has no `suspended` entry.  Nothing the class holds is lost, nothing
is published twice. -/
theorem activation_moves_everything {s s' : Sys} (h : Reachable s) {na : Int} {evs : List Ev}
    (hex : s.exec (.keyrollActivate na) = .stored evs s') {r : Rcn} {rc : Rc} {n c : CertKey}
    (hg : get s.ca.classes r = some rc) (hk : rc.keys = .rollNew n c) :
    ∃ cs' os', get s'.objs r = some (.old cs' os') ∧ os'.published = [] ∧ os'.key = c.id ∧ cs'.key = n.id ∧
      ∀ nm : OName, (get cs'.published nm).isSome =
        (match nm with
          | .prod k id => (get rc.products (k, id)).isSome
          | .cer key => (get rc.certs.issued key).isSome && !(get rc.certs.suspended key).isSome) := by
  have hinv := (reachable_inv h).core
  -- the object class before: staging, publishing nothing
  have hm := (hinv.cls_some hg).mirror
  rw [hk] at hm
  obtain ⟨ss, cs, hgo, hss, _, hcsk, _⟩ := ksMirror_rollNew.mp hm
  have hemp : ss.published = [] := by
    have := (hinv.cls_some hg).sideEmpty hgo
    simpa [ObjKeys.sideSetsEmpty] using this
  obtain ⟨hp, hr⟩ := exec_stored_iff.mp hex
  obtain ⟨ca', o'⟩ := s'
  rw [process_keyrollActivate] at hp
  -- the object class sees the chunk of its own class only
  obtain ⟨hon, hchunk, _⟩ := forClasses_evsOf (fun r rc evs h => (activateClass_ready na r rc evs h).1) hinv.nodup hp
  have ha := hchunk (r, rc) (mem_of_get hg)
  obtain ⟨ok', happ, hgo2⟩ := get_stepAll hon (runEvs_some_iff.mp hr).2 (activateClass_notCreate ha) hgo
  obtain ⟨cs', happ', hkey, _, hret, hnames⟩ := activate_objs hk ha ss cs hemp
  cases happ'.symm.trans happ
  exact ⟨cs', cs.retire, hgo2, hret, hcsk, hkey.trans hss, hnames⟩

/-
Full statement (`no_loss_no_dup`): for every reachable state, the set of names the current key
publishes is the same before and after the activation command.

Proved (`no_loss_no_dup_partial`): the statement under the hypothesis that makes it a statement
about the activation command alone – before the command the current set publishes what the
class holds (the `objects_mirror` relation of C01).  That no key is both issued and suspended
is an invariant of every history since fix bb96d233 (`reachable_tidy`) and needs no hypothesis.
Missing: `objects_mirror` as an invariant (that is property C01) is not proved here.
-/

/-- If before activation the current set publishes exactly what the class holds, the new key's
set publishes exactly the same names after the activation command, and the old key's set none. -/
theorem no_loss_no_dup_partial {s s' : Sys} (h : Reachable s) {na : Int} {evs : List Ev}
    (hex : s.exec (.keyrollActivate na) = .stored evs s') {r : Rcn} {rc : Rc} {n c : CertKey}
    (hg : get s.ca.classes r = some rc) (hk : rc.keys = .rollNew n c)
    {ss cs : ObjSet} (_hgo : get s.objs r = some (.staging ss cs))
    (hom : ∀ nm : OName, (get cs.published nm).isSome =
      (match nm with
        | .prod k id => (get rc.products (k, id)).isSome
        | .cer key => (get rc.certs.issued key).isSome)) :
    ∃ cs' os', get s'.objs r = some (.old cs' os') ∧ os'.published = [] ∧
      ∀ nm : OName, (get cs'.published nm).isSome = (get cs.published nm).isSome := by
  have ht : TidyC rc.certs := reachable_tidy h r rc hg
  obtain ⟨cs', os', h1, h2, _, _, h5⟩ := activation_moves_everything h hex hg hk
  refine ⟨cs', os', h1, h2, ?_⟩
  intro nm
  rw [h5 nm, hom nm]
  cases nm with
  | prod k id => rfl
  | cer key =>
    simp only
    cases hi : get rc.certs.issued key with
    | none => rfl
    | some cc =>
      have := ht.disj key (by simp [hi])
      simp [this]

/-- Counter-model of the pinned tree (before bb96d233, F-C02-1 seen from the roll): after
suspend → unsuspend the pinned `add_issued_certificate` left key 6 in both maps; `activate_key`
then re-issued both entries and the update dropped the active child's certificate. -/
theorem pinned_activation_loses_stale_child :
    let cc : ChildCert := { res := [1], na := 60 }
    let stale := ((({} : ChildCerts).addIssued (6, cc)).suspend (6, cc)).pinnedAddIssued (6, { cc with na := 61 })
    get stale.issued 6 = some { res := [1], na := 61 } ∧ get stale.suspended 6 = some cc ∧
    (match stale.activateKey { res := [1, 2], na := 100 } 63 with
      | .ok upd => get (stale.pinnedApplyUpd upd).issued 6 == none
      | .error _ => false) = true := by decide +kernel

/-- The same history on the fixed tree: the roll keeps the unsuspended child's certificate. -/
example :
    let s := Sys.run {} staleRoll
    (get s.objs 0).map (fun ok => keys ok.currentSet.published) = some [.cer 6, .prod .roa 31] ∧
    (get (s.next (.keyrollActivate 63)).objs 0).map (fun ok => keys ok.currentSet.published) =
      some [.cer 6, .prod .roa 31] ∧
    (get (s.next (.keyrollActivate 63)).ca.classes 0).map (fun rc => (keys rc.certs.issued, keys rc.certs.suspended)) =
      some ([6], []) := by decide +kernel

/-- After the command that stores `KeyRollFinished` the old key's set is gone: the class has one
object set, the current one. -/
theorem finish_removes_old_set {s s' : Sys} (h : Reachable s) {r : Rcn} {evs : List Ev}
    (hex : s.exec (.keyrollFinish r) = .stored evs s') :
    ∃ cs, get s'.objs r = some (.current cs) := by
  obtain ⟨hp, _⟩ := exec_stored_iff.mp hex
  obtain ⟨rc, c, o, hg, hk, rfl⟩ := process_keyrollFinish.mp hp
  obtain ⟨hex', honly⟩ := class_cmd (rc' := { rc with keys := .active c }) h hg hp
    (List.forall_mem_singleton.mpr (decide_eq_true rfl)) (by rw [Rc.applyEvs, Rc.applyEv, hk]; rfl)
  cases hex.symm.trans hex'
  obtain ⟨cs, hcs, _⟩ := ksMirror_active.mp ((reachable_inv (.step _ h)).core.cls_some honly.classAt).mirror
  exact ⟨cs, hcs⟩

/-- Non-vacuity of `activation_moves_everything` / `no_loss_no_dup_partial`: a roll with a ROA
and a child certificate. -/
example :
    let s := Sys.run {} (staleRoll.take 7 ++ [.keyrollInit [(0, 5)], .updateRcvdCert 0 5 { res := [1, 2], na := 100 } 62 []])
    (get s.ca.classes 0).map (·.keys.variant) = some .rollNew ∧
    (get s.objs 0).map (fun ok => keys ok.currentSet.published) = some [.prod .roa 31, .cer 6] ∧
    (get (s.next (.keyrollActivate 63)).objs 0).map (fun ok => (keys ok.currentSet.published, ok.sideSetsEmpty)) =
      some ([.cer 6, .prod .roa 31], true) := by decide +kernel

/-- "Once the parent confirms revocation … the certificate disappears": a revocation request that
is stored with events leaves no certificate for that key in the parent's class – neither issued
nor suspended. -/
theorem revoke_removes_certificate {s s' : Sys} {ch : Handle} {childRcn : Rcn} {ki : KeyId} {evs : List Ev}
    (hex : s.exec (.childRevokeKey ch childRcn ki) = .stored evs s') (hne : evs ≠ []) :
    ∃ cd rc', get s.ca.children ch = some cd ∧ get s'.ca.classes (cd.nameInParent childRcn) = some rc' ∧
      get rc'.certs.issued ki = none ∧ get rc'.certs.suspended ki = none := by
  obtain ⟨hp, hr⟩ := exec_stored_iff.mp hex
  obtain ⟨cd, rc, hcd, hrc, rfl⟩ := process_childRevokeKey hp hne
  obtain ⟨ca', o'⟩ := s'
  have ha := (runEvs_some_iff.mp hr).1
  -- `ChildKeyRevoked` drops the key from both maps of the class, the update drops it once more
  simp only [Ca.applyAll, Ca.apply, Ca.withClass, Ca.withChild, hrc, hcd, Option.bind_some, get_set_self,
    Option.some.injEq] at ha
  subst ha
  exact ⟨cd, _, hcd, get_set_self .., get_del_self .., get_del_self ..⟩

/-! ## A second roll request is a no-op -/

/-- `append_keyroll_initiate` emits nothing unless the class is `Active`. -/
theorem initiate_nonactive_emits_nothing (ks : KeyState) (k : KeyId) (h : ks.variant ≠ .active) :
    ks.keyrollInitiate k = [] := by
  cases ks <;> simp [KeyState.keyrollInitiate, KeyState.variant] at h ⊢

/-- Every event of a key-roll initiate is about a class that is `Active`. -/
theorem initiate_only_active {s : Sys} {fresh : AMap Rcn KeyId} {evs : List Ev} (h : Reachable s)
    (hp : s.ca.process (.keyrollInit fresh) = .ok evs) :
    ∀ e ∈ evs, ∃ r rc c, e.rcn? = some r ∧ get s.ca.classes r = some rc ∧ rc.keys = .active c := by
  intro e he
  obtain ⟨p, hpm, a, ha, hea⟩ := mem_forClasses (process_keyrollInit hp) he
  obtain ⟨c, _, hk, hr⟩ := initClass_mem ha hea
  exact ⟨p.1, p.2, c, by rcases hr with rfl | rfl <;> rfl, get_of_mem_nodup (reachable_inv h).core.nodup hpm, hk⟩

/-- After a stored key-roll initiate no class is `Active`, so a second initiate – with whatever
new keys – emits no event (and so changes nothing): a second roll request during a roll is a
no-op. -/
theorem second_roll_noop {s s' : Sys} {f1 f2 : AMap Rcn KeyId} {evs evs2 : List Ev} (h : Reachable s)
    (hex : s.exec (.keyrollInit f1) = .stored evs s')
    (hp2 : s'.ca.process (.keyrollInit f2) = .ok evs2) : evs2 = [] := by
  obtain ⟨hp, hr⟩ := exec_stored_iff.mp hex
  have hnd' := (reachable_inv (reachable_stored h hex)).core.nodup
  obtain ⟨ca', o'⟩ := s'
  -- no class of the new state is active
  have hnon : AllCls (fun rc => rc.keys.variant ≠ .active) ca' :=
    forClasses_allCls (fun _ => True) _
      (fun r rc evs h => ⟨(initClass_ready f1 r rc evs h).1, fun _ => initClass_post f1 r rc evs h⟩)
      (reachable_inv h).core.nodup (fun _ _ _ => trivial) (process_keyrollInit hp) (runEvs_some_iff.mp hr).1
  exact forClasses_nil (process_keyrollInit hp2)
    fun p hpm a ha => initClass_nonactive (hnon p.1 p.2 (get_of_mem_nodup hnd' hpm)) ha

/-- Non-vacuity: a roll in progress, a second initiate. -/
example :
    let s := Sys.run {} [.repoUpdate [], .addParent 9,
      .updateEntitlements 9 [⟨0, [1, 2], 100, []⟩] 0 [4],
      .updateRcvdCert 0 4 { res := [1, 2], na := 100 } 50 [], .keyrollInit [(0, 5)]]
    (get s.ca.classes 0).map (·.keys.variant) = some .rollPending ∧
    s.ca.process (.keyrollInit [(0, 6)]) = .ok [] := by decide +kernel

/-! ## A roll always completes -/

/-
Full statement: from every reachable `Sys` state with a roll in progress in some class, and any
interleaved operations, the schedule (sync with the parent, activate, sync with the parent)
repeated at most 3 times leaves the class `Active` with one key, given the parent answers.

Proved (`roll_completes_partial`): the statement for the class's key-state machine
(`Ca/KeySync.lean`: `syncStep` = "pending requests → revocation confirmed, certificates received
for every open request, else entitlements → requests created"; `activateStep`), for **every**
well-formed key state with a roll in progress, every offer of the parent and every clock value –
and two rounds suffice.  What is missing for the full statement: the projection of the
`Sys`-level manager steps onto this machine is checked on traces by the `syskeys` driver, not
proved; at the `Sys` level `KeyRollActivate` is refused as a whole while *any* class has a new
key with open requests (certauth.rs:2101-2112), `activate_key` / `shrink_overclaiming` can fail
for child certificates with request limits, and under the TA the answers need a proxy/signer
exchange in between.
-/

/-- From every well-formed key state with a roll in progress (`RollPending`, `RollNew`,
`RollOld`, any request flags, any certificates), two rounds of (sync, activate, sync) with an
answering parent end in `Active` with a single key. -/
theorem roll_completes_partial (ks : KeyState) (hwf : ks.wf = true) (hr : ks.rolling = true)
    (o : Offer) (now : Int) : ∃ c, (ks.round o now).round o now = .active c := by
  obtain ⟨h1, hwf1⟩ := abs_round hwf o now
  obtain ⟨h2, _⟩ := abs_round hwf1 o now
  have ha := aState_two_rounds (ks.abs o now) (abs_wf hwf o now) (by rw [abs_rolling]; exact hr)
  rw [← h1, ← h2, abs_isActive] at ha
  exact variant_active (of_decide_eq_true ha)

/-- Once `Active`, further rounds keep the class `Active` (the roll stays finished). -/
theorem active_stays_active (c : CertKey) (o : Offer) (now : Int) :
    ∃ c', (KeyState.active c).round o now = .active c' := by
  have hwf : (KeyState.active c).wf = true := rfl
  obtain ⟨h1, _⟩ := abs_round hwf o now
  have : ((KeyState.active c).abs o now).round.isActive = true := by
    generalize hgen : (c.abs o now) = ak
    obtain ⟨r, w⟩ := ak
    simp only [KeyState.abs, hgen]
    cases r <;> cases w <;> decide
  rw [← h1, abs_isActive] at this
  exact variant_active (of_decide_eq_true this)

/-- Non-vacuity: the longest path – a roll whose pending key has no request on file and whose
current key has an outdated certificate. -/
example :
    let ks : KeyState := .rollPending ⟨2, false⟩ ⟨1, { res := [1, 2, 3], na := 1000 }, false⟩
    let o : Offer := ⟨[1, 2], 2000⟩
    ks.wf = true ∧ ks.rolling = true ∧
    (ks.round o 0).variant = .rollNew ∧
    ((ks.round o 0).round o 0) = .active ⟨2, o.cert, false⟩ := by decide +kernel

/-! ## Progress of the roll at the `Sys` level, from every reachable state

Whatever was interleaved before (the state is an arbitrary reachable one, with any number of
classes, children, products), the next step of the roll is never refused, never panics, is
accepted by the listener and moves the class to the next roll state. -/

/-- Initiate: with a repository and a usable fresh key for every `Active` class, the command is
stored and afterwards no class is `Active` any more (each got its pending key; classes that were
not `Active` are untouched, `second_roll_noop`). -/
theorem roll_initiate_progress {s : Sys} (h : Reachable s) (hrepo : s.ca.hasRepo = true)
    (fresh : AMap Rcn KeyId)
    (hfresh : ∀ p ∈ s.ca.classes, ∀ c, p.2.keys = .active c → ∃ k, get fresh p.1 = some k ∧ k ≠ c.id) :
    ∃ evs s', s.exec (.keyrollInit fresh) = .stored evs s' ∧ Reachable s' ∧
      ∀ p ∈ s.ca.classes, ∃ rc', get s'.ca.classes p.1 = some rc' ∧ rc'.keys.variant ≠ .active := by
  obtain ⟨evs, hevs⟩ := forClasses_ok_of_all (f := initClass fresh)
    fun p hp => initClass_ok (hfresh p hp)
  obtain ⟨hex, _, _, hpost⟩ := loop_cmd h (fun r rc a ha => (initClass_ready fresh r rc a ha).1)
    ((process_keyrollInit_repo hrepo fresh).trans hevs) hevs
  refine ⟨evs, _, hex, .step _ h, fun p hpm => ?_⟩
  obtain ⟨a, rc', ha, happ', hg'⟩ := hpost p.1 p.2 (get_of_mem_nodup (reachable_inv h).core.nodup hpm)
  exact ⟨rc', hg', initClass_post fresh p.1 p.2 a ha rc' happ'⟩

/-- Certificate for the new key received: in `RollPending` the parent's answer for the pending key
is always stored and the class is `RollNew` with that certificate, the current key untouched. -/
theorem roll_receive_progress {s : Sys} (h : Reachable s) {r : Rcn} {rc : Rc} {p : PendKey} {c : CertKey}
    (hg : get s.ca.classes r = some rc) (hk : rc.keys = .rollPending p c) (cert : Cert) (na : Int)
    (prods : List ProdUpd) :
    ∃ s', s.exec (.updateRcvdCert r p.id cert na prods) =
        .stored [.key r (.pendingToNew (CertKey.create p.id cert))] s' ∧ Reachable s' ∧
      get s'.ca.classes r = some { rc with keys := .rollNew (CertKey.create p.id cert) c } := by
  obtain ⟨hex, honly⟩ := class_cmd h hg (c := .updateRcvdCert r p.id cert na prods)
    (evs := [.key r (.pendingToNew (CertKey.create p.id cert))])
    (rc' := { rc with keys := .rollNew (CertKey.create p.id cert) c })
    (by unfold Ca.process; simp [hg, hk, KeyState.route]) (List.forall_mem_singleton.mpr (decide_eq_true rfl))
    (by rw [Rc.applyEvs, Rc.applyEv, hk]; rfl)
  exact ⟨_, hex, .step _ h, honly.classAt⟩

/-- Activate: if every class that has a new key is `activatable` (no open request for its keys;
every child certificate carries its limit and lies inside the new key's certificate – e.g. the
parent certified the new key with the resources of the current one), the command is stored and
every such class is `RollOld` with the new key current and the old key old.  Together with
`activation_moves_everything` this is the activation step from every reachable state. -/
theorem roll_activate_progress {s : Sys} (h : Reachable s) (na : Int)
    (hall : ∀ p ∈ s.ca.classes, p.2.activatable) :
    ∃ evs s', s.exec (.keyrollActivate na) = .stored evs s' ∧ Reachable s' ∧
      ∀ r rc n c, get s.ca.classes r = some rc → rc.keys = .rollNew n c →
        ∃ rc' n' c', get s'.ca.classes r = some rc' ∧ rc'.keys = .rollOld n' c' ∧ n'.id = n.id ∧ c'.id = c.id := by
  obtain ⟨evs, hevs⟩ := forClasses_ok_of_all (f := fun r rc => activateClass r rc na)
    (fun p hp => activateClass_ok na (hall p hp))
  obtain ⟨hex, _, _, hpost⟩ := loop_cmd h (fun r rc a ha => (activateClass_ready na r rc a ha).1)
    ((process_keyrollActivate _ na).trans hevs) hevs
  refine ⟨evs, _, hex, .step _ h, fun r rc n c hg hk => ?_⟩
  -- the class record after its own chunk: `KeyRollActivated`, then payload events
  obtain ⟨a, rc', ha, happ', hg'⟩ := hpost r rc hg
  obtain ⟨upd, hch⟩ := activateClass_rollNew hk ha
  obtain ⟨prods, h1⟩ := hch.applyEvs
  cases h1.symm.trans happ'
  exact ⟨_, n, c, hg', rfl, rfl, rfl⟩

/-- Revocation confirmed: in `RollOld` the finish command is always stored; the class is `Active`
with the new key and (`finish_removes_old_set`) the old key's object set is gone. -/
theorem roll_finish_progress {s : Sys} (h : Reachable s) {r : Rcn} {rc : Rc} {c o : CertKey}
    (hg : get s.ca.classes r = some rc) (hk : rc.keys = .rollOld c o) :
    ∃ s', s.exec (.keyrollFinish r) = .stored [.key r .finished] s' ∧ Reachable s' ∧
      get s'.ca.classes r = some { rc with keys := .active c } ∧ ∃ cs, get s'.objs r = some (.current cs) := by
  obtain ⟨hex, honly⟩ := class_cmd h hg (process_keyrollFinish.mpr ⟨rc, c, o, hg, hk, rfl⟩)
    (List.forall_mem_singleton.mpr (decide_eq_true rfl)) (by rw [Rc.applyEvs, Rc.applyEv, hk]; rfl)
  exact ⟨_, hex, .step _ h, honly.classAt, finish_removes_old_set h hex⟩

/-- `roll_completes` for one class at the `Sys` level: from every reachable state in which class `r`
has a pending key (`RollPending`, whatever else was interleaved), the three remaining roll steps –
certificate for the new key received, activate, revocation confirmed – are each stored and leave
the class `Active` with the new key as its only key, provided the classes are `activatable` when
the activation is submitted (stated on the intermediate state). -/
theorem roll_completes_from_pending {s : Sys} (h : Reachable s) {r : Rcn} {rc : Rc} {p : PendKey} {c : CertKey}
    (hg : get s.ca.classes r = some rc) (hk : rc.keys = .rollPending p c) (cert : Cert) (na na' : Int)
    (hact : ∀ q ∈ (s.next (.updateRcvdCert r p.id cert na [])).ca.classes, q.2.activatable) :
    let s3 := ((s.next (.updateRcvdCert r p.id cert na [])).next (.keyrollActivate na')).next (.keyrollFinish r)
    Reachable s3 ∧ ∃ rc' k, get s3.ca.classes r = some rc' ∧ rc'.keys = .active k ∧ k.id = p.id ∧
      ∃ cs, get s3.objs r = some (.current cs) := by
  obtain ⟨s1, hex1, hr1, hg1⟩ := roll_receive_progress h hg hk cert na []
  rw [next_of_stored hex1] at hact ⊢
  obtain ⟨evs2, s2, hex2, hr2, hpost2⟩ := roll_activate_progress hr1 na' hact
  obtain ⟨rc2, n', c', hg2, hk2, hn', _⟩ := hpost2 r _ _ _ hg1 rfl
  obtain ⟨s3, hex3, hr3, hg3, hobj⟩ := roll_finish_progress hr2 hg2 hk2
  rw [next_of_stored hex2, next_of_stored hex3]
  exact ⟨hr3, _, n', hg3, rfl, by rw [hn']; rfl, hobj⟩

/-- Non-vacuity: a class with a ROA and a child certificate, a second class in another roll state;
every hypothesis above holds and the three steps end `Active` with key 5. -/
example :
    let s := Sys.run {} (staleRoll.take 7 ++ [.keyrollInit [(0, 5)]])
    (get s.ca.classes 0).map (·.keys.variant) = some .rollPending ∧
    (let s1 := s.next (.updateRcvdCert 0 5 { res := [1, 2], na := 100 } 62 [])
     (get s1.ca.classes 0).map (·.keys.variant) = some .rollNew ∧
     (let s3 := (s1.next (.keyrollActivate 63)).next (.keyrollFinish 0)
      (get s3.ca.classes 0).map (·.keys) = some (.active ⟨5, { res := [1, 2], na := 100 }, false⟩) ∧
      (get s3.objs 0).map (fun ok => keys ok.currentSet.published) = some [.cer 6, .prod .roa 31])) := by decide +kernel

/-- Non-vacuity of `activatable`: holds for the class above after the certificate for the new key
arrived; fails when the new key was certified with fewer resources than a child certificate holds
(then activation is refused as a whole until the current key's certificate shrinks too). -/
example :
    let cc : ChildCert := { res := [1], na := 60 }
    (Rc.mk 9 0 (.rollNew ⟨5, { res := [1, 2] }, false⟩ ⟨4, { res := [1, 2] }, false⟩) { issued := [(6, cc)] } []).activatable ∧
    ¬ (Rc.mk 9 0 (.rollNew ⟨5, { res := [2] }, false⟩ ⟨4, { res := [1, 2] }, false⟩) { issued := [(6, cc)] } []).activatable := by
  exact ⟨⟨rfl, rfl, by decide +kernel⟩, fun h => absurd (h.2.2 _ (List.mem_cons_self ..)).2 (by decide +kernel)⟩

/-! ## Which class a confirmed revocation finishes (seeded change C04-r6)

The parent's confirmation of the revocation of a class's old key ends the old-key phase of THAT class: the manager issues
`KeyRollFinish` under the CA's own name of the class.  Issued under another name (the name the PARENT uses for the class, which
differs as soon as the CA has a second parent) it either finishes a class on the confirmation of another parent, or is
refused – and the class it was meant for stays in its old-key phase.  The dynamic side is the oracle `RollCompletes`
(`syskeys C04`, corpus `system/c04-roll-two-krill-parents`). -/

/-- A `KeyRollFinish` for class `r` succeeds exactly when class `r` exists and is in its old-key phase,
and then emits the one event `KeyRollFinished` FOR CLASS `r`. -/
theorem keyroll_finish_iff (s : Ca) (r : Rcn) :
    (∀ evs, s.process (.keyrollFinish r) = .ok evs → evs = [.key r .finished]) ∧
    ((∃ evs, s.process (.keyrollFinish r) = .ok evs) ↔
      ∃ rc, get s.classes r = some rc ∧ rc.keys.variant = .rollOld) := by
  refine ⟨fun evs h => ?_, ⟨fun ⟨evs, h⟩ => ?_, fun ⟨rc, hg, hv⟩ => ?_⟩⟩
  · obtain ⟨_, _, _, _, _, rfl⟩ := process_keyrollFinish.mp h; rfl
  · obtain ⟨rc, c, o, hg, hk, _⟩ := process_keyrollFinish.mp h
    exact ⟨rc, hg, by rw [hk]; rfl⟩
  · cases hk : rc.keys with
    | rollOld c o => exact ⟨_, process_keyrollFinish.mpr ⟨rc, c, o, hg, hk, rfl⟩⟩
    | _ => rw [hk] at hv; cases hv

/-- Applying `KeyRollFinished` for class `r'` leaves every other class as it was: a
confirmation booked under the wrong name cannot end the old-key phase of the class it was given for. -/
theorem finish_touches_named_class_only (s s' : Ca) (r r' : Rcn) (hne : r' ≠ r)
    (h : s.apply (.key r' .finished) = some s') : get s'.classes r = get s.classes r := by
  obtain ⟨rc, rc', _, _, rfl⟩ := Ca.withClass_some (r := r') h
  exact get_set_ne s.classes rc' hne

/-- Non-vacuity (the situation of corpus `system/c04-roll-two-krill-parents`): class 0 under parent `a`, class 1 under parent `p`,
both in their old-key phase.  A `KeyRollFinish` for class 0 finishes class 0 - and leaves class 1 in its old-key phase: the
confirmation `p` gave for class 1 must be booked under 1, not under the name 0 that `p` uses for it. -/
example :
    let k (i : Nat) : CertKey := ⟨i, { res := [1] }, false⟩
    let s : Ca := { classes := [(0, { parent := 10, parentRcn := 0, keys := .rollOld (k 2) (k 1) }),
                                (1, { parent := 11, parentRcn := 0, keys := .rollOld (k 4) (k 3) })],
                    parents := [10, 11], nextClass := 2, hasRepo := true }
    s.process (.keyrollFinish 0) = .ok [.key 0 .finished] ∧
    ((s.apply (.key 0 .finished)).bind fun s' => get s'.classes 1) = get s.classes 1 ∧
    ((s.apply (.key 0 .finished)).bind fun s' => (get s'.classes 0).map (·.keys.variant)) = some .active := by decide +kernel

end KM.Props.C04
