/-
C13 (source tie) — the hand-written model of `Role::is_allowed` (`KM.Http.Role.isAllowed`,
Http/Role.lean) equals the definition that the translator `pure_fns` regenerates from
`/repo/src/daemon/http/auth/roles.rs` on every run (`Generated/PureFnsC13.lean`,
`KM.Gen.C13.Role.is_allowed`).

`role_semantics`, `served_iff` and `listing_filtered` (Props/C13.lean) are about `Role.isAllowed`:
a request for a specific CA is judged by that CA's own entry when the role has one (whether it
grants more or less than the blanket set), otherwise by the blanket set `any`; a request without a
resource by `none`.  With `gen_is_allowed_eq_model` that precedence is tied to the Rust `match`
arm by arm: swapping `any` and `none`, consulting `any` before the entry, or-ing the entry with the
blanket set, ignoring the resource – each such edit changes the generated definition and this file
stops checking.  (The `permissions` translator records only the *shape* of the function; this is
its body.)

Abstracted in the generated definition and instantiated here: `PermissionSet::has` ↦ `KM.Http.has`,
`self.resources.get` ↦ `Role.entry` (first entry of the handle in the association list).
-/
import KrillModel.Generated.PureFnsC13
import KrillModel.Http.Lemmas
namespace KM.Props.C13Src
open KM.Http KM.Generated

/-- The generated body with the model's permission sets plugged in. -/
abbrev genIsAllowed (r : Role) (p : Permission) (res : Option Handle) : Bool :=
  KM.Gen.C13.Role.is_allowed (H := Handle) (P := Permission) (S := PermSet) has r.entry r.any r.none p res

/-- `Role::is_allowed` as translated from the source = the model the C13 theorems are about, for
every role, permission and resource. -/
theorem gen_is_allowed_eq_model (r : Role) (p : Permission) (res : Option Handle) :
    genIsAllowed r p res = r.isAllowed p res := by
  cases res with
  | none => rfl
  | some h =>
    simp only [genIsAllowed, KM.Gen.C13.Role.is_allowed, Role.isAllowed]
    cases r.entry h <;> rfl

/-- Hence the generated body consults exactly `Role.perms`. -/
theorem gen_is_allowed_eq_perms (r : Role) (p : Permission) (res : Option Handle) :
    genIsAllowed r p res = has (r.perms res) p := by
  rw [gen_is_allowed_eq_model, isAllowed_eq_has_perms]

/-- Non-vacuity: a role whose own entry for `ca1` grants LESS than its blanket set – the generated
body refuses on `ca1` what it allows on `ca2`, and judges a request without resource by `none`. -/
example :
    let r : Role := ⟨[], Permission.all, [("ca1", [])]⟩
    ∀ p ∈ Permission.all,
      genIsAllowed r p (some "ca1") = false ∧ genIsAllowed r p (some "ca2") = true ∧
        genIsAllowed r p none = false := by
  intro r p hp
  simp only [gen_is_allowed_eq_perms]
  exact ⟨has_nil p, List.contains_iff_mem.mpr hp, has_nil p⟩

end KM.Props.C13Src
