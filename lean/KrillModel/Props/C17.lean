/-
C17 — ROA analysis agrees with RFC 6811 origin validation.

The model (`Bgp/Validate.lean`, `Bgp/Analyse.lean`) follows
`src/server/bgp/analyser.rs`; the RISwhois prefix tree of `riswhois.rs` is specified as the
list filter `covers` and tied to it by the correspondence run only.

Clause → theorem (property text of C17 in properties.jsonl)
| clause | theorem(s) |
|---|---|
| valid exactly when some ROA covers with the same origin and a sufficient max length | `valid_iff`, `valid_names_first_match`, `validate_eq_rfc6811` |
| invalid (wrong origin / wrong length / disallowed by AS0) exactly when covering ROAs exist but none matches | `invalid_iff` (three kinds), `disallowed_by_exact`, `validate_eq_rfc6811` |
| not found exactly when no ROA covers | `notfound_iff` |
| each announcement within the CA's resources is reported (once, in one category) | `announcement_category_exact`, `report_entries_exact` |
| each ROA's authorised / disallowed set is exactly what validation attributes to it | `authorizes_exact`, `disallows_exact` (non-AS0, guard `as0_entry_guard`); AS0: `as0_disallows_partial` + negation `as0_disallows_not_exact` (F-C17-1, open) |
| suggestions never propose removing a ROA that (alone) validates an observed announcement | `suggest_safe` (every single proposal, any announcements/scope); whole suggestion: negation `suggest_combined_not_safe` (F-C17-2, open) |
| nested prefixes, max-length variations, AS0, duplicates; every held-resource and scope restriction | all theorems quantify over arbitrary lists; `covers_is_range_inclusion`, `covers_partial_order`; scope/held enter `analyse` as arbitrary predicates/lists |
| the prefix tree of riswhois.rs | specification only (list filter); tied by the `pure` stream (`msp`, `ana`) |
-/
import KrillModel.Bgp.Lemmas
namespace KM.Props.C17
open KM.Bgp

/-- All ROA prefixes are well formed (length within the family, host bits zero) – the
invariant of krill's prefix types. -/
def AllWF (roas : List Roa) : Prop := ∀ r ∈ roas, r.pfx.WF

/-! ## `covers` is inclusion of address ranges and a partial order -/

/-- `covers` – the bit-mask test of riswhois.rs that decides which ROAs and announcements
meet – is inclusion of address ranges, for well-formed prefixes of one family.  It is also
what `TypedPrefix::matching_or_less_specific` (api/roa.rs) computes. -/
theorem covers_is_range_inclusion (p q : Prefix) (hp : p.WF) (hq : q.WF) (hf : p.fam = q.fam) :
    (p.covers q = true ↔ (p.lo ≤ q.lo ∧ q.hi ≤ p.hi)) ∧
    p.matchingOrLessSpecific q = p.covers q := by
  have h := covers_iff_range p q hp hq hf
  refine ⟨h, ?_⟩
  unfold Prefix.matchingOrLessSpecific
  rw [Bool.eq_iff_iff, h]
  simp [hf]

/-- `covers` is a partial order on well-formed prefixes. -/
theorem covers_partial_order :
    (∀ p : Prefix, p.WF → p.covers p = true) ∧
    (∀ p q r : Prefix, p.WF → q.WF → p.covers q = true → q.covers r = true → p.covers r = true) ∧
    (∀ p q : Prefix, p.WF → q.WF → p.covers q = true → q.covers p = true → p = q) :=
  ⟨covers_refl, fun p q r _ _ => covers_trans p q r, fun p q _ hq => covers_antisymm p q hq⟩

/-! ## The verdict of `validate`: each kind characterised; the loop computes RFC 6811 -/

/-- An announcement is reported valid exactly when some configured ROA covers its prefix
with the same origin and a sufficient maximum length. -/
theorem valid_iff (roas : List Roa) (a : Ann) :
    (∃ r, (validate roas a).validity = .valid r) ↔
      ∃ r ∈ roas, r.asn = a.asn ∧ r.pfx.covers a.pfx = true ∧ a.pfx.len ≤ r.effMax := by
  simp only [validity_eq_valid, ← Option.isSome_iff_exists, List.find?_isSome, matches_iff]

/-- The ROA named in a "valid" verdict (`allowed_by`) is a configured ROA that matches, and
it is the first such ROA in configuration order. -/
theorem valid_names_first_match (roas : List Roa) (a : Ann) (r : Roa)
    (h : (validate roas a).validity = .valid r) :
    r ∈ roas ∧ r.matches a = true ∧
      (roas.filter (fun x => x.matches a)).head? = some r := by
  rw [validity_eq_valid] at h
  exact ⟨(find_matches h).1, (find_matches h).2, List.head?_filter.trans h⟩

/-- Not found exactly when no configured ROA covers the prefix. -/
theorem notfound_iff (roas : List Roa) (a : Ann) :
    (validate roas a).validity = .notFound ↔ ∀ r ∈ roas, r.pfx.covers a.pfx = false := by
  obtain ⟨-, hNF, -⟩ := validity_iff roas a
  rw [hNF, List.any_eq_false]
  simp only [Bool.not_eq_true]

/-- The three kinds of invalid.  In every case covering ROAs exist and none matches.
* *length*: some covering ROA has the announcement's origin;
* *ASN*: no covering ROA has that origin and some covering ROA is not for AS0;
* *disallowed*: every covering ROA is an AS0 ROA (and the origin is not AS0). -/
theorem invalid_iff (roas : List Roa) (a : Ann) :
    ((validate roas a).validity = .invalidLength ↔
        (∀ r ∈ roas, r.matches a = false) ∧
        ∃ r ∈ roas, r.pfx.covers a.pfx = true ∧ r.asn = a.asn) ∧
    ((validate roas a).validity = .invalidAsn ↔
        (∀ r ∈ roas, r.pfx.covers a.pfx = true → r.asn ≠ a.asn) ∧
        ∃ r ∈ roas, r.pfx.covers a.pfx = true ∧ r.asn ≠ 0) ∧
    ((validate roas a).validity = .disallowed ↔
        (∃ r ∈ roas, r.pfx.covers a.pfx = true) ∧
        ∀ r ∈ roas, r.pfx.covers a.pfx = true → r.asn = 0 ∧ r.asn ≠ a.asn) := by
  obtain ⟨-, -, hIL, hIA, hD, -⟩ := validity_iff roas a
  simp only [hIL, hIA, hD, List.any_eq_true, List.any_eq_false, Bool.and_eq_true, beq_iff_eq, bne_iff_ne,
    not_and, ne_eq, Decidable.not_not, Bool.not_eq_true, true_and]
  exact and_congr_right fun _ =>
    ⟨fun ⟨h1, h2⟩ r hr hc => ⟨h2 r hr hc, h1 r hr hc⟩,
      fun h => ⟨fun r hr hc => (h r hr hc).2, fun r hr hc => (h r hr hc).1⟩⟩

/-- The ROAs listed as `disallowed_by` for an invalid announcement are exactly the
configured ROAs that cover it; a valid or not-found announcement lists none. -/
theorem disallowed_by_exact (roas : List Roa) (a : Ann) (r : Roa) :
    r ∈ (validate roas a).disallowing ↔
      (r ∈ roas ∧ r.pfx.covers a.pfx = true ∧ ∀ x ∈ roas, x.matches a = false) := by
  rw [validate_eq]
  cases hf : roas.find? (fun r => r.matches a) with
  | some r' =>
    refine ⟨nofun, fun ⟨_, _, hall⟩ => ?_⟩
    have := (find_matches hf).2
    rw [hall r' (find_matches hf).1] at this
    cases this
  | none =>
    rw [mem_covering, ← and_assoc]
    exact (and_iff_left (find_matches_none.mp hf)).symm

/-- **krill's first-match loop computes RFC 6811**: for every list of well-formed ROAs and
every announcement the verdict stands for the state the RFC defines. -/
theorem validate_eq_rfc6811 (roas : List Roa) (a : Ann) (hwf : AllWF roas) :
    (validate roas a).validity.toState = Spec.rfc6811 roas a := by
  obtain ⟨-, -, -, -, -, hstate⟩ := validity_iff roas a
  rw [rfc6811_eq roas a hwf, hstate]

/-- **Each announcement is in exactly one category, and it is the right one**: the state of
its report entry is one of the five announcement states, *valid* exactly when RFC 6811 says
valid, *not found* exactly when RFC 6811 says not found, and one of the three invalid kinds
exactly when RFC 6811 says invalid – for every list of well-formed VRPs (host prefixes /32
and /128, max lengths at the family limit and AS0 included: nothing is assumed about them)
and every announcement. -/
theorem announcement_category_exact (roas : List Roa) (a : Ann) (hwf : AllWF roas) :
    let st := (validate roas a).toEntry.state
    (st = .annValid ↔ Spec.rfc6811 roas a = .valid) ∧
    (st = .annNotFound ↔ Spec.rfc6811 roas a = .notFound) ∧
    ((st = .annInvalidLength ∨ st = .annInvalidAsn ∨ st = .annDisallowed) ↔
      Spec.rfc6811 roas a = .invalid) ∧
    (st = .annValid ∨ st = .annNotFound ∨ st = .annInvalidLength ∨ st = .annInvalidAsn ∨
      st = .annDisallowed) := by
  have h := validate_eq_rfc6811 roas a hwf
  simp only
  unfold Validated.toEntry
  -- each verdict has one entry state and one RFC 6811 state
  cases hv : (validate roas a).validity <;> rw [hv] at h <;> simp [← h, Validity.toState]

/-! ## The report: one entry per announcement and per ROA; the sets of a ROA are exact, those of an AS0 ROA apart -/

/-- **The report has exactly one entry per announcement in scope and per ROA within the
limit**: its announcement entries are the scoped announcements, its ROA entries the ROAs not
held followed by the held ones (with multiplicity, in order before the final sort). -/
theorem report_entries_exact (i : AnalyseInput) (s : List Ann) (entries : List Entry)
    (hseen : i.seen = some s) (h : analyse i = some entries) :
    entries.filterMap (·.ann?) = i.scoped ∧
    entries.filterMap (·.roaConf?) = i.roasNotHeld ++ i.roasHeld := by
  have hs := analyse_subjects hseen h
  constructor
  · have := congrArg (List.filterMap Sum.getRight?) hs
    simpa only [List.filterMap_map, List.filterMap_append, Function.comp_def, ← ann?_eq, filterMap_none,
      Sum.getRight?_inl, Sum.getRight?_inr, List.nil_append, List.filterMap_some] using this
  · have := congrArg (List.filterMap Sum.getLeft?) hs
    simpa only [List.filterMap_map, List.filterMap_append, Function.comp_def, ← roaConf?_eq, filterMap_none,
      Sum.getLeft?_inl, Sum.getLeft?_inr, List.append_nil, List.filterMap_some] using this

/-- The announcements the report lists as authorised by a (non-AS0) ROA are exactly the
observed announcements that this ROA matches.  (`anns`: the announcements in scope;
`roas`: the held ROAs they were validated against.) -/
theorem authorizes_exact (rc : RoaConf) (all : List RoaConf) (roas : List Roa) (anns : List Ann)
    (e : Entry) (hmem : rc.payload ∈ roas) (hasn : rc.payload.asn ≠ 0)
    (h : categoriseRoa rc (anns.map (validate roas)) all = some e) :
    ∀ a, a ∈ e.authorizes ↔ (a ∈ anns ∧ rc.payload.matches a = true) := by
  intro a
  rw [(categoriseRoa_nonAs0 h hasn).authorizes, authorizesOf_eq _ _ _ hmem, List.mem_filter]

/-- The announcements the report lists as disallowed by a (non-AS0) ROA are exactly the
observed announcements that it covers and that validation finds invalid. -/
theorem disallows_exact (rc : RoaConf) (all : List RoaConf) (roas : List Roa) (anns : List Ann)
    (e : Entry) (hmem : rc.payload ∈ roas) (hasn : rc.payload.asn ≠ 0) (hwf : AllWF roas)
    (h : categoriseRoa rc (anns.map (validate roas)) all = some e) :
    ∀ a, a ∈ e.disallows ↔
      (a ∈ anns ∧ rc.payload.pfx.covers a.pfx = true ∧ Spec.rfc6811 roas a = .invalid) := by
  intro a
  rw [(categoriseRoa_nonAs0 h hasn).disallows, mem_disallowsOf, ← validate_eq_rfc6811 roas a hwf]
  refine and_congr_right fun _ => and_congr_right fun hc => ⟨fun h3 => ?_, fun h3 => ?_⟩
  · rcases h3 with h3 | h3 <;> rw [h3] <;> rfl
  · -- a covering ROA that is not for AS0 rules out "disallowed"
    have hz : roas.any (fun r => r.pfx.covers a.pfx && r.asn != 0) = true :=
      List.any_eq_true.mpr ⟨_, hmem, by rw [hc, bne_iff_ne.mpr hasn]; rfl⟩
    obtain ⟨-, -, -, -, hD, -⟩ := validity_iff roas a
    cases hv : (validate roas a).validity with
    | invalidLength => exact Or.inl rfl
    | invalidAsn => exact Or.inr rfl
    | disallowed => rw [(hD.mp hv).2.2] at hz; cases hz
    | _ => rw [hv] at h3; cases h3

/-- **Guard for F-C17-1 made explicit**: an AS0 ROA never appears with an `authorizes`
list, its entry is one of the two AS0 kinds, and no other ROA gets those kinds; the sets of
a non-AS0 ROA are exact (`authorizes_exact`, `disallows_exact`), the `disallows` of an AS0
ROA no other ROA covers is *all covered* (`as0_disallows_partial`) – the recorded exception. -/
theorem as0_entry_guard (rc : RoaConf) (validated : List Validated) (all : List RoaConf) (e : Entry)
    (h : categoriseRoa rc validated all = some e) :
    (rc.payload.asn = 0 ↔ (e.state = .roaAs0 ∨ e.state = .roaAs0Redundant)) ∧
    (rc.payload.asn = 0 → e.authorizes = []) :=
  ⟨categoriseRoa_asn_zero_iff h, fun h0 => (categoriseRoa_as0 h h0).2.1⟩

/-- An AS0 ROA that no other ROA covers lists *every* observed announcement under its
prefix as disallowed … -/
theorem as0_disallows_partial (rc : RoaConf) (all : List RoaConf) (roas : List Roa) (anns : List Ann)
    (e : Entry) (hasn : rc.payload.asn = 0)
    (h : categoriseRoa rc (anns.map (validate roas)) all = some e) (hs : e.state = .roaAs0) :
    ∀ a, a ∈ e.disallows ↔ (a ∈ anns ∧ rc.payload.pfx.covers a.pfx = true) := by
  intro a
  rw [(categoriseRoa_as0 h hasn).2.2.2 hs, coveredBy_anns, List.mem_filter]

/-- … including announcements that validation finds *valid* through a more specific ROA.
The full statement "`a ∈ e.disallows ↔ a ∈ anns ∧ covers ∧ rfc6811 = invalid`" therefore
fails for AS0 ROAs (`as0_disallows_partial` is what holds).  Witness: AS0 ROA `10.0.0.0/8`,
ROA `10.1.0.0/16 => AS64496`, announcement `10.1.0.0/16` from AS64496. -/
theorem as0_disallows_not_exact :
    ∃ (rc : RoaConf) (all : List RoaConf) (roas : List Roa) (anns : List Ann) (e : Entry) (a : Ann),
      rc.payload ∈ roas ∧ AllWF roas ∧
      categoriseRoa rc (anns.map (validate roas)) all = some e ∧
      a ∈ e.disallows ∧ Spec.rfc6811 roas a = .valid := by
  let p8 : Prefix := ⟨.v4, 167772160, 8⟩
  let p16 : Prefix := ⟨.v4, 167837696, 16⟩
  let as0 : Roa := ⟨0, p8, some 8⟩
  let r16 : Roa := ⟨64496, p16, some 16⟩
  let a : Ann := ⟨64496, p16⟩
  refine ⟨⟨as0, none⟩, [⟨as0, none⟩, ⟨r16, none⟩], [as0, r16], [a],
    { subject := .inl ⟨as0, none⟩, state := .roaAs0, disallows := [a] }, a, ?_, ?_, ?_, ?_, ?_⟩
  · simp
  · intro r hr
    simp only [List.mem_cons, List.not_mem_nil, or_false] at hr
    rcases hr with rfl | rfl <;> decide
  · decide
  · simp
  · decide

/-! ## Every single suggestion keeps valid announcements valid; the suggestion taken as a whole does not -/

/-- The ROAs an analysis was made for: those held, with their payloads. -/
def heldPayloads (i : AnalyseInput) : List Roa := i.roasHeld.map (·.payload)

/-- Some ROA of the list matches the announcement (the right-hand side of `valid_iff`). -/
def ValidBy (roas : List Roa) (a : Ann) : Prop := ∃ r ∈ roas, r.matches a = true

theorem validBy_iff_rfc6811 (roas : List Roa) (a : Ann) (hwf : AllWF roas) :
    ValidBy roas a ↔ Spec.rfc6811 roas a = .valid := by
  rw [rfc6811_eq roas a hwf, ValidBy, ← List.any_eq_true]
  cases roas.any (fun r => r.matches a) <;> cases roas.any (fun r => r.pfx.covers a.pfx) <;> decide

/-- **Every single suggestion is safe.**  With announcement data loaded, for every observed
announcement – any set of announcements, any scope – that is valid under the held ROAs:
removing a ROA listed as stale, as redundant or as redundant AS0 ROA leaves it valid, and so
does replacing a ROA listed as too permissive by the ROAs proposed for it.
(Guards, all explicit: prefixes well formed; the held payloads pairwise distinct – they are
the keys of a map in a CA; for the AS0 case the announcement's origin is not AS0, because
krill lets an AS0 ROA "validate" an AS0 origin.) -/
theorem suggest_safe (i : AnalyseInput) (s : List Ann) (entries : List Entry)
    (hseen : i.seen = some s) (h : analyse i = some entries)
    (hwf : AllWF (heldPayloads i)) (hwfa : ∀ a ∈ i.scoped, a.pfx.WF)
    (hnd : (heldPayloads i).Nodup) :
    ∀ a ∈ i.scoped, ValidBy (heldPayloads i) a →
      (∀ rc ∈ (suggestOf entries).stale,
        ValidBy ((heldPayloads i).filter (fun r => r != rc.payload)) a) ∧
      (∀ rc ∈ (suggestOf entries).redundant,
        ValidBy ((heldPayloads i).filter (fun r => r != rc.payload)) a) ∧
      (a.asn ≠ 0 → ∀ rc ∈ (suggestOf entries).as0Redundant,
        ValidBy ((heldPayloads i).filter (fun r => r != rc.payload)) a) ∧
      (∀ rep ∈ (suggestOf entries).tooPermissive,
        ValidBy ((heldPayloads i).filter (fun r => r != rep.current.payload) ++ rep.new_) a) := by
  intro a ha ⟨r, hr, hm⟩
  -- keeping `r` suffices whenever `r` is not the removed payload
  have keep : ∀ p : Roa, r ≠ p → ValidBy ((heldPayloads i).filter (fun x => x != p)) a :=
    fun p hp => ⟨r, List.mem_filter.mpr ⟨hr, bne_iff_ne.mpr hp⟩, hm⟩
  -- otherwise another held ROA that matches takes its place
  have other : ∀ p : Roa, (∃ rc ∈ i.roasHeld, rc.payload ≠ p ∧ rc.payload.matches a = true) →
      ValidBy ((heldPayloads i).filter (fun x => x != p)) a :=
    fun p ⟨rc, hrc, hne, hm'⟩ =>
      ⟨rc.payload, List.mem_filter.mpr ⟨List.mem_map_of_mem hrc, bne_iff_ne.mpr hne⟩, hm'⟩
  refine ⟨fun rc hrc => ?_, fun rc hrc => ?_, fun hasn rc hrc => ?_, fun rep hrep => ?_⟩
  · -- stale: the ROA matches nothing that was observed
    refine keep _ fun heq => ?_
    have := (stale_spec hseen h rc hrc).2 a ha
    rw [← heq, hm] at this
    cases this
  · -- redundant: the including ROA stays and matches as well
    by_cases heq : r = rc.payload
    · obtain ⟨oc, hoc, hne, himp⟩ := redundant_spec hseen h rc hrc
      exact other _ ⟨oc, hoc, hne, himp a (heq ▸ hm)⟩
    · exact keep _ heq
  · -- redundant AS0 ROA: it validates nothing with a non-zero origin
    refine keep _ fun heq => hasn ?_
    rw [← ((matches_iff r a).mp hm).1, heq]
    exact as0Redundant_spec hseen h rc hrc
  · -- too permissive: another held ROA matches the announcement or it is in the proposal
    by_cases heq : r = rep.current.payload
    · rcases tooPermissive_spec hseen h hnd rep hrep a ha (heq ▸ hm) with hoth | hnew
      · obtain ⟨r', hr', hm'⟩ := other _ hoth
        exact ⟨r', List.mem_append_left _ hr', hm'⟩
      · exact ⟨a.toRoa, List.mem_append_right _ hnew,
          (matches_iff _ _).mpr ⟨rfl, covers_refl _ (hwfa a ha), Nat.le_refl _⟩⟩
    · obtain ⟨r', hr', hm'⟩ := keep _ heq
      exact ⟨r', List.mem_append_left _ hr', hm'⟩

/-- The suggestion taken *as a whole* (`From<BgpAnalysisSuggestion> for
RoaConfigurationUpdates`, api/roa.rs:554-591) is **not** safe: the full statement "applying
all proposed removals and additions leaves every valid announcement valid" fails.  A too
permissive ROA and a ROA it makes redundant both authorise the same announcement; the
replacement list of the first omits the announcement *because* the second authorises it, and
the second is proposed for removal.  Witness: `10.0.0.0/22-24 => AS64496`,
`10.0.0.0/24-24 => AS64496`, announcement `10.0.0.0/24` from AS64496. -/
theorem suggest_combined_not_safe :
    ∃ (i : AnalyseInput) (s : List Ann) (entries : List Entry) (a : Ann),
      i.seen = some s ∧ analyse i = some entries ∧ AllWF (heldPayloads i) ∧
      (heldPayloads i).Nodup ∧ a ∈ i.scoped ∧ a.asn ≠ 0 ∧ ValidBy (heldPayloads i) a ∧
      ¬ ValidBy (((heldPayloads i).filter (fun r => !((suggestOf entries).toUpdates.2.contains r))) ++
          (suggestOf entries).toUpdates.1.map (·.payload)) a := by
  let p22 : Prefix := ⟨.v4, 167772160, 22⟩
  let p24 : Prefix := ⟨.v4, 167772160, 24⟩
  let r1 : Roa := ⟨64496, p22, some 24⟩
  let r2 : Roa := ⟨64496, p24, some 24⟩
  let a : Ann := ⟨64496, p24⟩
  let i : AnalyseInput :=
    { roas := [⟨r1, none⟩, ⟨r2, none⟩], held := fun _ => true, limit := none,
      scope := [⟨.v4, 167772160, 8⟩], seen := some [a] }
  let es : List Entry :=
    [ { subject := .inl ⟨r1, none⟩, state := .roaTooPermissive, authorizes := [a] },
      { subject := .inl ⟨r2, none⟩, state := .roaRedundant, authorizes := [a], madeRedundantBy := [r1] },
      { subject := .inr a, state := .annValid, allowedBy := some r1 } ]
  have hentries : analyse i = some es := by decide +kernel
  refine ⟨i, [a], es, a, rfl, hentries, ?_, ?_, ?_, ?_, ?_, ?_⟩
  · unfold AllWF
    decide +kernel
  · decide
  · decide
  · decide
  · exact ⟨r1, by decide, by decide⟩
  · -- both ROAs that authorise `a` are removed and the replacement proposed for `r1` leaves `a` to `r2`
    rintro ⟨r, hr, hm⟩
    have : ((heldPayloads i).filter (fun r => !((suggestOf es).toUpdates.2.contains r))) ++
        (suggestOf es).toUpdates.1.map (·.payload) = [] := by decide +kernel
    rw [this] at hr
    cases hr

/-- Boundary instances covered by the universally quantified theorems: host prefixes /32 and
/128, a max length at the family limit, `/0`, AS0 – krill's verdict and RFC 6811 agree. -/
example :
    let host4 : Prefix := ⟨.v4, 167772161, 32⟩
    let host6 : Prefix := ⟨.v6, 1, 128⟩
    let roas : List Roa := [⟨64496, ⟨.v4, 167772160, 31⟩, some 32⟩, ⟨0, ⟨.v6, 0, 0⟩, none⟩,
      ⟨64497, host6, some 128⟩, ⟨64498, ⟨.v4, 0, 0⟩, some 0⟩]
    AllWF roas ∧
    (validate roas ⟨64496, host4⟩).validity.toState = .valid ∧ Spec.rfc6811 roas ⟨64496, host4⟩ = .valid ∧
    (validate roas ⟨64497, host6⟩).validity.toState = .valid ∧ Spec.rfc6811 roas ⟨64497, host6⟩ = .valid ∧
    (validate roas ⟨64496, host6⟩).validity = .invalidAsn ∧ Spec.rfc6811 roas ⟨64496, host6⟩ = .invalid ∧
    (validate roas ⟨64498, ⟨.v4, 0, 0⟩⟩).validity.toState = .valid ∧
    (validate roas ⟨64498, ⟨.v4, 0, 1⟩⟩).validity = .invalidLength ∧
    (validate roas ⟨64499, ⟨.v6, 2 ^ 127, 1⟩⟩).validity = .disallowed := by
  unfold AllWF
  decide +kernel

/-- A well-formed ROA list on which every verdict occurs. -/
example : AllWF [⟨0, ⟨.v4, 167772160, 8⟩, some 8⟩, ⟨64496, ⟨.v4, 167837696, 16⟩, some 24⟩] := by
  unfold AllWF
  decide +kernel

example :
    let roas : List Roa := [⟨0, ⟨.v4, 167772160, 8⟩, some 8⟩, ⟨64496, ⟨.v4, 167837696, 16⟩, some 24⟩]
    (validate roas ⟨64496, ⟨.v4, 167837696, 24⟩⟩).validity = .valid ⟨64496, ⟨.v4, 167837696, 16⟩, some 24⟩ ∧
    (validate roas ⟨64496, ⟨.v4, 167837696, 25⟩⟩).validity = .invalidLength ∧
    (validate roas ⟨64497, ⟨.v4, 167837696, 24⟩⟩).validity = .invalidAsn ∧
    (validate roas ⟨64497, ⟨.v4, 167903232, 16⟩⟩).validity = .disallowed ∧
    (validate roas ⟨64497, ⟨.v4, 184549376, 8⟩⟩).validity = .notFound := by decide +kernel

/-- `authorizes_exact` / `disallows_exact` apply to a report entry that has both sets. -/
example :
    let r : Roa := ⟨64496, ⟨.v4, 167837696, 16⟩, some 24⟩
    let anns : List Ann := [⟨64496, ⟨.v4, 167837696, 24⟩⟩, ⟨64497, ⟨.v4, 167837696, 24⟩⟩]
    ∃ e, categoriseRoa ⟨r, none⟩ (anns.map (validate [r])) [⟨r, none⟩] = some e ∧
      e.state = .roaTooPermissive ∧ e.authorizes ≠ [] ∧ e.disallows ≠ [] := by
  refine ⟨_, rfl, ?_, ?_, ?_⟩ <;> decide

/-- The hypotheses of `suggest_safe` hold for an analysis with a stale, a redundant and a
too permissive ROA and valid announcements. -/
example :
    let r1 : Roa := ⟨64496, ⟨.v4, 167772160, 22⟩, some 24⟩
    let r2 : Roa := ⟨64496, ⟨.v4, 167772160, 24⟩, some 24⟩
    let r3 : Roa := ⟨64497, ⟨.v4, 167837696, 16⟩, some 16⟩
    let a : Ann := ⟨64496, ⟨.v4, 167772160, 24⟩⟩
    let i : AnalyseInput :=
      { roas := [⟨r1, none⟩, ⟨r2, none⟩, ⟨r3, none⟩], held := fun _ => true, limit := none,
        scope := [⟨.v4, 167772160, 8⟩], seen := some [a] }
    ∃ entries, analyse i = some entries ∧ (heldPayloads i).Nodup ∧
      (suggestOf entries).stale ≠ [] ∧ (suggestOf entries).redundant ≠ [] ∧
      (suggestOf entries).tooPermissive ≠ [] ∧ a ∈ i.scoped ∧ ValidBy (heldPayloads i) a := by
  refine ⟨_, rfl, ?_, ?_, ?_, ?_, ?_, ⟨⟨64496, ⟨.v4, 167772160, 22⟩, some 24⟩, ?_, ?_⟩⟩ <;> decide

end KM.Props.C17
