/-
C16 — Untrusted input never brings the daemon down.  *Partial by nature.*

What is proved: krill's **own** value-level arithmetic, shifting and slicing on
client-controlled values (`Input/Checked.lean`, `none` = panic) is total – the one exception
the pinned tree had (`::/0-128`, F-C16-1) is repaired by da59be0d and kept as a labelled
counter-model – and the request pipelines (`Input/Pipeline.lean`) answer every request.

What is *not* proved and cannot be at reasonable cost: panic-freedom of the byte-level
decoders of third-party crates (rpki-rs, bcder, serde/serde_json, quick-xml).  They enter
the pipelines as the parameter `decode`; the `pure` stream feeds them structured mutations
and random bytes under `catch_unwind` – that is sampling and search, not proof.

Clause → theorem (property text of C16 in properties.jsonl)
| clause | theorem(s) |
|---|---|
| no API request body … makes request processing panic (krill's own value-level code) | `validated_arith_total`, `nr_of_specific_prefixes_value`, `checked_shl_is_bitvec_shl`, `covers_total`, `prefix_parse_total`, `roa_aggregate_key_total`, `asn_parse_range`, `authorizes_excess_total`, `analyse_total`, `counters_total` |
| no path segment (history paging `…/commands/{rows}/{offset}`) | `paging_total` (+ `pinned_paging_capacity_unbounded`, fix 6a45cf4f); exercised by the http `pathfuzz` stage |
| stored-format values (versions, times) | `next_number_total`, `now_plus_weeks_total` / `now_plus_weeks_overflow_config` (operator configuration), `refresh_test_total` |
| such input yields an error reply and leaves configuration unchanged | `pipeline_total`, `dry_run_total` (decoder a parameter) |
| no byte sequence sent to the provisioning or publication endpoints | NOT proved: third-party decoders are sampled by the mutation stream (`dec rfc6492|rfc8181 …`); F-C16-2 (rpki-rs `Asn::from_str`) is the open finding of that sampling |
| (pinned tree, fixed) | `pinned_nr_of_specific_prefixes_overflow` (F-C16-1, da59be0d), `pinned_paging_capacity_unbounded` (6a45cf4f) |
-/
import KrillModel.Input.Lemmas
namespace KM.Props.C16
open KM.Bgp KM.Ca KM.Input

/-- **The arithmetic of `nr_of_specific_prefixes` is total** (after fix da59be0d): for
*every* payload – validated or not – the computation answers. -/
theorem validated_arith_total (r : Roa) : nrOfSpecificPrefixes r ≠ none := by
  -- the subtraction saturates and an overflowing shift is caught by `unwrap_or`: the function ends in `some`
  unfold nrOfSpecificPrefixes; simp

/-- … and on a payload whose prefix length fits its family and that passes
`max_length_valid` the answer is the number of prefixes `2^(max_len - pfx_len)`, except for
the one payload for which that number does not fit 128 bits, `::/0-128`, where it is
`u128::MAX`. -/
theorem nr_of_specific_prefixes_value (r : Roa) (hlen : r.pfx.len ≤ r.pfx.fam.bits)
    (hv : maxLengthValid r = true) :
    nrOfSpecificPrefixes r =
      some (if r.pfx.fam = .v6 ∧ r.pfx.len = 0 ∧ r.maxLen = some 128 then 2 ^ 128 - 1
            else 2 ^ (r.effMax - r.pfx.len)) := by
  have hvm := (maxLengthValid_iff r).mp hv
  rw [nrOfSpecificPrefixes]
  congr 1
  by_cases hc : r.pfx.fam = .v6 ∧ r.pfx.len = 0 ∧ r.maxLen = some 128
  · rw [if_pos hc, Roa.effMax, hc.2.2, hc.2.1]
    rfl
  · -- otherwise the shift is by less than 128: it is at most the family's width, and 128 only for `::/0-128`
    have hlt : r.effMax - r.pfx.len < 128 := by
      cases hm : r.maxLen with
      | none => rw [Roa.effMax, hm, Option.getD_none, Nat.sub_self]; decide
      | some m =>
        rw [Roa.effMax, hm, Option.getD_some]
        have hmb := (hvm m hm).2
        cases hf : r.pfx.fam with
        | v4 => rw [hf] at hmb; exact Nat.lt_of_le_of_lt (Nat.sub_le _ _) (Nat.lt_of_le_of_lt hmb (by decide))
        | v6 =>
          rw [hf] at hmb
          have h128 : Family.v6.bits = 128 := rfl
          apply Classical.byContradiction
          intro hge
          exact hc ⟨hf, by omega, by rw [hm, show m = 128 by omega]⟩
    rw [if_neg hc, checkedShl, if_pos hlt, Option.getD_some, Nat.one_mul]
    exact Nat.mod_eq_of_lt (Nat.pow_lt_pow_right (by decide) hlt)

example : ∃ r : Roa, r.pfx.len ≤ r.pfx.fam.bits ∧ maxLengthValid r = true ∧
    nrOfSpecificPrefixes r = some (2 ^ 16) :=
  ⟨⟨64496, ⟨.v4, 167772160, 8⟩, some 24⟩, by decide, by decide, by decide⟩

example : nrOfSpecificPrefixes ⟨64496, ⟨.v6, 0, 0⟩, some 128⟩ = some (2 ^ 128 - 1) := by decide

/-- COUNTER-MODEL WITNESS – what the pinned tree did (finding F-C16-1, fixed by da59be0d):
`1u128 << (max_len - pfx_len)` overflowed for the validated payload `::/0-128`, and the
`u8` subtraction overflowed on unvalidated payloads. -/
theorem pinned_nr_of_specific_prefixes_overflow :
    (∃ r : Roa, r.pfx.WF ∧ maxLengthValid r = true ∧ nrOfSpecificPrefixesPinned r = none) ∧
    (∃ r : Roa, r.pfx.WF ∧ maxLengthValid r = false ∧ nrOfSpecificPrefixesPinned r = none) :=
  ⟨⟨⟨64496, ⟨.v6, 0, 0⟩, some 128⟩, by decide, by decide, by decide⟩,
   ⟨⟨64496, ⟨.v4, 167772160, 8⟩, some 7⟩, by decide, by decide, by decide⟩⟩

/-- The mask shift of `covers` never overflows on a well-formed covering prefix, and the
checked function is `covers`. -/
theorem covers_total (p q : Prefix) (hp : p.WF) : coversChecked p q = some (p.covers q) := by
  unfold coversChecked Prefix.covers
  cases hf : p.fam == q.fam
  · simp only [bne, hf, Bool.not_false, if_true, Bool.false_and]
  · simp only [bne, hf, Bool.not_true, Bool.false_eq_true, if_false, Bool.true_and]
    by_cases hl : p.len > q.len
    · rw [if_pos hl, if_pos hl]
    · rw [if_neg hl, if_neg hl]
      by_cases hb : (p.len == p.fam.bits) = true
      · rw [if_pos hb, if_pos hb]
      · -- the only shift: by less than the width
        rw [if_neg hb, if_neg hb, checkedShr, if_pos (Nat.lt_of_le_of_ne hp.1 (mt beq_iff_eq.mpr hb))]
        rfl

/-- The host-bit test of `Ipv4Prefix::from_str` / `Ipv6Prefix::from_str` never overflows:
the subtraction is guarded by the length test before it. -/
theorem prefix_parse_total (bits addr len : Nat) : prefixFromStrCheck bits addr len ≠ none := by
  unfold prefixFromStrCheck
  by_cases h : len > bits
  · simp [h]
  · have : len ≤ bits := Nat.le_of_not_gt h
    simp [h, checkedSub_eq_some this]

/-- `RoaAggregateKey::from_str` never slices off a character boundary: `&asn_part[2..]` is
reached only behind `starts_with("AS")`. -/
theorem roa_aggregate_key_total (s : List Char) : roaAggregateKeyFromStr s ≠ none := by
  fun_cases roaAggregateKeyFromStr s
  case case3 asnPart rest _ hg hslice =>
    -- the one `none`: behind the guard the part is 'A' :: 'S' :: tail, and the slice is its tail
    rw [Bool.or_eq_true, not_or, Bool.not_eq_true', Bool.not_eq_false, beq_iff_eq] at hg
    obtain ⟨tail, rfl⟩ : ∃ tail, asnPart = 'A' :: 'S' :: tail := by
      match asnPart, hg.1 with
      | a :: b :: tail, h => cases h; exact ⟨tail, rfl⟩
    rw [sliceFrom_two tail (by decide) (by decide)] at hslice
    cases hslice
  all_goals nofun

example : roaAggregateKeyFromStr "AS64496-2".toList = some (some (64496, some 2)) := by
  decide +kernel

example : roaAggregateKeyFromStr "ASé".toList = some none := by decide +kernel

/-- `authorizes_excess` always answers. -/
theorem authorizes_excess_total (r : Roa) (n : Nat) : authorizesExcess r n ≠ none :=
  authorizesExcess_ne_none r n

/-- The shift of `nr_of_specific_prefixes`, stated on the machine type: for every shift
amount below the width the checked model is the 128-bit shift. -/
theorem checked_shl_is_bitvec_shl (d : Nat) (h : d < 128) :
    checkedShl 128 1 d = some ((1#128 <<< d).toNat) := by
  unfold checkedShl
  have h1 : (1#128).toNat = 1 := rfl
  simp only [h, if_true, Nat.one_mul, BitVec.toNat_shiftLeft, Nat.shiftLeft_eq, h1]

/-- **History paging** (`command_history_for_records`, after fix 6a45cf4f) **is total for
every `offset` and `rows` a client can send** (`usize`, no bound assumed) and every record
list that fits in memory: no `total += 1`, `skipped += 1` or `total - skipped` overflows,
the page holds `min(matches after the offset, rows)` commands, and the pre-allocated
capacity never exceeds the number of stored records. -/
theorem paging_total (offset rows : Nat) (hits : List Bool) (hlen : hits.length < 2 ^ 64) :
    ∃ st, pageLoop offset rows ⟨0, 0, 0⟩ hits = some st ∧
      st.taken = min (st.total - st.skipped) rows ∧ st.skipped ≤ offset ∧
      st.total ≤ hits.length ∧ st.taken ≤ rows ∧ st.taken ≤ hits.length ∧
      pageCapacity rows hits.length ≤ hits.length := by
  have hcount : hits.count true ≤ hits.length := List.count_le_length
  refine ⟨_, pageLoop_pageAt offset rows hits 0 (by omega), rfl, Nat.min_le_right _ _, ?_,
    Nat.min_le_right _ _, ?_, Nat.min_le_right _ _⟩
  · rw [Nat.zero_add]; exact hcount
  · exact Nat.le_trans (Nat.min_le_left _ _) (by rw [Nat.zero_add]; exact Nat.le_trans (Nat.sub_le _ _) hcount)

/-- COUNTER-MODEL WITNESS – the pinned tree asked for a capacity of `rows` elements, i.e.
whatever the client sent (`Vec::with_capacity(usize::MAX)` is "capacity overflow"). -/
theorem pinned_paging_capacity_unbounded :
    pageCapacityPinned (2 ^ 64 - 1) 3 = 2 ^ 64 - 1 ∧ pageCapacity (2 ^ 64 - 1) 3 = 3 := by decide

/-- Every per-entry `usize` counter (`BgpStats`, paging totals) is total: it counts elements
of a list that is in memory. -/
theorem counters_total {α} (p : α → Bool) (l : List α) (hlen : l.length < 2 ^ 64) :
    ∃ n, countChecked p l = some n ∧ n ≤ l.length :=
  ⟨_, countChecked_eq p l hlen, List.countP_le_length⟩

/-- `version + 1` (`u64`) overflows exactly at `u64::MAX`; versions count stored commands. -/
theorem next_number_total (v : Nat) : nextNumber v = none ↔ 2 ^ 64 - 1 ≤ v :=
  (checkedAdd_eq_none 64 v 1).trans (by omega)

/-- AS numbers of the text notations are parsed into the `u32` range or refused. -/
theorem asn_parse_range (s : List Char) (v : Nat) (h : parseU32 s = some v) : v < 2 ^ 32 := by
  revert h
  fun_cases parseU32 s
  · nofun
  · rename_i hv
    exact fun h => Option.some.inj h ▸ hv
  · nofun

/-- **`Time::now() + weeks`** (validity and re-issue times, `u32` weeks from the
configuration) **is total** for every clock reading up to the year 2100 and every value up
to 13 000 000 weeks (≈ 249 000 years) … -/
theorem now_plus_weeks_total (now : Int) (weeks : Nat) (h0 : 0 ≤ now) (h1 : now ≤ 4102444800)
    (hw : weeks ≤ 13000000) : nowPlusWeeks now weeks = some (now + weeks * 604800) := by
  unfold nowPlusWeeks
  apply checkedAddSecs_eq_some
  unfold minUtc maxUtc
  constructor <;> omega

/-- … but not for every `u32`: `timing_*_weeks = 4294967295` in the configuration file makes
`DateTime + TimeDelta` overflow.  (Operator-controlled configuration, not client input; the
full statement "total for all `u32`" is false and this is its witness.) -/
theorem now_plus_weeks_overflow_config : nowPlusWeeks 1800000000 (2 ^ 32 - 1) = none := by decide

/-- The RISwhois refresh test `last_checked + interval >= now` is total for the never-checked
sentinel and for every past check, with any `u32` number of minutes. -/
theorem refresh_test_total (lastChecked : Option Int) (minutes : Nat) (now : Int)
    (hm : minutes < 2 ^ 32) (hl : ∀ t, lastChecked = some t → 0 ≤ t ∧ t ≤ 4102444800) :
    refreshNotDue lastChecked minutes now ≠ none := by
  have key : minUtc ≤ lastChecked.getD minUtc + minutes * 60 ∧
      lastChecked.getD minUtc + minutes * 60 ≤ maxUtc := by
    cases lastChecked with
    | none => rw [Option.getD_none]; unfold minUtc maxUtc; omega
    | some t =>
      obtain ⟨a, b⟩ := hl t rfl
      rw [Option.getD_some]; unfold minUtc maxUtc; omega
  rw [refreshNotDue, checkedAddSecs_eq_some key]
  nofun

/-- **The analysis is total**: `BgpAnalyser::analyse` answers for every list of ROAs, every
resource set, scope and announcement data. -/
theorem analyse_total (i : AnalyseInput) : analyse i ≠ none := by
  fun_cases analyse i
  · nofun
  · rename_i h
    obtain ⟨rc, _, hrc⟩ := List.mem_map.mp (allSome_eq_none.mp h)
    exact absurd hrc (categoriseRoa_ne_none _ _ _)
  · nofun

/-- **Every configuration request is answered**, whatever the body and whatever the decoder
makes of it; a request that is not accepted leaves the configuration as it was.
(`decode` is arbitrary: this says nothing about panics *inside* a decoder.) -/
theorem pipeline_total {B : Type} :
    (∀ (decode : B → Option RoaUpdates) (r : Routes) (held : Roa → Bool) (body : B),
      ∃ reply r', roaUpdateRequest decode r held body = some (reply, r') ∧ (reply ≠ .ok → r' = r)) ∧
    (∀ (decode : B → Option AspaUpdates) (s : AspaDefs) (holdsAsn : Nat → Bool) (body : B),
      ∃ reply s', aspaUpdateRequest decode s holdsAsn body = some (reply, s') ∧ (reply ≠ .ok → s' = s)) ∧
    (∀ (decode : B → Option BgpsecUpdates) (s : BgpsecDefs) (holdsAsn : Nat → Bool) (now : Nat) (body : B),
      ∃ reply s', bgpsecUpdateRequest decode s holdsAsn now body = some (reply, s') ∧
        (reply ≠ .ok → s' = s)) ∧
    (∀ (decode : B → Option (String × Nat × ResSet)) (all : ResSet) (s : Children) (body : B),
      ∃ reply s', childAddRequest decode all s body = some (reply, s') ∧ (reply ≠ .ok → s' = s)) := by
  -- in each pipeline: an undecodable body and a refused update leave the state, an accepted one is `ok`
  refine ⟨fun decode r held body => ?_, fun decode s holds body => ?_,
    fun decode s holds now body => ?_, fun decode all s body => ?_⟩
  · fun_cases roaUpdateRequest decode r held body
    · exact ⟨_, _, rfl, fun _ => rfl⟩
    · exact ⟨_, _, rfl, fun _ => rfl⟩
    · exact ⟨_, _, rfl, fun h => absurd rfl h⟩
  · fun_cases aspaUpdateRequest decode s holds body
    · exact ⟨_, _, rfl, fun _ => rfl⟩
    · exact ⟨_, _, rfl, fun _ => rfl⟩
    · exact ⟨_, _, rfl, fun h => absurd rfl h⟩
  · fun_cases bgpsecUpdateRequest decode s holds now body
    · exact ⟨_, _, rfl, fun _ => rfl⟩
    · exact ⟨_, _, rfl, fun _ => rfl⟩
    · exact ⟨_, _, rfl, fun h => absurd rfl h⟩
  · fun_cases childAddRequest decode all s body
    · exact ⟨_, _, rfl, fun _ => rfl⟩
    · exact ⟨_, _, rfl, fun _ => rfl⟩
    · exact ⟨_, _, rfl, fun h => absurd rfl h⟩

/-- The dry-run request (decode, validate, *analyse the would-be configuration*) is answered
as well. -/
theorem dry_run_total {B : Type} (decode : B → Option RoaUpdates) (r : Routes) (held : Roa → Bool)
    (mkInput : Routes → AnalyseInput) (body : B) :
    roaDryRunRequest decode r held mkInput body ≠ none := by
  fun_cases roaDryRunRequest decode r held mkInput body
  · nofun
  · nofun
  · rw [ne_eq, Option.map_eq_none_iff]
    exact analyse_total _

end KM.Props.C16
