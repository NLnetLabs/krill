/-
C09 — Background work is durable and recurring maintenance never stops.

Over the queue model (`Queue/Queue.lean`, `Queue/TaskQueue.lean`; its lemmas are in `Queue/Lemmas.lean`), the wake-up
model (`Queue/Wakeup.lean`) and the task tables generated from the scheduler's source.
-/
import KrillModel.Queue.Lemmas
import KrillModel.Queue.Wakeup
import KrillModel.Generated.StartupGuard
import KrillModel.Generated.SchedulerTasks
namespace KM.Props.C09
open KM.Queue

/-! ## Due tasks are handed out earliest first, and a due task is passed over a bounded number of times -/

/-- Due tasks are handed out earliest first: whatever entry a claim returns, it was
pending, due, and no due pending entry had an earlier time stamp. -/
theorem claim_earliest_first (s s' : QState) (now now2 : Nat) (r : Entry)
    (h : (s', some r) ∈ claim s now now2) :
    ∃ e ∈ s.pending, e.name = r.name ∧ e.val = r.val ∧ e.ts ≤ now ∧
      ∀ x ∈ s.pending, x.ts ≤ now → e.ts ≤ x.ts := by
  obtain ⟨e, he, rfl, rfl⟩ := mem_claim_some.mp h
  have hm := mem_claimChoices.mp he
  exact ⟨e, hm.1.1, rfl, rfl, hm.1.2, hm.2⟩

/-- A claim returns nothing exactly when no pending task is due. -/
theorem claim_none_iff_nothing_due (s : QState) (now now2 : Nat) :
    (∃ s', (s', none) ∈ claim s now now2) ↔ ∀ x ∈ s.pending, now < x.ts := by
  rw [← claimChoices_eq_nil_iff]
  exact ⟨fun ⟨_, h⟩ => (mem_claim_none.mp h).1, fun h => ⟨s, mem_claim_none.mpr ⟨h, rfl⟩⟩⟩

/-- A claim moves exactly the claimed entry: every other pending entry stays pending and
the claimed one is running afterwards (nothing is lost by handing out work). -/
theorem claim_moves (s s' : QState) (now now2 : Nat) (r : Entry)
    (h : (s', some r) ∈ claim s now now2) :
    r ∈ s'.running ∧
    ∃ e ∈ s.pending, e.name = r.name ∧
      ∀ x ∈ s.pending, ¬ (x.ts = e.ts ∧ x.name = e.name) → x ∈ s'.pending := by
  obtain ⟨e, he, rfl, rfl⟩ := mem_claim_some.mp h
  exact ⟨mem_kvPut.mpr (Or.inl rfl), e, (mem_claimChoices.mp he).1.1, rfl,
    fun x hx hne => mem_kvDel.mpr ⟨hx, hne⟩⟩

/-- The pending entries that may be handed out before `t`: not later than `t`, other key. -/
def notAfter (s : QState) (t : Entry) : Nat :=
  (s.pending.filter fun e => decide (e.ts ≤ t.ts) && !(e.sameKey t.ts t.name)).length

/-- Removing from a list an element that passes a filter makes the filtered list shorter: the
new filtered list is a sublist that misses the element. -/
theorem length_filter_filter_lt {α : Type} (l : List α) (p q : α → Bool) (a : α) (ha : a ∈ l)
    (hp : p a = true) (hq : q a = false) :
    ((l.filter q).filter p).length < (l.filter p).length := by
  have hs : ((l.filter q).filter p).Sublist (l.filter p) := List.filter_sublist.filter p
  refine Nat.lt_of_le_of_ne hs.length_le fun hlen => ?_
  have hmem : a ∈ (l.filter q).filter p := hs.eq_of_length hlen ▸ List.mem_filter.mpr ⟨ha, hp⟩
  rw [List.mem_filter, List.mem_filter, hq] at hmem
  cases hmem.1.2

/-- **Progress of one claim.**  If `t` is pending and due, a claim hands out something, and
either `t`'s key has left the pending scope (it is the one handed out) or `t` is still
pending and strictly fewer entries can be handed out before it. -/
theorem claim_progress (s s' : QState) (now now2 : Nat) (o : Option Entry) (t : Entry)
    (ht : t ∈ s.pending) (hdue : t.ts ≤ now) (h : (s', o) ∈ claim s now now2) :
    o.isSome = true ∧
    (t ∉ s'.pending ∨ (t ∈ s'.pending ∧ notAfter s' t < notAfter s t)) := by
  cases o with
  | none =>
    have := claimChoices_eq_nil_iff.mp (mem_claim_none.mp h).1 t ht
    omega
  | some r =>
    obtain ⟨e, he, rfl, rfl⟩ := mem_claim_some.mp h
    have hm := mem_claimChoices.mp he
    refine ⟨rfl, ?_⟩
    by_cases hk : t.ts = e.ts ∧ t.name = e.name
    · exact Or.inl fun hc => (mem_kvDel.mp hc).2 hk
    · refine Or.inr ⟨mem_kvDel.mpr ⟨ht, hk⟩, ?_⟩
      -- `e` itself was counted before `t` and is gone
      refine length_filter_filter_lt s.pending _ _ e hm.1.1 ?_ ?_
      · have hne : e.sameKey t.ts t.name = false :=
          Bool.eq_false_iff.mpr fun hs => hk ⟨((sameKey_iff ..).mp hs).1.symm, ((sameKey_iff ..).mp hs).2.symm⟩
        show (decide (e.ts ≤ t.ts) && !e.sameKey t.ts t.name) = true
        rw [decide_eq_true (hm.2 t ht hdue), hne]
        rfl
      · show (!e.sameKey e.ts e.name) = false
        rw [(sameKey_iff e _ _).mpr ⟨rfl, rfl⟩]
        rfl

/-- What happens between two claims (requests scheduling follow-ups, tasks finishing or being
re-scheduled) as far as `t` is concerned: `t` stays pending and nothing is put before it.
Scheduling at or after the present satisfies this once `t` is overdue; re-scheduling `t`'s own
name is covered by `soonest_keeps_earlier` instead. -/
def EnvOk (t : Entry) (s s' : QState) : Prop :=
  t ∈ s'.pending ∧ notAfter s' t ≤ notAfter s t

/-- `t` has survived `k` claims, each made when `t` was due, with environment steps between. -/
inductive Survives (t : Entry) : QState → Nat → Prop
  | zero (s : QState) : t ∈ s.pending → Survives t s 0
  | step (s s1 s2 : QState) (now now2 : Nat) (o : Option Entry) (k : Nat) :
      t ∈ s.pending → EnvOk t s s1 → t.ts ≤ now → (s2, o) ∈ claim s1 now now2 →
      t ∈ s2.pending → Survives t s2 k → Survives t s (k + 1)

/-- **Bounded waiting.**  A due task cannot be passed over more often than there are entries
that may go before it: after at most `notAfter s t` claims the next claim hands out `t`
itself.  In particular every follow-up that was committed to the queue is eventually
executed as long as the scheduler keeps claiming (and restarts do not lose it:
`survives_restart`). -/
theorem due_task_claimed_within (t : Entry) (s : QState) (k : Nat) (h : Survives t s k) :
    k ≤ notAfter s t := by
  induction h with
  | zero s _ => exact Nat.zero_le _
  | step s s1 s2 now now2 o k _ henv hdue hclaim hstill _ ih =>
    have hp := claim_progress s1 s2 now now2 o t henv.1 hdue hclaim
    rcases hp.2 with hgone | ⟨_, hlt⟩
    · exact absurd hstill hgone
    · have := henv.2
      omega

/-- Non-vacuity: a task behind two earlier ones survives two claims and no more. -/
example :
    let t : Entry := ⟨5, "sync", "v"⟩
    let s : QState := ⟨[⟨3, "a", ""⟩, t, ⟨4, "b", ""⟩, ⟨9, "late", ""⟩], []⟩
    notAfter s t = 2 ∧ t ∈ s.pending := by decide

/-! ## Re-scheduling keeps the earlier time; `schedule_missing` leaves what is there -/

/-- Re-scheduling a task (`TaskQueue::schedule`, `schedule_and_finish_existing`) keeps the
earlier of the two times: afterwards the task is pending no later than requested, and for
every pending entry of that name that existed before there is one now that is no later. -/
theorem soonest_keeps_earlier (s s' : QState) (name val : String) (ts : Nat) (mode : Mode)
    (hm : mode = .replaceExistingSoonest ∨ mode = .finishOrReplaceExistingSoonest)
    (h : s' ∈ schedule s name val ts mode) :
    (∃ e ∈ s'.pending, e.name = name ∧ e.val = val ∧ e.ts ≤ ts) ∧
    ∀ x ∈ s.pending, x.name = name → ∃ y ∈ s'.pending, y.name = name ∧ y.ts ≤ x.ts := by
  obtain ⟨p, _, r, _, rfl⟩ := mem_schedule.mp h
  have hpend : (scheduleWith s name val ts mode p r).pending =
      kvPut (delOpt s.pending p) ⟨minOpt ts p, name, val⟩ := by
    rcases hm with rfl | rfl <;> rfl
  have hmin : minOpt ts p ≤ ts := by
    cases p
    · exact Nat.le_refl _
    · exact Nat.min_le_left _ _
  rw [hpend]
  refine ⟨⟨_, mem_kvPut.mpr (Or.inl rfl), rfl, rfl, hmin⟩, fun x hx hxn => ?_⟩
  by_cases hle : minOpt ts p ≤ x.ts
  · exact ⟨_, mem_kvPut.mpr (Or.inl rfl), rfl, hle⟩
  · -- `x` is earlier than the new entry and than the entry it replaces: it is untouched
    refine ⟨x, mem_kvPut.mpr (Or.inr ⟨?_, fun hk => hle (Nat.le_of_eq hk.1.symm)⟩), hxn, Nat.le_refl _⟩
    cases p with
    | none => exact hx
    | some e => exact mem_kvDel.mpr ⟨hx, fun hk => hle (hk.1 ▸ Nat.min_le_right _ _)⟩

/-- `schedule_missing` leaves the queue untouched when the task is already pending or
running … -/
theorem if_missing_keeps_existing (s s' : QState) (name val : String) (ts : Nat)
    (hex : s.hasName name = true) (h : s' ∈ schedule s name val ts .ifMissing) : s' = s :=
  (mem_schedule_ifMissing h).elim (·.2) fun ⟨hp, hr, _⟩ => absurd (hasName_iff.mp hex) (not_or.mpr ⟨hp, hr⟩)

/-- … and adds it (pending, at the requested time) when it is not. -/
theorem if_missing_adds_when_absent (s s' : QState) (name val : String) (ts : Nat)
    (hex : s.hasName name = false) (h : s' ∈ schedule s name val ts .ifMissing) :
    s' = { s with pending := kvPut s.pending ⟨ts, name, val⟩ } :=
  (mem_schedule_ifMissing h).elim (fun ⟨hn, _⟩ => absurd (hasName_iff.mpr hn) (hex ▸ Bool.false_ne_true)) (·.2.2)

/-! ## Durability: a task only leaves the queue by being finished -/

/-- Scheduling (in any mode) never makes a task name disappear. -/
theorem schedule_keeps_names (s s' : QState) (name val : String) (ts : Nat) (mode : Mode)
    (h : s' ∈ schedule s name val ts mode) (n : String) (hn : s.hasName n = true) :
    s'.hasName n = true := by
  obtain ⟨p, hp, r, hr, rfl⟩ := mem_schedule.mp h
  rw [hasName_iff] at hn ⊢
  rcases scheduleWith_eq s name val ts mode p r with he | ⟨t, r', hr', he⟩ <;> rw [he]
  · exact hn
  · by_cases hne : n = name
    · exact Or.inl (named_kvPut.mpr (Or.inl hne.symm))
    · -- a found entry that goes has the scheduled name
      exact hn.imp (fun h => named_kvPut.mpr (Or.inr (named_delOpt hp hne h)))
        fun h => hr'.elim (· ▸ named_delOpt hr hne h) (· ▸ h)

/-- Claiming never makes a task name disappear (it moves to `running`). -/
theorem claim_keeps_names (s s' : QState) (now now2 : Nat) (o : Option Entry)
    (h : (s', o) ∈ claim s now now2) (n : String) (hn : s.hasName n = true) :
    s'.hasName n = true := by
  rw [hasName_iff] at hn ⊢
  cases o with
  | none => rw [(mem_claim_none.mp h).2]; exact hn
  | some r =>
    obtain ⟨e, _, rfl, rfl⟩ := mem_claim_some.mp h
    by_cases hne : n = e.name
    · exact Or.inr (named_kvPut.mpr (Or.inl hne.symm))
    · exact hn.imp (named_kvDel hne) fun h => named_kvPut.mpr (Or.inr h)

/-- Re-scheduling a running task (`TaskResult::Reschedule`) keeps every name. -/
theorem reschedule_keeps_names (s s' : QState) (ts nts : Nat) (name : String)
    (h : reschedule s ts name nts = some s') (n : String) (hn : s.hasName n = true) :
    s'.hasName n = true := by
  obtain ⟨e, _, rfl⟩ := reschedule_eq_some.mp h
  rw [hasName_iff] at hn ⊢
  by_cases hne : n = name
  · exact Or.inl (named_kvPut.mpr (Or.inl hne.symm))
  · exact hn.imp (fun h => named_kvPut.mpr (Or.inr h)) (named_kvDel hne)

/-- Finishing removes only the finished entry: all other names stay. -/
theorem finish_keeps_other_names (s s' : QState) (ts : Nat) (name : String)
    (h : finish s ts name = some s') (n : String) (hne : n ≠ name)
    (hn : s.hasName n = true) : s'.hasName n = true := by
  obtain ⟨_, rfl⟩ := finish_eq_some.mp h
  rw [hasName_iff] at hn ⊢
  exact hn.imp_right (named_kvDel hne)

/-! ## Restart: every running task is re-queued, and the recurring tasks are pending after start -/

/-- Re-queuing at start-up (`reschedule_tasks_at_startup` when its guard fires): whatever
order the running keys are listed in, every listed running task is moved back to pending,
and nothing that was pending is lost. -/
theorem startupFold_requeues (now : Nat) (order : List Entry) :
    ∀ (s : QState),
      (∀ e ∈ order, e ∈ s.running) → KeysNodup order →
      ∃ s', startupFold s order now = some s' ∧
        (∀ x, x ∈ s'.running ↔
          x ∈ s.running ∧ ∀ e ∈ order, ¬ (x.ts = e.ts ∧ x.name = e.name)) ∧
        (∀ n, Named s.pending n ∨ (∃ e ∈ order, e.name = n) → Named s'.pending n) := by
  induction order with
  | nil =>
    exact fun s _ _ => ⟨s, rfl, by simp, by simp⟩
  | cons e rest ih =>
    intro s hall hnd
    obtain ⟨e0, hg⟩ := Option.isSome_iff_exists.mp (kvGet?_isSome_of_mem (hall e List.mem_cons_self))
    obtain ⟨hne, hnd⟩ := List.pairwise_cons.mp hnd
    have hall1 : ∀ x ∈ rest, x ∈ kvDel s.running e.ts e.name := fun x hx =>
      mem_kvDel.mpr ⟨hall x (List.mem_cons_of_mem _ hx), fun hc => hne x hx ⟨hc.1.symm, hc.2.symm⟩⟩
    obtain ⟨s', hs', hrun, hpend⟩ := ih
      { pending := kvPut s.pending ⟨now, e.name, e0.val⟩, running := kvDel s.running e.ts e.name } hall1 hnd
    refine ⟨s', ?_, fun x => ?_, fun n hn => hpend n ?_⟩
    · rw [← hs']
      show (match reschedule s e.ts e.name now with | some s' => startupFold s' rest now | none => none) = _
      rw [reschedule_eq_some.mpr ⟨e0, hg, rfl⟩]
    · rw [hrun x, mem_kvDel, List.forall_mem_cons, and_assoc]
    · rcases hn with hn | ⟨x, hx, hxn⟩
      · exact Or.inl (named_kvPut.mpr (Or.inr hn))
      · rcases List.mem_cons.mp hx with rfl | hx
        · exact Or.inl (named_kvPut.mpr (Or.inl hxn))
        · exact Or.inr ⟨x, hx, hxn⟩

/-- **Survives restart.**  If the start-up guard fires whenever at least one task is in the
running state, then after `reschedule_tasks_at_startup` – for every queue state, every
number of running tasks and every listing order – no task is left running and every task
that was pending or running is pending. -/
theorem survives_restart (guard : Nat → Bool) (hguard : ∀ n, 0 < n → guard n = true)
    (s : QState) (order : List Entry) (now : Nat)
    (hsub : ∀ e ∈ order, e ∈ s.running) (hcov : ∀ x ∈ s.running, x ∈ order)
    (hnd : KeysNodup order) :
    ∃ s', startup guard s order now = some s' ∧ s'.running = [] ∧
      ∀ n, s.hasName n = true → ∃ y ∈ s'.pending, y.name = n := by
  -- the guard can only skip an empty list, for which the fold does nothing
  have hst : startup guard s order now = startupFold s order now := by
    cases order with
    | nil => exact ite_self _
    | cons e rest => exact if_pos (hguard _ (Nat.succ_pos _))
  obtain ⟨s', hs', hrun, hpend⟩ := startupFold_requeues now order s hsub hnd
  refine ⟨s', hst.trans hs', List.eq_nil_iff_forall_not_mem.mpr fun x hx => ?_, fun n hn => hpend n ?_⟩
  · have := (hrun x).mp hx
    exact this.2 x (hcov x this.1) ⟨rfl, rfl⟩
  · exact (hasName_iff.mp hn).imp_right fun ⟨x, hx, hxn⟩ => ⟨x, hcov x hx, hxn⟩

/-- The guard found in the source (`KrillModel.Generated.StartupGuard`, regenerated from
`reschedule_tasks_at_startup` on every run) fires for every non-empty set of running
tasks.  On the pinned tree the guard was `keys.len() > 1` and this statement was false
(finding F-C09-1, witness `startup_guard_gt1_loses_single_task`). -/
theorem startup_guard_fires_when_nonempty :
    ∀ n, 0 < n → KM.Generated.startupGuard n = true := by
  intro n h
  cases n with
  | zero => cases h
  | succ n => rfl

/-- Survives restart, for the code as it is. -/
theorem survives_restart_code (s : QState) (order : List Entry) (now : Nat)
    (hsub : ∀ e ∈ order, e ∈ s.running) (hcov : ∀ x ∈ s.running, x ∈ order)
    (hnd : KeysNodup order) :
    ∃ s', startup KM.Generated.startupGuard s order now = some s' ∧ s'.running = [] ∧
      ∀ n, s.hasName n = true → ∃ y ∈ s'.pending, y.name = n :=
  survives_restart _ startup_guard_fires_when_nonempty s order now hsub hcov hnd

/-- Non-vacuity / what the pinned tree did: with the guard `n > 1`, a queue whose only
running task is the recurring re-publication keeps it "running" for ever, and
`schedule_missing` of the same task at start-up then adds nothing: the recurring task is
never executed again. -/
theorem startup_guard_gt1_loses_single_task :
    let s : QState := ⟨[], [⟨5, "all_cas_republish_if_needed", "v"⟩]⟩
    startup (fun n => decide (n > 1)) s s.running 9 = some s ∧
    tqScheduleMissing s "all_cas_republish_if_needed" "v" 9 = [s] := by
  decide +kernel

/-- With nothing running, `schedule_missing` of a list of tasks leaves each of them pending, and
keeps pending whatever names `N` were. -/
theorem scheduleMissingAll_pending (tasks : List (String × String × Nat)) (ss : List QState) (N : List String)
    (h : ∀ s ∈ ss, s.running = [] ∧ ∀ n ∈ N, Named s.pending n) :
    ∀ s' ∈ scheduleMissingAll ss tasks,
      s'.running = [] ∧ (∀ n ∈ N, Named s'.pending n) ∧ ∀ t ∈ tasks, Named s'.pending t.1 := by
  induction tasks generalizing ss N with
  | nil => exact fun s' hs' => ⟨(h s' hs').1, (h s' hs').2, fun _ ht => nomatch ht⟩
  | cons t rest ih =>
    have h1 : ∀ s1 ∈ ss.flatMap (fun s => tqScheduleMissing s t.1 t.2.1 t.2.2),
        s1.running = [] ∧ ∀ n ∈ t.1 :: N, Named s1.pending n := by
      intro s1 hs1
      obtain ⟨s0, hs0, hs1⟩ := List.mem_flatMap.mp hs1
      obtain ⟨hr0, hN⟩ := h s0 hs0
      rcases mem_schedule_ifMissing hs1 with ⟨hn, rfl⟩ | ⟨_, _, rfl⟩
      · -- nothing is running, so a name that is there is pending
        refine ⟨hr0, List.forall_mem_cons.mpr ⟨hn.resolve_right ?_, hN⟩⟩
        rintro ⟨x, hx, _⟩
        rw [hr0] at hx
        cases hx
      · exact ⟨hr0, List.forall_mem_cons.mpr
          ⟨named_kvPut.mpr (Or.inl rfl), fun n hn => named_kvPut.mpr (Or.inr (hN n hn))⟩⟩
    intro s' hs'
    obtain ⟨hrun, hN, hrest⟩ := ih _ (t.1 :: N) h1 s' hs'
    exact ⟨hrun, fun n hn => hN n (List.mem_cons_of_mem _ hn),
      List.forall_mem_cons.mpr ⟨hN _ List.mem_cons_self, hrest⟩⟩

/-- After start-up every recurring task is scheduled: if nothing is running, then after
`schedule_missing` of a list of tasks each of them is pending in every outcome (and stays
so while the remaining ones are added). -/
theorem recurring_scheduled_after_start (tasks : List (String × String × Nat)) :
    ∀ (ss : List QState), (∀ s ∈ ss, s.running = []) →
      ∀ s' ∈ scheduleMissingAll ss tasks,
        s'.running = [] ∧ ∀ t ∈ tasks, ∃ y ∈ s'.pending, y.name = t.1 := fun ss h s' hs' =>
  have := scheduleMissingAll_pending tasks ss [] (fun s hs => ⟨h s hs, by simp⟩) s' hs'
  ⟨this.1, this.2.2⟩

/-- `TaskResult::FollowUp` leaves the follow-up task pending no later than requested. -/
theorem followup_is_pending (s s' : QState) (key : Entry) (name val : String) (secs : Nat)
    (h : some s' ∈ handleResult s key (.followUp name val secs)) :
    ∃ e ∈ s'.pending, e.name = name ∧ e.val = val ∧ e.ts ≤ prioMillis secs := by
  simp only [handleResult, tqScheduleFinish, List.mem_map, Option.some.injEq] at h
  obtain ⟨s1, hs1, rfl⟩ := h
  exact (soonest_keeps_earlier s s1 name val _ _ (Or.inr rfl) hs1).1

/-- `TaskResult::Reschedule` keeps the task: it is pending again, at the requested time. -/
theorem reschedule_result_keeps_task (s s' : QState) (key : Entry) (secs : Nat)
    (h : some s' ∈ handleResult s key (.reschedule secs)) :
    ∃ e ∈ s'.pending, e.name = key.name ∧ e.ts = prioMillis secs := by
  simp only [handleResult, List.mem_singleton] at h
  obtain ⟨e, _, rfl⟩ := reschedule_eq_some.mp h.symm
  exact ⟨_, mem_kvPut.mpr (Or.inl rfl), rfl, rfl⟩

/-! ## Follow-ups implied by committed changes (over the tables generated from the source)

`KrillModel.Generated.EventTasks` and `KrillModel.Generated.SchedulerTasks` are regenerated
from `mq.rs`, `events.rs`, `taproxy.rs`, `pubd/manager.rs` and `scheduler.rs` on every run.
The lists on the left are the specification (what the property names). -/

open KM.Generated in
/-- CA events that change the set of published objects. -/
def objectChanging : List KM.Generated.CaEvent :=
  [.RoasUpdated, .AspaObjectsUpdated, .ChildCertificatesUpdated, .BgpSecCertificatesUpdated,
   .ChildKeyRevoked, .KeyPendingToNew, .KeyPendingToActive, .KeyRollActivated,
   .KeyRollFinished, .ParentRemoved, .ResourceClassRemoved]

/-- A follow-up put on the queue with `schedule` or `schedule_and_finish_existing` is pending
afterwards whatever else is pending or running (`soonest_keeps_earlier`); with
`schedule_missing` a *running* task of the same name would swallow it
(`if_missing_keeps_existing`) – the follow-up of a change committed while the task runs would
be lost.  So follow-ups must use one of the first two. -/
def guaranteed : KM.Generated.SchedMethod → Bool
  | .Schedule => true
  | .ScheduleAndFinishExisting => true
  | _ => false

/-- `t` is scheduled for event/method `row` with a method that guarantees it is pending. -/
def scheduled (t : KM.Generated.TaskKind)
    (row : List (KM.Generated.TaskKind × KM.Generated.SchedMethod)) : Bool :=
  row.any fun (k, m) => k == t && guaranteed m

/-- What makes `guaranteed` the right notion: in the queue model the two methods leave the
task pending in every outcome, `schedule_missing` does not when the task is running. -/
theorem guaranteed_methods_leave_pending (s s' : QState) (name val : String) (secs : Nat)
    (h : s' ∈ tqSchedule s name val secs ∨ s' ∈ tqScheduleFinish s name val secs) :
    ∃ e ∈ s'.pending, e.name = name ∧ e.ts ≤ prioMillis secs := by
  have hs := fun m hm hs => (soonest_keeps_earlier s s' name val (prioMillis secs) m hm hs).1
  obtain ⟨e, he, hn, _, ht⟩ := h.elim (hs _ (Or.inl rfl)) (hs _ (Or.inr rfl))
  exact ⟨e, he, hn, ht⟩

theorem schedule_missing_swallowed_by_running :
    tqScheduleMissing ⟨[], [⟨5, "update_rrdp_if_needed", "v"⟩]⟩ "update_rrdp_if_needed" "v" 9 =
      [⟨[], [⟨5, "update_rrdp_if_needed", "v"⟩]⟩] := by
  decide +kernel

/-- Repository synchronisation after an object change. -/
theorem object_change_schedules_repo_sync :
    ∀ e ∈ objectChanging, scheduled .SyncRepo (KM.Generated.caPreSaveTasks e) = true := by
  decide +kernel

/-- Parent synchronisation after a request is created (certificate request; parent or
repository added/updated so that requests can be made). -/
theorem request_schedules_parent_sync :
    ∀ e ∈ [KM.Generated.CaEvent.CertificateRequested, .ParentAdded, .ParentUpdated, .RepoUpdated],
      scheduled .SyncParent (KM.Generated.caPreSaveTasks e) = true := by
  decide +kernel

/-- Revocation after a key is activated (the old key's revocation request is sent by the
parent sync) and after a class is removed. -/
theorem activation_and_removal_schedule_revocation :
    scheduled .SyncParent (KM.Generated.caPreSaveTasks .KeyRollActivated) = true ∧
    scheduled .ResourceClassRemoved (KM.Generated.caPreSaveTasks .ResourceClassRemoved) = true ∧
    scheduled .UnexpectedKey (KM.Generated.caPreSaveTasks .UnexpectedKeyFound) = true := by
  decide +kernel

/-- A parent's change of a child's entitlement or key makes the (local) child sync. -/
theorem parent_change_schedules_child_sync :
    ∀ e ∈ [KM.Generated.CaEvent.ChildUpdatedResources, .ChildKeyRevoked],
      scheduled .SyncParent (KM.Generated.caPostSaveTasks e) = true := by
  decide +kernel

/-- Trust-anchor proxy: a child request triggers the proxy–signer exchange, a signer response
triggers publication and the children's syncs. -/
theorem ta_proxy_followups :
    scheduled .SyncTrustAnchorProxySignerIfPossible (KM.Generated.taPreSaveTasks .ChildRequestAdded) = true ∧
    scheduled .SyncRepo (KM.Generated.taPreSaveTasks .SignerResponseReceived) = true ∧
    scheduled .SyncParent (KM.Generated.taPostSaveTasks .SignerResponseReceived) = true := by
  decide +kernel

/-- An RRDP update after a publication (and after a publisher is removed). -/
theorem publication_schedules_rrdp_update :
    scheduled .RrdpUpdateIfNeeded (KM.Generated.pubdMethodTasks .publish) = true ∧
    scheduled .RrdpUpdateIfNeeded (KM.Generated.pubdMethodTasks .remove_publisher) = true := by
  decide +kernel

/-- …and the task is put on the queue only after the change is in the repository content: a
task scheduled first could be claimed, find nothing staged and finish before the change
exists (a lost wake-up: the change would wait for the next unrelated publication). -/
theorem publication_schedules_after_change :
    KM.Generated.pubdScheduleAfterChange .publish = true ∧
    KM.Generated.pubdScheduleAfterChange .remove_publisher = true := by
  decide +kernel

/-! ## Follow-ups are scheduled after the change, with a method that cannot be swallowed -/

open KM.Queue.Wakeup in
/-- With change first and a guaranteed method, every step of the wake-up model keeps its invariant `Wakeup.Inv`. -/
theorem wakeup_inv_step (s : St) (st : Step) (h : Inv s) : Inv (step ⟨true, true⟩ s st) := by
  -- every step is "if its guard holds, a new state, else `s`"
  have keep {c : Prop} [Decidable c] {a : St} (ha : c → Inv a) : Inv (if c then a else s) := by
    split
    · exact ha ‹_›
    · exact h
  have keep' {c : Prop} [Decidable c] {a : St} (ha : ¬ c → Inv a) : Inv (if c then s else a) := by
    split
    · exact h
    · exact ha ‹_›
  have ⟨hr, hs⟩ := h
  cases st with
  | first => exact keep' fun _ => ⟨hr, fun _ => Or.inr (Or.inr (Nat.succ_pos _))⟩
  | second => exact keep' fun _ => ⟨hr, fun _ => Or.inl rfl⟩
  | claim => exact keep fun _ => ⟨Nat.le_succ 1, fun _ => Or.inr (Or.inl rfl)⟩
  | process => exact keep fun _ => ⟨Nat.le_refl 2, fun h => absurd h Bool.false_ne_true⟩
  | finish =>
    -- only a run that has processed what was staged is ended
    refine keep fun h2 => ⟨Nat.zero_le _, fun hst => (hs hst).imp_right fun h => Or.inr (h.resolve_left fun h1 => ?_)⟩
    have := beq_iff_eq.mp h2
    omega

open KM.Queue.Wakeup in
/-- **No change is left behind.**  With the statement order and the scheduling method of the
unchanged tree – change first, then `schedule` – for any number of request threads and every
interleaving with the scheduler: whenever everything has come to rest, nothing is staged. -/
theorem followup_never_lost (threads : Nat) (steps : List Step)
    (hq : quiescent (run ⟨true, true⟩ (init threads) steps) = true) :
    (run ⟨true, true⟩ (init threads) steps).staged = false := by
  have h0 : Inv (init threads) := ⟨Nat.zero_le _, fun h => absurd h Bool.false_ne_true⟩
  have : Inv (run ⟨true, true⟩ (init threads) steps) :=
    List.foldlRecOn steps _ h0 fun s h st _ => wakeup_inv_step s st h
  generalize run ⟨true, true⟩ (init threads) steps = s at *
  simp only [quiescent, Bool.and_eq_true, beq_iff_eq, Bool.not_eq_true'] at hq
  obtain ⟨⟨⟨h0', h1⟩, hp⟩, hrun⟩ := hq
  cases hst : s.staged with
  | false => rfl
  | true =>
    rcases this.2 hst with h | h | h
    · rw [hp] at h; cases h
    · omega
    · omega

open KM.Queue.Wakeup in
/-- Scheduling first loses the change: the task is claimed, finds nothing and is finished
before the change is staged (the seeded change C18-r2). -/
theorem schedule_before_change_loses :
    let s := run ⟨false, true⟩ (init 1) [.first, .claim, .process, .finish, .second]
    quiescent s = true ∧ s.staged = true := by decide

open KM.Queue.Wakeup in
/-- `schedule_missing` loses the change made while the task is running after it has looked
(the seeded change C09 round 1). -/
theorem schedule_missing_loses :
    let s := run ⟨true, false⟩ (init 2) [.first, .second, .claim, .process, .first, .second, .finish]
    quiescent s = true ∧ s.staged = true := by decide

/-- Tie to the source: the code of `RepositoryManager::publish` and `remove_publisher` is the
instance `⟨changeFirst := true, guaranteed := true⟩` the theorem is about. -/
theorem source_publish_is_change_first_guaranteed :
    KM.Generated.pubdScheduleAfterChange .publish = true ∧
    scheduled .RrdpUpdateIfNeeded (KM.Generated.pubdMethodTasks .publish) = true ∧
    KM.Generated.pubdScheduleAfterChange .remove_publisher = true ∧
    scheduled .RrdpUpdateIfNeeded (KM.Generated.pubdMethodTasks .remove_publisher) = true :=
  ⟨publication_schedules_after_change.1, publication_schedules_rrdp_update.1,
    publication_schedules_after_change.2, publication_schedules_rrdp_update.2⟩

/-! ## Recurring maintenance never stops: scheduled at every start, and every run schedules the next -/

/-- The recurring maintenance tasks. -/
def recurring : List KM.Generated.TaskKind :=
  [.RepublishIfNeeded, .RenewObjectsIfNeeded, .UpdateSnapshots]

/-- After every start the recurring tasks (re-publication, object renewal, snapshot update)
and the parent refresh are scheduled again (`schedule_missing`; with
`recurring_scheduled_after_start` and `survives_restart_code`: they are then pending). -/
theorem start_schedules_recurring :
    ∀ t ∈ recurring ++ [KM.Generated.TaskKind.SyncParent], t ∈ KM.Generated.startMissing := by
  decide +kernel

/-- … and they are scheduled on EVERY start: the scheduling calls of the store-wide recurring tasks are plain
statements of `queue_start_tasks`, inside no loop and under no condition (`startGuards`, regenerated from the source
with the loops and conditions each call is nested in).  A call moved under "if there are CAs" would leave an instance
that starts empty without re-publication and renewal for the life of the process – the tasks only ever re-queue
themselves, and nothing else schedules them. -/
theorem recurring_scheduled_unconditionally :
    ∀ t ∈ recurring, (t, ([] : List String)) ∈ KM.Generated.startGuards := by
  decide +kernel

/-- The guards of the other start tasks are the reviewed ones: per CA (and per parent), the re-sync threshold, the
suspension and testbed and RISwhois switches of the configuration. -/
theorem start_guards_reviewed :
    KM.Generated.startGuards.map (fun g => (g.1, g.2.length)) =
      [(.SyncParent, 2), (.SyncRepo, 2), (.SuspendChildrenIfNeeded, 2), (.RepublishIfNeeded, 0),
       (.RenewObjectsIfNeeded, 0), (.RefreshAnnouncementsInfo, 1), (.UpdateSnapshots, 0), (.RenewTestbedTa, 1)] ∧
    (∀ g ∈ KM.Generated.startGuards, g.1 = .SyncParent ∨ g.1 = .SyncRepo ∨ g.1 = .SuspendChildrenIfNeeded →
      g.2.head? = some "for handle in &cas") := by
  decide +kernel

/-- A recurring task never ends without scheduling itself again: the only result its handler
can return is a follow-up of the same task. -/
theorem recurring_never_stops :
    ∀ t ∈ recurring, KM.Generated.taskResults t = [.followUp t] := by
  decide +kernel

/-- The parent refresh either follows itself up, is re-scheduled, or ends (`Done` is returned
only for an unknown parent or a removed CA, scheduler.rs `sync_parent`). -/
theorem parent_refresh_results :
    ∀ r ∈ KM.Generated.taskResults .SyncParent,
      r = .followUp .SyncParent ∨ r = .reschedule ∨ r = .done := by
  decide +kernel

/-- No task handler follows up with a *different* task (so `schedule_and_finish_existing`,
which finishes the running entry of the follow-up's name, always finishes the task that
just ran). -/
theorem followups_are_self (t t' : KM.Generated.TaskKind)
    (h : KM.Generated.ResultKind.followUp t' ∈ KM.Generated.taskResults t) : t' = t := by
  have hall : (KM.Generated.taskResults t).all
      (fun r => match r with | .followUp t'' => decide (t'' = t) | _ => true) = true := by
    cases t <;> rfl
  exact of_decide_eq_true (List.all_eq_true.mp hall _ h)

/-- A queue that satisfies the key invariant `WF` of `Queue/Lemmas.lean` … -/
example : WF (⟨[⟨3, "a", "x"⟩, ⟨5, "b", "y"⟩], [⟨1, "c", "z"⟩]⟩ : QState) := by
  unfold WF KeysNodup
  decide

/-- … and a claim on its pending entries: the earliest due entry moves to `running`, at the time of the claim. -/
example : (⟨⟨[⟨5, "b", "y"⟩], [⟨9, "a", "x"⟩]⟩, some ⟨9, "a", "x"⟩⟩ : QState × Option Entry)
    ∈ claim ⟨[⟨3, "a", "x"⟩, ⟨5, "b", "y"⟩], []⟩ 9 9 := by decide

end KM.Props.C09
