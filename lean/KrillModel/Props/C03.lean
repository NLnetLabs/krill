/-
C03 — Whatever is revoked, removed or replaced is withdrawn and stays on the CRL.

Theorems over `Ca/Objects.lean`; `KeyObjectSet` carries a ghost history (`ever`, `maxNow`).  The two corners at
the end are runs of the CertAuth model (`CaK.Sys.run`).
-/
import KrillModel.Ca.ObjLemmasRevocation
import KrillModel.Ca.ObjLemmasSync
import KrillModel.Ca.LemmasProcess
namespace KM.Props.C03
open KM.Ca.Pub

/-- Along every history of a key set (object updates of every kind, certificate updates as the
0.16 code produces them, re-issues at arbitrary instants, retirement) every `(serial, notAfter)`
that was ever published is still published, or is on the revocation list, or had expired at an
instant at which expired entries were dropped.  (Manifests are not in `published`/`ever`: the code
never revokes a superseded manifest's EE certificate – the property excludes manifests.) -/
theorem superseded_revoked (t : Timing) (s : KeyObjectSet) (ops : List SetOp) (hops : ∀ op ∈ ops, op.ok)
    (h : RevInv s) :
    ∀ x ∈ (s.run t ops).ever,
      (∃ e ∈ (s.run t ops).published, (e.2.serial, e.2.expires) = x) ∨
      (⟨x.1, x.2⟩ : Revocation) ∈ (s.run t ops).revocations ∨ x.2 ≤ (s.run t ops).maxNow :=
  ((revInv_closed t).run ops s hops h).2

/-- Non-vacuity: a freshly created set satisfies the invariant. -/
example (k : NewKey) (t : Timing) : RevInv (k.create t) := revInv_create k t

/-- The same for every key set (current, staging, old) of every class along every history of a CA's
object store: commands with arbitrary events, republish runs, key rolls. -/
theorem superseded_revoked_ca (t : Timing) (o : CaObjects) (ops : List CaOp) (hops : ∀ op ∈ ops, op.ok)
    (h : ∀ s ∈ allSets o, RevInv s) : ∀ s ∈ allSets (caRun t o ops), RevInv s :=
  caRun_preserves (revInv_closed t) ops o hops h

example : ∀ s ∈ allSets ([] : CaObjects), RevInv s := fun _ h => nomatch h

/-- Why the hypothesis on certificate updates: the `unsuspended` arm of `update_certs` (only
produced by pre-0.16 histories) inserts without revoking what it replaces. -/
theorem unsuspended_arm_forgets :
    ∃ (s : KeyObjectSet) (c : CertUpdates), RevInv s ∧ ¬ Superseded (s.updateCerts c) := by
  refine ⟨{ (default : KeyObjectSet) with published := [(1, ⟨10, 1000, 0⟩)], ever := [(10, 1000)] },
    { unsuspended := [(1, ⟨11, 1000, 0⟩)] }, ⟨by decide, ?_⟩, ?_⟩
  · intro x hx
    cases List.mem_singleton.mp hx
    exact Or.inl ⟨(1, ⟨10, 1000, 0⟩), .head _, rfl⟩
  · intro h
    have := h (10, 1000) (by decide)
    revert this
    decide

/-- The CRL built at a re-issue lists exactly the revocations (after dropping expired ones). -/
theorem crl_lists_revocations (s : KeyObjectSet) (t : Timing) (i : IssueIn) :
    (s.reissue t i).crl.revoked = (s.reissue t i).revocations.map (·.serial) ∧
    (s.reissue t i).revocations = removeExpired i.now s.revocations :=
  ⟨rfl, rfl⟩

/-- Every change of a key set's objects or revocations forces a re-issue in the same command:
after every command and every republish run the CRL of every key set lists exactly that set's
revocations (and the manifest lists the CRL and the published objects). -/
theorem crl_lists_revocations_always (t : Timing) (o : CaObjects) (ops : List CaOp)
    (h : ∀ s ∈ allSets o, GoodSet s) : ∀ s ∈ allSets (caRun t o ops), CrlOk s :=
  fun s hs => (good_caRun t ops o h s hs).crlOk

/-- A revocation stays on the list until the revoked object has expired. -/
theorem revocation_stays_until_expiry (s : KeyObjectSet) (t : Timing) (i : IssueIn) (r : Revocation)
    (hr : r ∈ s.revocations) (hexp : r.expires > i.now) : r ∈ (s.reissue t i).revocations :=
  mem_removeExpired_iff.mpr ⟨hr, hexp⟩

/-- `retire` (key roll): nothing stays published and everything that was is revoked (or expired). -/
theorem retire_revokes_all (s : KeyObjectSet) (now : Nat) :
    (s.retire now).published = [] ∧
    ∀ e ∈ s.published, e.2.revoke ∈ (s.retire now).revocations ∨ e.2.expires ≤ now := by
  refine ⟨rfl, ?_⟩
  intro e he
  have : e.2.revoke ∈ s.revocations ++ s.published.map (·.2.revoke) :=
    List.mem_append.mpr (Or.inr (List.mem_map.mpr ⟨e, he, rfl⟩))
  exact mem_removeExpired this

/-- After a repository synchronisation the server holds, for this publisher, exactly the element
map of the CA's objects – for *any* previous content.  In particular a URI that is not an element
any more is gone. -/
theorem withdrawn_after_sync (server : List (Uri × Nat)) (hn : (keys server).Nodup) (o : CaObjects) (u : Uri)
    (hu : u ∉ keys (elementMap (allPublishElements o))) : get? (syncRepo server o) u = none :=
  ((syncRepo_exact server (allPublishElements o) hn).2 u).trans (get?_none_iff.mpr hu)

example : (keys ([((1, 2), 3)] : List (Uri × Nat))).Nodup := by decide

/-- A removed object is not among the published objects any more (so its URI leaves the elements). -/
theorem removed_not_published (s : KeyObjectSet) (n : Nat) : n ∉ keys (s.remove n).published := by
  rw [remove_published]
  exact get?_none_iff.mp ((get?_erase ..).trans (if_pos rfl))

/-- The trust anchor's own certificates, `TrustAnchorObjects::add_issued`: a certificate issued for a key that has one
replaces it and revokes it. -/
theorem ta_replace_revokes_previous (o : TaObjects) (now key : Nat) (c prev : PubObj)
    (h : get? o.issued key = some prev) (hexp : prev.expires > now) :
    prev.revoke ∈ (o.addIssued now key c).revocations ∧ get? (o.addIssued now key c).issued key = some c := by
  simp only [TaObjects.addIssued, h]
  exact ⟨mem_removeExpired_iff.mpr ⟨List.mem_append_right _ (List.mem_singleton_self _), hexp⟩,
    (get?_put ..).trans (if_pos rfl)⟩

/-- `TrustAnchorObjects::revoke_issued`. -/
theorem ta_revoke_effective (o : TaObjects) (now key : Nat) (prev : PubObj)
    (h : get? o.issued key = some prev) (hexp : prev.expires > now) :
    (o.revokeIssued now key).2 = true ∧ prev.revoke ∈ (o.revokeIssued now key).1.revocations ∧
    get? (o.revokeIssued now key).1.issued key = none := by
  simp only [TaObjects.revokeIssued, h]
  exact ⟨trivial, mem_removeExpired_iff.mpr ⟨List.mem_append_right _ (List.mem_singleton_self _), hexp⟩,
    (get?_erase ..).trans (if_pos rfl)⟩

/-- `update_certs` with `removed = [name]` (what `ChildCertificatesUpdated { removed }` does to the
current key set of the class): the certificate is not published any more and its serial is on the
set's revocation list (it stays there until it has expired: `revocation_stays_until_expiry`, and
the CRL lists it: `crl_lists_revocations_always`). -/
theorem removed_certificate_withdrawn_and_revoked (s : KeyObjectSet) (name : Nat) (old : PubObj)
    (hnd : (keys s.published).Nodup) (h : get? s.published name = some old) :
    name ∉ keys (s.updateCerts { removed := [name] }).published ∧
    old.revoke ∈ (s.updateCerts { removed := [name] }).revocations := by
  have hu : s.updateCerts { removed := [name] } = s.remove name := rfl
  rw [hu]
  refine ⟨removed_not_published s name, ?_⟩
  simp [KeyObjectSet.remove, h]

/-- FULL STATEMENT (since fix 239f0a59, F-C03-3): a revocation request that is answered
positively (`rfc6492_revoke` replies unless the command fails) is, whatever class name the child
was told and whatever it names,
* executed in the class the key's certificate was issued in (`used_keys` records it; the events
  `ChildKeyRevoked` + `ChildCertificatesUpdated { removed: [key] }` are emitted for exactly that
  class; by `removed_certificate_withdrawn_and_revoked` the certificate leaves the published set
  and its serial is on the CRL), or
* for a class the parent does not have: nothing to remove (`ignored`), or
* for a key this CA marked `Revoked` itself (`alreadyRevoked`): the certificate was removed by the
  command that set the mark (see `revoke_request_for_revoked_key_confirmed` for what is proved
  and what is missing for the state-level statement). -/
theorem revoke_request_effective (res : List Nat) (c : ChildM) (rcn key : Nat)
    (hpos : (processChildRevokeKey res c rcn key).positive = true) :
    (∃ r, get? c.usedKeys key = some (some r) ∧ r = c.parentNameForRcn rcn ∧ r ∈ res ∧
      processChildRevokeKey res c rcn key = .revoked r key) ∨
    (c.parentNameForRcn rcn ∉ res ∧ processChildRevokeKey res c rcn key = .ignored) ∨
    (c.isRevoked key = true ∧ processChildRevokeKey res c rcn key = .alreadyRevoked) := by
  by_cases hcl : c.parentNameForRcn rcn ∈ res
  · rw [processChildRevokeKey_known_class key hcl] at hpos ⊢
    generalize hu : get? c.usedKeys key = u at hpos ⊢
    rcases u with _ | _ | r
    · cases hpos
    · exact Or.inr (Or.inr ⟨isRevoked_iff.mpr hu, rfl⟩)
    · by_cases hr : r = c.parentNameForRcn rcn
      · exact Or.inl ⟨r, rfl, hr, hr ▸ hcl, if_pos hr⟩
      · simp only [if_neg hr] at hpos
        cases hpos
  · exact Or.inr (Or.inl ⟨hcl, processChildRevokeKey_unknown_class key hcl⟩)

/-- The converse for the executing arm: a key in use in the class the request names (under
whichever name the child was told), in a class the parent has, is revoked there and the answer
is positive. -/
theorem revoke_request_executed (res : List Nat) (c : ChildM) (rcn key : Nat)
    (hiss : get? c.usedKeys key = some (some (c.parentNameForRcn rcn))) (hclass : c.parentNameForRcn rcn ∈ res) :
    (processChildRevokeKey res c rcn key).positive = true ∧
    processChildRevokeKey res c rcn key = .revoked (c.parentNameForRcn rcn) key := by
  have h : processChildRevokeKey res c rcn key = .revoked (c.parentNameForRcn rcn) key := by
    rw [processChildRevokeKey_known_class key hclass, hiss]
    exact if_pos rfl
  rw [h]
  exact ⟨rfl, rfl⟩

/-- Counter-model of the PINNED tree (before 239f0a59; F-C03-3, replayed:
corpus/proto-cms/revoke-names-another-class.ops shows the fixed behaviour): the key is in use in
class 0, the request names class 1 (which the parent has): answered positively, "revoked" in
class 1 – where the certificate is not.  On the current tree the request is refused. -/
theorem pinned_revoke_in_wrong_class :
    ∃ (res : List Nat) (c : ChildM) (rcn key : Nat),
      get? c.usedKeys key = some (some 0) ∧
      (pinnedRevokeAnyClass res c rcn key).positive = true ∧
      pinnedRevokeAnyClass res c rcn key = .revoked 1 key ∧
      (processChildRevokeKey res c rcn key).positive = false :=
  ⟨[0, 1], { usedKeys := [(5, some 0)], rcnMap := [] }, 1, 5, by decide, by decide, by decide, by decide⟩

/-- Non-vacuity, with a mapped class name. -/
example : ∃ (res : List Nat) (c : ChildM) (rcn key : Nat),
    get? c.usedKeys key = some (some (c.parentNameForRcn rcn)) ∧ c.parentNameForRcn rcn ∈ res ∧
    c.parentNameForRcn rcn ≠ rcn ∧ (processChildRevokeKey res c rcn key).positive = true :=
  ⟨[0], { usedKeys := [(5, some 0)], rcnMap := [(0, 7)] }, 7, 5, by decide, by decide, by decide, by decide⟩

/-- A request for a key the child never presented is refused (not answered positively). -/
theorem revoke_request_unknown_key_refused (res : List Nat) (c : ChildM) (rcn key : Nat)
    (hiss : c.isIssued key = false) (hrev : c.isRevoked key = false) (hclass : c.parentNameForRcn rcn ∈ res) :
    (processChildRevokeKey res c rcn key).positive = false := by
  rw [processChildRevokeKey_known_class key hclass]
  rcases hu : get? c.usedKeys key with _ | _ | r
  · rfl
  · exact absurd (isRevoked_iff.mpr hu) (hrev ▸ Bool.false_ne_true)
  · exact absurd (isIssued_iff.mpr ⟨r, hu⟩) (hiss ▸ Bool.false_ne_true)

/-- A request for a key that is in use in ANOTHER class than the one it names is refused (fix
239f0a59): never answered positively without effect. -/
theorem revoke_request_other_class_refused (res : List Nat) (c : ChildM) (rcn key r : Nat)
    (hu : get? c.usedKeys key = some (some r)) (hne : r ≠ c.parentNameForRcn rcn)
    (hclass : c.parentNameForRcn rcn ∈ res) :
    (processChildRevokeKey res c rcn key).positive = false := by
  rw [processChildRevokeKey_known_class key hclass, hu]
  exact congrArg RevokeOut.positive (if_neg hne)

/-- Since fix 7be8c4c6 (F-C02-2): a request for a key that this CA marked `Revoked` itself is
answered positively and changes nothing.  The decision table is complete: every request is
ignored (class unknown), confirmed-as-done (key revoked here), refused (key never used) or
executed (`revoke_request_effective`).

Full statement wanted for this arm: "the positive answer is truthful - the certificate that was
issued for the key is no longer published and its serial is on the CRL until it expires".  What is
proved: (i) whatever leaves the published set of a key set is on that set's revocation list until
it expires, for every history (`superseded_revoked_ca`, no hypothesis on keys); (ii) each command
that sets `Revoked` removes the certificate of the key in the same command
(`C04.revoke_removes_certificate` for the request, the `removed` list of
`ChildCertificatesUpdated` for `shrink_overclaiming` / unsuspend, applied by
`CertAuth::apply` together with the `Revoked` marks - `KM.CaK.revokeEverywhere`).  What is MISSING
for the state-level statement "`Revoked` for this child ⇒ no issued or suspended certificate for
the key in any class": it is not part of `Inv` (`UsedInv` speaks about `InUse` only) and it is
false when two children present the same key - the second child can have the key certified again
while the first child's entry stays `Revoked` (`revoked_entry_beside_live_certificate` below); it
needs the input assumption "no two children present the same key" that C02's
`ActiveChildHasCert` needs as well; and it is false when ONE child has the same key certified in
two classes (`revoked_entry_beside_certificate_in_other_class`): `used_keys` has one entry per
key, and nothing refuses the second certificate – `ChildDetails::verify_key_allowed`
(child.rs:152-167, `KeyUseAttemptReuse`) is never called.  Both need a non-krill child (krill
creates a new key per class and per roll). -/
theorem revoke_request_for_revoked_key_confirmed (res : List Nat) (c : ChildM) (rcn key : Nat)
    (hrev : c.isRevoked key = true) (hclass : c.parentNameForRcn rcn ∈ res) :
    processChildRevokeKey res c rcn key = .alreadyRevoked ∧
    (processChildRevokeKey res c rcn key).positive = true ∧
    pinnedRevokedKeyRefused res c rcn key = .error := by
  have hu := isRevoked_iff.mp hrev
  have hiss : c.isIssued key = false :=
    Bool.eq_false_iff.mpr fun h => let ⟨_, hr⟩ := isIssued_iff.mp h; nomatch hu.symm.trans hr
  rw [processChildRevokeKey_known_class key hclass, hu]
  refine ⟨rfl, rfl, ?_⟩
  unfold pinnedRevokedKeyRefused
  rw [if_neg (not_not_intro hclass), hiss]
  rfl

/-- Non-vacuity. -/
example : ∃ (res : List Nat) (c : ChildM) (rcn key : Nat), c.isRevoked key = true ∧ c.parentNameForRcn rcn ∈ res :=
  ⟨[0], { usedKeys := [(5, none)], rcnMap := [] }, 0, 5, by decide, by decide⟩

/-- The corner named above, on the aggregate model: child 7 and child 8 present the same key 6;
the key is revoked on 7's request (both entries become `Revoked`, the certificate is removed), 8
has it certified again - 7's entry is still `Revoked` while a certificate for key 6 is issued. -/
theorem revoked_entry_beside_live_certificate :
    let s := KM.CaK.Sys.run {} [ .repoUpdate [], .addParent 9,
      .updateEntitlements 9 [⟨0, [1, 2], 100, []⟩] 0 [4],
      .updateRcvdCert 0 4 { res := [1, 2], na := 100 } 50 [],
      .childAdd 7 [1], .childAdd 8 [1], .childCertify 7 0 6 none 60, .childCertify 8 0 6 none 60,
      .childRevokeKey 7 0 6, .childCertify 8 0 6 none 60 ]
    KM.CaK.Reachable s ∧
    ((KM.AMap.get s.ca.children 7).bind fun c => KM.AMap.get c.usedKeys 6) = some .revoked ∧
    ((KM.AMap.get s.ca.classes 0).map fun rc => (KM.AMap.get rc.certs.issued 6).isSome) = some true ∧
    s.exec (.childRevokeKey 7 0 6) = .stored [] s :=
  ⟨KM.CaK.reachable_run .init _, by decide +kernel⟩

/-- The second corner: one child has key 6 certified in class 0 and then in class 1 (nothing
refuses the re-use); its revocation request for class 1 is executed there – the certificate in
class 0 stays issued while the child's only entry for the key says `Revoked`. -/
theorem revoked_entry_beside_certificate_in_other_class :
    let s := KM.CaK.Sys.run {} [ .repoUpdate [], .addParent 98, .addParent 99,
      .updateEntitlements 98 [⟨0, [1, 2], 1000, []⟩] 0 [4],
      .updateEntitlements 99 [⟨0, [5, 6], 1000, []⟩] 0 [5],
      .updateRcvdCert 0 4 { res := [1, 2], na := 1000 } 500 [],
      .updateRcvdCert 1 5 { res := [5, 6], na := 1000 } 500 [],
      .childAdd 7 [1, 5], .childCertify 7 0 6 none 60, .childCertify 7 1 6 none 60,
      .childRevokeKey 7 1 6 ]
    KM.CaK.Reachable s ∧
    ((KM.AMap.get s.ca.children 7).bind fun c => KM.AMap.get c.usedKeys 6) = some .revoked ∧
    ((KM.AMap.get s.ca.classes 1).map fun rc => (KM.AMap.get rc.certs.issued 6).isSome) = some false ∧
    ((KM.AMap.get s.ca.classes 0).map fun rc => (KM.AMap.get rc.certs.issued 6).isSome) = some true :=
  ⟨KM.CaK.reachable_run .init _, by decide +kernel⟩

/-- What remains open (finding F-C03-2): the hypothesis "the class exists" cannot be dropped.  A
class-name mapping whose parent-side class does not exist (accepted with a warning by
`process_child_resource_class_name_mapping`) shadows the name the child uses for a real class; the
request is then translated to the missing class, ignored – and still answered positively.
Full statement (false): `∀ res c rcn key, positive → c.isIssued key → ∃ my, … = .revoked my key`. -/
theorem revoke_request_ignored_for_missing_class :
    ∃ (res : List Nat) (c : ChildM) (rcn key : Nat),
      (processChildRevokeKey res c rcn key).positive = true ∧ c.isIssued key = true ∧ rcn ∈ res ∧
      processChildRevokeKey res c rcn key = .ignored :=
  ⟨[0], { usedKeys := [(5, some 0)], rcnMap := [(7, 0)] }, 0, 5, by decide, by decide, by decide, by decide⟩

/-- The behaviour before fix 43d7eca0 (finding F-C03-1, replayed on the code at the time): the class
was looked up under the *child's* name before translating it, so a request under a mapped class
name was ignored and still answered positively. -/
theorem pinned_revoke_request_effective_fails :
    ∃ (res : List Nat) (c : ChildM) (rcn key : Nat),
      (pinnedProcessChildRevokeKey res c rcn key).positive = true ∧ c.isIssued key = true ∧
      c.parentNameForRcn rcn ∈ res ∧ pinnedProcessChildRevokeKey res c rcn key = .ignored :=
  ⟨[0], { usedKeys := [(5, some 0)], rcnMap := [(0, 7)] }, 7, 5, by decide, by decide, by decide, by decide⟩

end KM.Props.C03
