/-
C06 — State rebuilt from the audit log equals the live state.
Property theorems, with the few helper lemmas that only they use; the lemma file is
`KrillModel.ES.Lemmas`.

Reading of the property in the model (`ES/AggStore.lean`, `ES/Wal.lean`): an entity is the
key-value scope of one handle plus the cache entries of every store object open on it.
A *history* is any list of public operations (`Op`): creating the entity, accepted / rejected /
no-op / vetoed commands, failed writes, reads, snapshots at any point, through any store
object, and store objects being thrown away and re-created (`restart` = cache drop).
-/
import KrillModel.ES.Lemmas
import KrillModel.ES.ObsLemmas
import KrillModel.ES.WalLemmas
import KrillModel.ES.Reg
import KrillModel.ES.RegLemmas
import KrillModel.ES.Bag
import KrillModel.ES.Instances
/-
Clause → theorem (text of C06 in /verif/properties.jsonl):
* "replaying the stored initialisation and commands from scratch, … any stored snapshot plus the
  later commands, … the state held in memory … agree": `replay_eq_live` (histories of public
  operations), `replay_eq_live_krill_usage` (also deletion / re-creation, under the decidable usage
  predicate `dropSafeB`; `drop_needs_usage_assumption` shows it is needed).
* "in every respect observable through the API": `replay_eq_live_obs` (for every renderer of results).
* "snapshots taken at every point of that history": `snapshot_any_point`,
  `stored_snapshot_is_prefix_state`.
* "Replaying a stored history never fails or panics": `replay_total`; the live path:
  `no_panic_of_applicable` (+ `reg_applicable`, `badAgg`), and its veto-aware form
  `no_panic_of_applicable_veto` / `store_never_panics` (hypothesis only for the states reachable when
  commands the pre-save listener refuses are not stored; `veto_hypothesis_strictly_weaker`).
* "For every event-sourced entity (CAs, trust-anchor proxy and signer, repository access, …)": the
  hypothesis discharged for the models of the real aggregates (`ES/Instances.lean`):
  `ca_replay_never_panics`, `ca_replay_never_panics_krill_usage`, `ca_replay_eq_live`,
  `ca_replay_eq_live_obs`, `taproxy_replay_never_panics`, `taproxy_replay_eq_live`,
  `tasigner_replay_never_panics`, `tasigner_replay_eq_live`; repository access (no model with
  `process`/`apply`; its `apply` has no panic arm): `total_apply_never_panics`.
* "repository content log" (WAL store): `wal_replay_eq_live`, `wal_replay_eq_live_krill_usage`
  (decidable `safeRunB`), `wal_live_is_snapshot_plus_sets`, `wal_snapshot_safe_iff` (the side
  condition is exact), `wal_snapshot_needs_current_caches`.
* "for every command history produced through the public operations": everything quantifies over
  arbitrary `List (Op A)` / `List (HOp A)` / `List (Wal.Op T)`; the stream's generated histories are
  checked against the usage predicates by the driver (oracle name `krill_usage`).
-/
namespace KM.Props.C06
open KM.ES

variable {A : Agg}

/-- What every way of obtaining the state must return for log `L`. -/
def expected (L : Log A) : Out A :=
  match finalOf L with
  | some w => .ok w
  | none => .unknown

/-- On any entity that stores a log (`Inv`): replay from scratch, a fresh store and every live
store object return the pure replay of that log. -/
theorem replay_eq_live_of_inv (hiv : A.initVersion ≤ 1) {e : Ent A} {L : Log A} (h : Inv e L)
    (i : Nat) :
    loadScratch e = expected L ∧ loadFresh e = expected L ∧ (getLatest e i).2 = expected L :=
  ⟨getLatest_spec hiv h.clearForScratch 0, getLatest_spec hiv h.clearCaches 0, getLatest_spec hiv h i⟩

/-- … and none of them panics or hits the "command key exists" exit. -/
theorem replay_total_of_inv (hiv : A.initVersion ≤ 1) {e : Ent A} {L : Log A} (h : Inv e L) :
    loadScratch e ≠ .panic ∧ loadFresh e ≠ .panic ∧ loadScratch e ≠ .fatal ∧ loadFresh e ≠ .fatal := by
  obtain ⟨h1, h2, _⟩ := replay_eq_live_of_inv hiv h 0
  rw [h1, h2, expected]
  cases finalOf L <;> simp

/-- After every history, the state replayed from `command-0.json` alone
(snapshot ignored), the state a fresh store builds from the stored snapshot plus the later
commands, and the state every live store object returns from its cache agree; all of them
are the pure replay `finalOf` of the audit log the history produced. -/
theorem replay_eq_live (hiv : A.initVersion ≤ 1) (ops : List (Op A)) (i : Nat) :
    let e := run (Ent.empty : Ent A) ops
    loadScratch e = expected (specRun [] ops) ∧
    loadFresh e = expected (specRun [] ops) ∧
    (getLatest e i).2 = expected (specRun [] ops) :=
  replay_eq_live_of_inv hiv (run_refines hiv inv_empty ops) i

/-- The equality survives ANY interleaving of commands
(accepted, rejected, no-op, vetoed), failed writes, snapshots, cache drops, history queries,
deletion and re-creation of the entity, through any number of store objects, under exactly
krill's usage assumption, stated as the decidable predicate `dropSafeB` on histories: whenever
`drop_aggregate` is called, no *other* store object remembers the entity (it can only clear
the caches of the store object it is called on).  Nothing else is assumed of the history. -/
theorem replay_eq_live_krill_usage (hiv : A.initVersion ≤ 1) (ops : List (HOp A))
    (hu : dropSafeB (Ent.empty : Ent A) ops = true) (i : Nat) :
    let e := runH (Ent.empty : Ent A) ops
    loadScratch e = expected (specRunH [] ops) ∧
    loadFresh e = expected (specRunH [] ops) ∧
    (getLatest e i).2 = expected (specRunH [] ops) :=
  replay_eq_live_of_inv hiv (runH_refines hiv inv_empty ops (dropSafe_of_B hu)) i

/-- The usage assumption is needed (modelled quirk): a second store object that still caches a
deleted entity goes on serving it – and writes the next command into the deleted scope. -/
theorem drop_needs_usage_assumption :
    let ops : List (HOp (Reg.regAgg 1)) :=
      [.op (.add 0 "a" "n0" false), .op (.get 1), .drop 0, .op (.cmd 1 ⟨"u", .add 1⟩ false)]
    dropSafeB (Ent.empty : Ent (Reg.regAgg 1)) ops = false ∧
    (match (getLatest (runH (Ent.empty : Ent (Reg.regAgg 1)) ops) 1).2 with
      | .ok v => some v.version | _ => none) = some 2 ∧
    (match loadFresh (runH (Ent.empty : Ent (Reg.regAgg 1)) ops) with
      | .unknown => true | _ => false) = true := by
  decide +kernel

/-- Non-vacuity: a history with a failed write, a snapshot by a second store object, a cache
drop, deletion (the other store objects re-created first, as krill's throw-away stores are) and
re-creation satisfies the usage predicate. -/
example :
    dropSafeB (Ent.empty : Ent (Reg.regAgg 1))
      [.op (.add 0 "a" "n0" false), .op (.cmd 0 ⟨"u", .add 2⟩ true), .op (.cmd 0 ⟨"u", .add 2⟩ false),
       .op (.snap 1 false), .op (.cmd 2 ⟨"v", .fail⟩ false), .op (.hist 0 true),
       .op (.restart 1), .op (.restart 2), .drop 0,
       .op (.add 1 "a" "n1" false), .op (.cmd 0 ⟨"w", .add 1⟩ false)] = true := by
  decide +kernel

/-- The oracle's `replay_eq_live` predicate (`Obs.allAgree` over the results of every live store
object, a fresh store and a from-scratch replay, as printed by `check <h>`) holds of the model
after every history, for every renderer of results. -/
theorem replay_eq_live_obs (hiv : A.initVersion ≤ 1) (ops : List (Op A)) (R : Obs.Render A) :
    let e := run (Ent.empty : Ent A) ops
    Obs.allAgree [Obs.oRet R (getLatest e 0).2, Obs.oRet R (getLatest e 1).2,
      Obs.oRet R (getLatest e 2).2, Obs.oRet R (loadFresh e), Obs.oRet R (loadScratch e)] = true := by
  intro e
  obtain ⟨h1, h2, h3⟩ := replay_eq_live hiv ops 0
  obtain ⟨_, _, h4⟩ := replay_eq_live hiv ops 1
  obtain ⟨_, _, h5⟩ := replay_eq_live hiv ops 2
  simp only [e, h1, h2, h3, h4, h5, Obs.allAgree]
  simp

/-- Whatever prefix state of the log sits in `snapshot.json` – i.e. a
snapshot taken at *any* earlier point of the history – loading from it and applying the
later commands gives the replay of the whole log. -/
theorem snapshot_any_point (hiv : A.initVersion ≤ 1) {e : Ent A} {L : Log A} (h : Inv e L)
    {v : Ver A} (hv : PrefixState L v) :
    loadFresh { e with kv := { e.kv with snapshot := some v } } = expected L :=
  getLatest_spec hiv (h.setSnap hv).clearCaches 0

/-- The snapshot a history leaves behind is a prefix state, and so is every cache entry:
"every read is a prefix state", and `snapshot_any_point` applies to it. -/
theorem stored_snapshot_is_prefix_state (hiv : A.initVersion ≤ 1) (ops : List (Op A)) (v : Ver A)
    (h : (run (Ent.empty : Ent A) ops).kv.snapshot = some v) : PrefixState (specRun [] ops) v :=
  (run_refines hiv inv_empty ops).snap v h

/-- Replaying a stored history never fails or panics – with no
assumption on the aggregate but `initVersion ≤ 1`: the store applies the events *before* it stores the command
(store.rs:444), so an event `apply` cannot take is never written. -/
theorem replay_total (hiv : A.initVersion ≤ 1) (ops : List (Op A)) :
    let e := run (Ent.empty : Ent A) ops
    loadScratch e ≠ .panic ∧ loadFresh e ≠ .panic ∧ loadScratch e ≠ .fatal ∧ loadFresh e ≠ .fatal :=
  replay_total_of_inv hiv (run_refines hiv inv_empty ops)

/-- No operation panics on an entity whose replayed state the store could really have reached. -/
theorem no_panic_of_inv (hiv : A.initVersion ≤ 1) (hA : ProcessApplicableV A) {e : Ent A} {L : Log A}
    (h : Inv e L) (hR : FinalReachableV L) (op : Op A) : (step e op).2 ≠ some .panic := by
  rw [(step_refines hiv h op).1]
  exact specStep_no_panic hA hR op

/-- If `process` only emits events that
`apply` can take in the states that occur, no operation of any history panics. -/
theorem no_panic_of_applicable (hiv : A.initVersion ≤ 1) (hA : ProcessApplicable A)
    (ops : List (Op A)) (op : Op A) :
    (step (run (Ent.empty : Ent A) ops) op).2 ≠ some .panic :=
  no_panic_of_inv hiv hA.toV (run_refines hiv inv_empty ops)
    (FinalReachableV.run hiv ops FinalReachableV.nil) op

/-- The same under the weaker, veto-aware hypothesis: `process`
need only emit applicable events in the states reachable when a command the pre-save listener
refuses is *not stored* (`ReachableV`) – which is what `execute_opt_command` does (store.rs:458-474,
`phDecide`). -/
theorem no_panic_of_applicable_veto (hiv : A.initVersion ≤ 1) (hA : ProcessApplicableV A)
    (ops : List (Op A)) (op : Op A) :
    (step (run (Ent.empty : Ent A) ops) op).2 ≠ some .panic :=
  no_panic_of_inv hiv hA (run_refines hiv inv_empty ops)
    (FinalReachableV.run hiv ops FinalReachableV.nil) op

/-- The statement without veto is the special case (its hypothesis is the stronger one). -/
theorem no_panic_of_applicable_from_veto (hiv : A.initVersion ≤ 1) (hA : ProcessApplicable A)
    (ops : List (Op A)) (op : Op A) :
    (step (run (Ent.empty : Ent A) ops) op).2 ≠ some .panic :=
  no_panic_of_applicable_veto hiv hA.toV ops op

/-- … also with deletion and re-creation of the entity, under krill's usage assumption. -/
theorem no_panic_of_applicable_veto_krill_usage (hiv : A.initVersion ≤ 1)
    (hA : ProcessApplicableV A) (ops : List (HOp A))
    (hu : dropSafeB (Ent.empty : Ent A) ops = true) (op : Op A) :
    (step (runH (Ent.empty : Ent A) ops) op).2 ≠ some .panic :=
  no_panic_of_inv hiv hA (runH_refines hiv inv_empty ops (dropSafe_of_B hu))
    (FinalReachableV.runH hiv ops FinalReachableV.nil) op

/-- For an aggregate that meets the veto-aware hypothesis: after any
history of public operations – creation, commands that are accepted, refused by `process_command`,
no-ops, vetoed by the pre-save listener, failed writes, reads, snapshots at any point, cache drops,
through any number of store objects – the next operation, whatever it is, does not panic (so,
taking prefixes, no operation of the history did), and replaying what is stored – from
`command-0.json` alone, or from the snapshot plus the later commands – neither panics nor hits the
"command key exists" exit. -/
theorem store_never_panics (hiv : A.initVersion ≤ 1) (hA : ProcessApplicableV A)
    (ops : List (Op A)) (op : Op A) :
    let e := run (Ent.empty : Ent A) ops
    (step e op).2 ≠ some .panic ∧
    loadScratch e ≠ .panic ∧ loadFresh e ≠ .panic ∧ loadScratch e ≠ .fatal ∧ loadFresh e ≠ .fatal :=
  ⟨no_panic_of_applicable_veto hiv hA ops op, replay_total hiv ops⟩

/-- The same for histories that also delete and re-create the entity (usage predicate `dropSafeB`). -/
theorem store_never_panics_krill_usage (hiv : A.initVersion ≤ 1) (hA : ProcessApplicableV A)
    (ops : List (HOp A)) (hu : dropSafeB (Ent.empty : Ent A) ops = true) (op : Op A) :
    let e := runH (Ent.empty : Ent A) ops
    (step e op).2 ≠ some .panic ∧
    loadScratch e ≠ .panic ∧ loadFresh e ≠ .panic ∧ loadScratch e ≠ .fatal ∧ loadFresh e ≠ .fatal :=
  ⟨no_panic_of_applicable_veto_krill_usage hiv hA ops hu op,
    replay_total_of_inv hiv (runH_refines hiv inv_empty ops (dropSafe_of_B hu))⟩

/-- An aggregate whose `apply` has no panic arm (e.g. `RepositoryAccess`, access.rs:333-342: two
`HashMap` updates): nothing to assume. -/
theorem total_apply_never_panics (hiv : A.initVersion ≤ 1)
    (htot : ∀ s e, (A.apply s e).isSome = true) (ops : List (Op A)) (op : Op A) :
    let e := run (Ent.empty : Ent A) ops
    (step e op).2 ≠ some .panic ∧
    loadScratch e ≠ .panic ∧ loadFresh e ≠ .panic ∧ loadScratch e ≠ .fatal ∧ loadFresh e ≠ .fatal :=
  store_never_panics hiv (processApplicable_of_total htot).toV ops op

/-- The register aggregate meets the hypothesis `initVersion ≤ 1` for both of krill's conventions. -/
example : (Reg.regAgg 1).initVersion ≤ 1 ∧ (Reg.regAgg 0).initVersion ≤ 1 := by decide

/-- Its `process` only emits applicable events (the only partial event is `subbed`). -/
theorem reg_applicable (iv : Nat) : ProcessApplicable (Reg.regAgg iv) := by
  intro s c evs _ hp
  change Reg.process s c = .ok evs at hp
  revert hp
  -- branch by branch: a refusal is not `ok`; the events of the other branches are applied by computation,
  -- but for `subbed` (its test is the domain of `apply`) and the `n` events of `multi`
  fun_cases Reg.process s c
  all_goals intro hp; cases hp  -- closes the refusing arms
  case case6 n _ h2 => simp [applyEvents, Reg.regAgg, Reg.apply, Nat.le_of_not_lt h2]  -- `sub n`, accepted
  case case10 n _ => exact Reg.multi_applicable iv n s  -- `multi n`, accepted
  all_goals rfl

/-- A concrete history with an accepted, a rejected, a no-op and a vetoed command, a snapshot
in the middle, a cache drop and a second store object: all three ways of loading agree on
version 4, count 2. -/
example :
    let ops : List (Op (Reg.regAgg 1)) :=
      [.add 0 "u" "n0" false, .cmd 0 ⟨"u", .add 2⟩ false, .snap 1 false, .cmd 0 ⟨"v", .fail⟩ false,
       .cmd 1 ⟨"u", .add 0⟩ false, .cmd 0 ⟨"u", .guarded 1⟩ false, .restart 0,
       .cmd 2 ⟨"w", .setName "n1"⟩ false]
    let e := run (Ent.empty : Ent (Reg.regAgg 1)) ops
    (match loadScratch e with | .ok v => some (v.version, v.st.count, v.st.name) | _ => none)
      = some (4, 2, "n1") ∧
    (match loadFresh e with | .ok v => some (v.version, v.st.count, v.st.name) | _ => none)
      = some (4, 2, "n1") ∧
    (match (getLatest e 1).2 with | .ok v => some (v.version, v.st.count, v.st.name) | _ => none)
      = some (4, 2, "n1") ∧
    e.kv.snapshot.map (·.version) = some 2 := by decide

/-- The hypothesis of `no_panic_of_applicable` is needed: an aggregate whose `process` emits
an event outside the domain of `apply` makes the command panic (nothing is stored; the
stored history still replays, as `replay_total` says). -/
def badAgg : Agg where
  State := Nat
  Cmd := Unit
  Ev := Unit
  InitCmd := Unit
  InitEv := Unit
  Err := Unit
  initVersion := 1
  init := fun _ => 0
  processInit := fun _ => .ok ()
  process := fun _ _ => .ok [()]
  apply := fun _ _ => none
  preSave := fun _ _ => none

example :
    let e := run (Ent.empty : Ent badAgg) [.add 0 "u" () false]
    (match (command e 0 ⟨"u", ()⟩).2 with | .panic => true | _ => false) = true ∧
    (match loadScratch (command e 0 ⟨"u", ()⟩).1 with | .ok v => v.version | _ => 0) = 1 := by
  decide +kernel

/-- The veto-aware hypothesis is strictly weaker: in `vetoAgg` the listener refuses everything, so
the only state the store ever holds is the initial one, where `process` emits an applicable event;
without regard to the veto the state 1 would be "reachable", and there `apply` panics. -/
@[reducible] def vetoAgg : Agg where
  State := Nat
  Cmd := Unit
  Ev := Unit
  InitCmd := Unit
  InitEv := Unit
  Err := Unit
  initVersion := 1
  init := fun _ => 0
  processInit := fun _ => .ok ()
  process := fun _ _ => .ok [()]
  apply := fun s _ => if s = 0 then some 1 else none
  preSave := fun _ _ => some ()

theorem veto_hypothesis_strictly_weaker :
    ProcessApplicableV vetoAgg ∧ ¬ ProcessApplicable vetoAgg := by
  have hz : ∀ s, ReachableV vetoAgg s → s = 0 := by
    intro s h
    induction h with
    | init ic ev _ => rfl
    | step s s' c evs _ _ _ hps _ => cases hps
  constructor
  · intro s c evs hr hp
    have := hz s hr
    subst this
    have : evs = [()] := by
      have h' : (Except.ok [()] : Except Unit (List Unit)) = .ok evs := hp
      cases h'; rfl
    subst this
    rfl
  · intro h
    have h0 : Reachable vetoAgg (0 : Nat) := Reachable.init (A := vetoAgg) () () rfl
    have h1 : Reachable vetoAgg (1 : Nat) :=
      Reachable.step (A := vetoAgg) (0 : Nat) (1 : Nat) () [()] h0 rfl rfl
    have := h (1 : Nat) () [()] h1 rfl
    cases this

/-- … and on `vetoAgg` the theorem has content: the command is vetoed (`Out.err`), never panics,
and nothing is stored. -/
example :
    let e := run (Ent.empty : Ent vetoAgg) [.add 0 "u" () false, .cmd 0 ⟨"u", ()⟩ false]
    (match (command e 0 ⟨"u", ()⟩).2 with | .err () => true | _ => false) = true ∧
    (match loadScratch e with | .ok v => some (v.version, v.st) | _ => none) = some (1, 0) := by
  decide +kernel

/-! ## The real aggregates (`ES/Instances.lean`) -/

section Instances
open KM.ES.Inst

/-- `CertAuth` (model `Ca/CertAuth.lean`) behind the store, with its
pre-save listener (`CaObjectsStore`, model `Ca/ObjKeys.lean`; a batch it refuses makes the command
fail and nothing is stored) and any further pre-save failure `env` (task queue): no operation of
any store history panics – commands accepted, refused, vetoed by the listener, failed writes, reads,
snapshots, cache drops, several store objects – and replay from the stored commands alone (or from
the snapshot) is total.  No hypothesis is left: `caAgg_applicable` obtains it from C04's
`process_emits_applicable` through the simulation `caAgg_sim` (every state the store can hold is a
`CaK.Reachable` state). -/
theorem ca_replay_never_panics (env : CaSt → List CaK.Ev → Option Nat)
    (ops : List (Op (caAgg env))) (op : Op (caAgg env)) :
    let e := run (Ent.empty : Ent (caAgg env)) ops
    (step e op).2 ≠ some .panic ∧
    loadScratch e ≠ .panic ∧ loadFresh e ≠ .panic ∧ loadScratch e ≠ .fatal ∧ loadFresh e ≠ .fatal :=
  store_never_panics (Nat.le_refl 1) (caAgg_applicable env) ops op

/-- … also when CAs are deleted and re-created (`drop_aggregate`), under the usage predicate. -/
theorem ca_replay_never_panics_krill_usage (env : CaSt → List CaK.Ev → Option Nat)
    (ops : List (HOp (caAgg env))) (hu : dropSafeB (Ent.empty : Ent (caAgg env)) ops = true)
    (op : Op (caAgg env)) :
    let e := runH (Ent.empty : Ent (caAgg env)) ops
    (step e op).2 ≠ some .panic ∧
    loadScratch e ≠ .panic ∧ loadFresh e ≠ .panic ∧ loadScratch e ≠ .fatal ∧ loadFresh e ≠ .fatal :=
  store_never_panics_krill_usage (Nat.le_refl 1) (caAgg_applicable env) ops hu op

/-- `replay_eq_live` for `CertAuth`: replay from scratch, snapshot plus
later commands and every live store object return the same CA (and the same answer of the
listener), the pure replay of the audit log. -/
theorem ca_replay_eq_live (env : CaSt → List CaK.Ev → Option Nat) (ops : List (Op (caAgg env)))
    (i : Nat) :
    let e := run (Ent.empty : Ent (caAgg env)) ops
    loadScratch e = expected (specRun [] ops) ∧
    loadFresh e = expected (specRun [] ops) ∧
    (getLatest e i).2 = expected (specRun [] ops) :=
  replay_eq_live (Nat.le_refl 1) ops i

/-- … for every renderer of results ("in every respect observable through the API"). -/
theorem ca_replay_eq_live_obs (env : CaSt → List CaK.Ev → Option Nat)
    (ops : List (Op (caAgg env))) (R : Obs.Render (caAgg env)) :
    let e := run (Ent.empty : Ent (caAgg env)) ops
    Obs.allAgree [Obs.oRet R (getLatest e 0).2, Obs.oRet R (getLatest e 1).2,
      Obs.oRet R (getLatest e 2).2, Obs.oRet R (loadFresh e), Obs.oRet R (loadScratch e)] = true :=
  replay_eq_live_obs (Nat.le_refl 1) ops R

/-- Non-vacuity (`caHistory`): a complete key roll through three store objects with a snapshot in
the middle, a failed write, a cache drop and two refused commands.  All ways of loading agree on
version 13, class 0 `active` again (under the new key), two classes; the snapshot is the one taken
at version 8, in the middle of the roll. -/
example :
    let e := run (Ent.empty : Ent (caAgg noEnv)) caHistory
    caView (loadScratch e) = some (13, some .active, 2) ∧
    caView (loadFresh e) = some (13, some .active, 2) ∧
    caView (getLatest e 1).2 = some (13, some .active, 2) ∧
    e.kv.snapshot.map (·.version) = some 8 ∧
    (e.kv.snapshot.bind fun v => (AMap.get (CaSt.ca v.st).classes 0).map (·.keys.variant))
      = some .rollPending := by
  decide +kernel

/-- Non-vacuity, a refused command: operation 9 of `caHistory` (a revocation request naming the
class that is still pending, for a key in use in class 0).  Until fix 239f0a59 it passed
`process_command` and `apply` and the listener refused it ("missing resource class": nothing
stored); now `process_command` refuses it (`KeyUseNoIssuedCert`), the store records the failed
command – the log grows by one, the state does not change.  (A listener veto: `vetoAgg`, and the
`env` examples below.) -/
example :
    let e := run (Ent.empty : Ent (caAgg noEnv)) (caHistory.take 9)
    (match (step e (.cmd 0 ⟨"c", .childRevokeKey 7 1 6⟩ false)).2 with
      | some (.err (.refused .noIssuedCert)) => true | _ => false) = true ∧
    (step e (.cmd 0 ⟨"c", .childRevokeKey 7 1 6⟩ false)).1.kv.cmds.length = e.kv.cmds.length + 1 ∧
    caView (getLatest e 0).2 = some (8, some .rollPending, 2) ∧
    (specRun [] caHistory).length = 13 := by
  decide +kernel

/-- Non-vacuity, `env`: a task-queue failure on every key-roll activation makes that command fail
without panic; the CA stays in `rollNew`. -/
example :
    let env : CaSt → List CaK.Ev → Option Nat :=
      fun _ evs => if evs.any (fun e => match e with | .key _ .activated => true | _ => false)
        then some 5 else none
    let ops : List (Op (caAgg env)) :=
      [ .add 0 "admin" none false,
        .cmd 0 ⟨"u", .repoUpdate []⟩ false, .cmd 0 ⟨"u", .addParent 9⟩ false,
        .cmd 0 ⟨"u", .updateEntitlements 9 [⟨0, [1, 2], 100, []⟩] 0 [4]⟩ false,
        .cmd 0 ⟨"u", .updateRcvdCert 0 4 { res := [1, 2], na := 100 } 50 []⟩ false,
        .cmd 0 ⟨"u", .keyrollInit [(0, 8)]⟩ false,
        .cmd 0 ⟨"u", .updateRcvdCert 0 8 { res := [1, 2], na := 100 } 62 []⟩ false ]
    let e := run (Ent.empty : Ent (caAgg env)) ops
    (match (step e (.cmd 0 ⟨"u", .keyrollActivate 70⟩ false)).2 with
      | some (.err (.env 5)) => true | _ => false) = true ∧
    (match loadFresh (step e (.cmd 0 ⟨"u", .keyrollActivate 70⟩ false)).1 with
      | .ok v => (AMap.get (CaSt.ca v.st).classes 0).map (·.keys.variant) | _ => none)
      = some .rollNew := by
  decide +kernel

/-- `TrustAnchorProxy` (model `Ta/Proxy.lean`, with the three
`unwrap()`s of its `apply` as panics: `Inst.applyP`) behind the store, for every behaviour `env` of
its pre-save listener (the task queue): no operation of any store history panics and replay is
total.  Here `process_command` emits applicable events in *every* state
(`ta_process_applicable`), no invariant is needed. -/
theorem taproxy_replay_never_panics (env : Ta.Proxy → List Ta.Ev → Option Nat)
    (ops : List (Op (taProxyAgg env))) (op : Op (taProxyAgg env)) :
    let e := run (Ent.empty : Ent (taProxyAgg env)) ops
    (step e op).2 ≠ some .panic ∧
    loadScratch e ≠ .panic ∧ loadFresh e ≠ .panic ∧ loadScratch e ≠ .fatal ∧ loadFresh e ≠ .fatal :=
  store_never_panics (Nat.le_refl 1) (taProxyAgg_applicable env).toV ops op

theorem taproxy_replay_eq_live (env : Ta.Proxy → List Ta.Ev → Option Nat)
    (ops : List (Op (taProxyAgg env))) (i : Nat) :
    let e := run (Ent.empty : Ent (taProxyAgg env)) ops
    loadScratch e = expected (specRun [] ops) ∧
    loadFresh e = expected (specRun [] ops) ∧
    (getLatest e i).2 = expected (specRun [] ops) :=
  replay_eq_live (Nat.le_refl 1) ops i

/-- The `unwrap()`s are real panic arms of the model (`applyP` is partial) – the theorem is not
about a total function: a `ChildRequestAdded` for an unknown child, a response without a signer. -/
example :
    applyP (Ta.Proxy.init 1) (.childRequestAdded "c" ⟨.issue, 5, 0, [], true, 0⟩) = none ∧
    applyP (Ta.Proxy.init 1) (.signerResponseReceived ⟨3, ⟨1, [], []⟩, []⟩) = none ∧
    (applyP (Ta.Proxy.init 1) (.childAdded "c" [1])).isSome = true := by
  decide +kernel

/-- Non-vacuity: signer added, child "c" added, adding child "d" vetoed by the listener (`env`:
nothing stored), a child request, a snapshot by a second store object, a signer request made, a
refused command (second signer request, stored as a failed command), a cache drop. -/
example :
    let env : Ta.Proxy → List Ta.Ev → Option Nat :=
      fun _ evs => if evs.any (fun e => match e with | .childAdded "d" _ => true | _ => false)
        then some 1 else none
    let ops : List (Op (taProxyAgg env)) :=
      [ .add 0 "ta" (.ok 1) false,
        .cmd 0 ⟨"u", .addSigner ⟨2, 3, ⟨1, [], []⟩⟩⟩ false,
        .cmd 0 ⟨"u", .addChild "c" [1, 2]⟩ false,
        .cmd 0 ⟨"u", .addChild "d" [1]⟩ false,
        .cmd 0 ⟨"u", .addChildRequest "c" ⟨.issue, 5, 0, [1], true, 0⟩⟩ false,
        .snap 1 false,
        .cmd 0 ⟨"u", .makeSignerRequest 77⟩ false,
        .cmd 1 ⟨"u", .makeSignerRequest 78⟩ false,
        .restart 0 ]
    let e := run (Ent.empty : Ent (taProxyAgg env)) ops
    let view : Out (taProxyAgg env) → Option (Nat × Option Ta.Nonce × Nat × Nat) := fun o =>
      match o with
      | .ok v => some (v.version, Ta.Proxy.openNonce v.st, (Ta.Proxy.openReq v.st).length,
                       (Ta.Proxy.children v.st).length)
      | _ => none
    view (loadScratch e) = some (6, some 77, 1, 1) ∧
    view (loadFresh e) = some (6, some 77, 1, 1) ∧
    view (getLatest e 0).2 = some (6, some 77, 1, 1) := by
  decide +kernel

/-- `TrustAnchorSigner` (model `Ta/Signer.lean`, split into
`process` and the total `apply` by `Inst.signerProcess` / `Inst.signerApply`,
`signer_apply_process`). -/
theorem tasigner_replay_never_panics (ops : List (Op taSignerAgg)) (op : Op taSignerAgg) :
    let e := run (Ent.empty : Ent taSignerAgg) ops
    (step e op).2 ≠ some .panic ∧
    loadScratch e ≠ .panic ∧ loadFresh e ≠ .panic ∧ loadScratch e ≠ .fatal ∧ loadFresh e ≠ .fatal :=
  store_never_panics (Nat.le_refl 1) taSignerAgg_applicable.toV ops op

theorem tasigner_replay_eq_live (ops : List (Op taSignerAgg)) (i : Nat) :
    let e := run (Ent.empty : Ent taSignerAgg) ops
    loadScratch e = expected (specRun [] ops) ∧
    loadFresh e = expected (specRun [] ops) ∧
    (getLatest e i).2 = expected (specRun [] ops) :=
  replay_eq_live (Nat.le_refl 1) ops i

end Instances

/-! ## The write-ahead-log store -/

section WalStore
open KM.ES.Wal
variable {T : WalT}

/-- After every history of the WAL store (creation, accepted / failing /
no-op commands, failed writes, reads, snapshot+truncate at any point, through any store
object, store objects re-created) – with `add` used only for an entity that does not exist
and snapshots taken while the other store objects are up to date (`SafeRun`; that is how krill
uses it) – what a fresh store builds from `snapshot.json` plus the `wal-N.json` files equals
what every live store object returns. -/
theorem wal_replay_eq_live (ops : List (Wal.Op T)) (hs : SafeRun ({} : Wal.Ent T) ops) (i : Nat) :
    let e := Wal.run ({} : Wal.Ent T) ops
    Wal.loadFresh e = (Wal.getLatest e i).2 := by
  intro e
  have h : WState e := run_preserves (Or.inl absent_empty) ops hs
  rcases h with ha | ⟨cur, hc⟩
  · have ha' : Absent { e with cache := [] } := ⟨ha.1, ha.2.1, fun _ => rfl⟩
    simp [Wal.loadFresh, Wal.getLatest, execOpt_absent ha, execOpt_absent ha']
  · simp [Wal.loadFresh, Wal.getLatest, (execOpt_get hc i).1, (execOpt_get hc.clearCache 0).1]

/-- The same with the usage assumption as the decidable predicate `safeRunB` on histories. -/
theorem wal_replay_eq_live_krill_usage (ops : List (Wal.Op T))
    (hu : safeRunB ({} : Wal.Ent T) ops = true) (i : Nat) :
    Wal.loadFresh (Wal.run ({} : Wal.Ent T) ops) = (Wal.getLatest (Wal.run ({} : Wal.Ent T) ops) i).2 :=
  wal_replay_eq_live ops (safeRun_of_B hu) i

/-- The side condition is exactly what is needed, not merely
sufficient: on an existing WAL entity, after `update_snapshot` through store object `i` every
store object still returns the current value if and only if every other store object was up
to date when the snapshot (which deletes all `wal-N` keys) was taken. -/
theorem wal_snapshot_safe_iff {e : Wal.Ent T} {cur : WVer T} (h : WInv e cur) (i : Nat) :
    (∀ j, (Wal.getLatest (Wal.updateSnapshot e i).1 j).2 = .ok cur) ↔ othersCurrent e i :=
  snapshot_safe_iff h i

/-- The live value is reached from the stored snapshot through the stored change sets, and
no change set is left over beyond it (nothing to replay twice, nothing lost). -/
theorem wal_live_is_snapshot_plus_sets (ops : List (Wal.Op T)) (hs : SafeRun ({} : Wal.Ent T) ops)
    (i : Nat) (v : WVer T) (h : (Wal.getLatest (Wal.run ({} : Wal.Ent T) ops) i).2 = .ok v) :
    ∃ s, (Wal.run ({} : Wal.Ent T) ops).kv.snapshot = some s ∧
      Reaches (Wal.run ({} : Wal.Ent T) ops).kv s v ∧
      ∀ k, v.revision ≤ k → (Wal.run ({} : Wal.Ent T) ops).kv.getWal k = none := by
  have hw : WState (Wal.run ({} : Wal.Ent T) ops) := run_preserves (Or.inl absent_empty) ops hs
  rcases hw with ha | ⟨cur, hc⟩
  · simp [Wal.getLatest, execOpt_absent ha] at h
  · have := (execOpt_get hc i).1
    simp only [Wal.getLatest] at h
    rw [this] at h
    cases h
    obtain ⟨s, hs1, hs2⟩ := hc.snap
    exact ⟨s, hs1, hs2, hc.above⟩

/-- Non-vacuity of `SafeRun`: a history with a snapshot in the middle taken by a second store
object while the writer is current. -/
example : SafeRun ({} : Wal.Ent Bag.bagT)
    [.add 0 ⟨0, []⟩ false false, .cmd 0 (.put 5) false, .snap 1 false, .cmd 0 (.del 5) false, .get 1] := by
  refine ⟨absent_empty, trivial, ?_, trivial, trivial, trivial⟩
  have hcache : (Wal.step (Wal.step ({} : Wal.Ent Bag.bagT) (.add 0 ⟨0, []⟩ false false)).1
      (.cmd 0 (.put 5) false)).1.cache = [(0, ⟨1, [5]⟩)] := rfl
  intro j c hj hc
  rw [hcache] at hc
  simp only [alookup_cons, alookup_nil] at hc
  split at hc
  · cases hc; rfl
  · cases hc

/-- The hypothesis is needed (modelled quirk, confirmed on the real `WalStore`): store object 0
caches revision 0, store object 1 adds a change set, snapshots (which deletes `wal-0`) –
object 0 can never catch up and keeps returning revision 0 while a fresh store sees
revision 1. -/
theorem wal_snapshot_needs_current_caches :
    let e := Wal.run ({} : Wal.Ent Bag.bagT)
      [.add 0 ⟨0, []⟩ false false, .cmd 1 (.put 5) false, .snap 1 false]
    (match (Wal.getLatest e 0).2 with | .ok v => some (v.revision, v.st) | _ => none) = some (0, []) ∧
    (match Wal.loadFresh e with | .ok v => some (v.revision, v.st) | _ => none) = some (1, [5]) := by
  decide +kernel

end WalStore

/-! ## `apply` does not depend on the order in which a map is walked (seed C06-r6)

`CertAuth::apply` walks the hash map of children when a child certificate is removed (certauth.rs:426-432).  A stored history
is replayed by another process, with another iteration order of that map: the live state, the replayed state and the state
loaded from a snapshot agree only if the step marks the key for EVERY child that has it in use - "the first child found" (the
seeded change) differs from run to run.  The model's `revokeEverywhere` is a `map`: the theorems say what that means. -/

section ChildMapOrder
open KM.CaK KM.AMap

/-- No child has the key in use afterwards - whoever held it (two children can hold one public key: nothing forbids it). -/
theorem revokeEverywhere_all (children : AMap Handle Child) (k : KeyId) :
    ∀ p ∈ revokeEverywhere children k, p.2.isIssued k = false := by
  intro p hp
  simp only [revokeEverywhere, List.mem_map] at hp
  obtain ⟨q, _, rfl⟩ := hp
  by_cases h : q.2.isIssued k = true
  · simp only [h, if_true]
    simp [Child.isIssued, get_set_self]
  · simp [h]

/-- Children that do not hold the key are left as they are. -/
theorem revokeEverywhere_others (children : AMap Handle Child) (k : KeyId) (q : Handle × Child)
    (hq : q ∈ children) (h : q.2.isIssued k = false) : q ∈ revokeEverywhere children k := by
  simp only [revokeEverywhere, List.mem_map]
  exact ⟨q, hq, by simp [h]⟩

/-- **The result is the same map whatever the order the children are visited in** (up to that order): replay in another
process, with another hash-map order, reaches the same state. -/
theorem revokeEverywhere_order_free (l l' : AMap Handle Child) (k : KeyId) (h : l.Perm l') :
    (revokeEverywhere l k).Perm (revokeEverywhere l' k) := by
  unfold revokeEverywhere
  exact h.map _

/-- Non-vacuity: two children with one key - both are marked; "the first one only" is a different state. -/
example :
    let c : Child := { res := [1], usedKeys := [(9, .inUse 0)] }
    let l : AMap Handle Child := [(1, c), (2, c)]
    (revokeEverywhere l 9).map (fun p => get p.2.usedKeys 9) = [some .revoked, some .revoked] := by decide

end ChildMapOrder
