/-
C10 / C08 — removing a publisher, interrupted anywhere, is recoverable.

`RepositoryManager::remove_publisher` persists two things in two different stores: the content
command (withdraw everything the publisher holds; WAL store `pubd_objects`) and the access command
(drop the publisher's registration; aggregate store `pubd`).  The theorems here are about the order
in which the SOURCE makes the two calls: `KM.Generated.pubdStoreCalls .remove_publisher` is
regenerated from pubd/manager.rs by the `event_tasks` translator on every run.

Tie to the code besides the translator: the `pubd` stream op `rmpubf <publisher> <n>` (removal with
the n-th key-value write failing once, then the retry) and the `system` fault scenarios with `pubrm`.
-/
import KrillModel.Props.C10
import KrillModel.Pubd.Removal
namespace KM.Props.C10Removal
open KM.Pubd KM.Generated KM.Props.C10

/-- The content command is idempotent: after it the publisher holds nothing, so a second one
finds nothing to withdraw. -/
theorem content_removal_idempotent (s : Server) (hi : SInv s) (h : Handle) :
    (s.rrdp.removePublisher h).removePublisher h = s.rrdp.removePublisher h :=
  hi.r.removePublisher_idem h

/-- The two store calls of a removal, content first. -/
def contentFirst : List PubdStoreCall := [.content_remove_publisher, .access_remove_publisher]

theorem removalBy_contentFirst (s : Server) (h : Handle) :
    (s.removalBy h contentFirst).1 = (s.removePublisher h).1 ∧
    ((s.removalBy h contentFirst).2 = true ↔ (s.removePublisher h).2 = .ok) := by
  unfold Server.removalBy contentFirst Server.removePublisher
  simp only [Server.runCalls, Server.storeCall, Server.jail?]
  by_cases hj : (hget? s.access h).isSome = true
  · simp [hj]
  · simp [hj]

theorem removal_cut_retry (s : Server) (hi : SInv s) (h : Handle) (k : Nat) :
    ((s.removalCutAt h contentFirst k).removalBy h contentFirst).1 = (s.removePublisher h).1 := by
  have hid := content_removal_idempotent s hi h
  rw [← (removalBy_contentFirst s h).1]
  unfold Server.removalCutAt Server.removalBy contentFirst
  match k with
  | 0 => rfl  -- nothing persisted
  | 1 =>  -- the content call persisted: the second one finds nothing to withdraw
    simp only [List.take, Server.runCalls, Server.storeCall, Server.jail?, hid]
  | k + 2 =>  -- both ran: the retry finds the publisher unregistered and nothing to withdraw
    simp only [List.take, Server.runCalls, Server.storeCall, Server.jail?]
    by_cases hj : (hget? s.access h).isSome = true
    · have hno : (hget? (herase s.access h) h).isSome = false := by rw [hget?_herase]; simp
      simp [hj, hid, hno, Server.runCalls]
    · simp [hj, hid]

/-- `removal_recoverable` — the removal as the SOURCE orders its two persisted calls (regenerated from
manager.rs on every run): whichever write fails or wherever the process dies (`k` calls persisted),
submitting the removal again ends in exactly the state of an undisturbed removal – the publisher
un-registered, nothing held for it (`remove_exact`), everybody else untouched. -/
theorem removal_recoverable (s : Server) (hi : SInv s) (h : Handle) (k : Nat) :
    let order := pubdStoreCalls .remove_publisher
    ((s.removalCutAt h order k).removalBy h order).1 = (s.removePublisher h).1 ∧
    (∀ u, (((s.removalCutAt h order k).removalBy h order).1.held h).get? u = none) := by
  have ho : pubdStoreCalls .remove_publisher = contentFirst := by decide
  simp only [ho]
  refine ⟨removal_cut_retry s hi h k, ?_⟩
  rw [removal_cut_retry s hi h k]
  exact (remove_exact s hi h).1

/-- The other order – access first – is NOT recoverable: interrupted after the first call the
publisher is un-registered while the content store still holds its objects, and every further
attempt is refused up front (`PublisherUnknown`), so they stay for ever. -/
theorem access_first_orphans :
    ∃ (s : Server) (h : Handle),
      let order : List PubdStoreCall := [.access_remove_publisher, .content_remove_publisher]
      let s1 := s.removalCutAt h order 1
      s1.jail? h = none ∧ s1.held h ≠ [] ∧ (s1.removalBy h order) = (s1, false) := by
  refine ⟨(Server.publish ⟨⟨rsyncLower, ⟨"h", 0⟩, ⟨"m", 0⟩, [], true⟩, ⟨5, 50, false, false, false⟩,
      [(["ca"], ⟨rsyncLower, ⟨"h", 0⟩, ⟨"m", 0⟩, ["ca"], true⟩)], Rrdp.create 1 1⟩ ["ca"]
      [.publish ⟨rsyncLower, ⟨"h", 0⟩, ⟨"m", 0⟩, ["ca", "a.cer"], false⟩ ⟨1, 10⟩]).1, ["ca"], ?_⟩
  decide +kernel

end KM.Props.C10Removal
