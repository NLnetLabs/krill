/-
C03 (source tie) — the hand-written model of the decision `CertAuth::process_child_revoke_key`
takes on a child's RFC 6492 revocation request (`KM.Ca.Pub.processChildRevokeKey`, Ca/Objects.lean) equals
the definition that the translator `pure_fns` regenerates from `/repo/src/server/ca/certauth.rs` on every
run (`Generated/PureFnsC03.lean`, `KM.Gen.C03.CertAuth.process_child_revoke_key`); second tie, further down:
`KeyState::revoke`, the keys a CA asks its parent to revoke when it loses a class (`gen_revoke_eq_model`).

`revoke_request_effective` (Props/C03.lean) is about this decision (C12's `scope_of_accepted` has a
hand-written revocation arm of its own, `Proto/Cms.lean`, which this tie does not reach): the class name the child uses is translated to the parent's FIRST, then the
class is looked up (a class this CA does not have: confirmed without work); the key must be in use by
this child IN THE CLASS THE REQUEST NAMES for the revocation to be executed; a key in use in another
class, or never used, is refused; a key this CA revoked itself is confirmed without work.  Three
genuine defects were repaired in exactly these lines (F-C03-1/43d7eca0, F-C02-2/7be8c4c6,
F-C03-3/239f0a59) and two seeded changes edited them; with `gen_process_child_revoke_key_eq_model` the
order of the tests, the guard `rcn == &my_rcn` and the outcome of every arm are tied to the Rust
statements, and the three pinned counter-models (`pinned…` in Ca/Objects.lean) are shown to differ from
the generated body.

Instantiation: children ↦ `ChildM`, class names and keys ↦ `Nat`, `self.get_child` ↦ `.ok c` (an unknown
child is refused before: C12), `child.used_keys.get(&key)` ↦ the model's association list
(`some rcn` = `InUse(rcn)`, `none` = `Revoked`), `Ok(vec![])` ↦ `.ok none`, the two revocation events for
`my_rcn` ↦ `.ok (some my_rcn)`.
-/
import KrillModel.Generated.PureFnsC03
import KrillModel.Ca.Objects
import KrillModel.Ca.Keys
namespace KM.Props.C03Src
open KM.Ca.Pub

/-- `UsedKeyState` of the model's `used_keys` entry. -/
def toUsed : Option Nat → KM.Gen.C03.UsedKeyState Nat
  | some r => .InUse r
  | none => .Revoked

/-- What the manager sees of the outcome: refused, confirmed without work, or revoked in a class. -/
def toOut : RevokeOut → Except Unit (Option Nat)
  | .ignored => .ok none
  | .alreadyRevoked => .ok none
  | .error => .error ()
  | .revoked r _ => .ok (some r)

/-- The generated body with the model's child record plugged in. -/
abbrev genRevoke (resources : List Nat) (c : ChildM) (childRcn key : Nat) : Except Unit (Option Nat) :=
  KM.Gen.C03.CertAuth.process_child_revoke_key (C := ChildM) (R := Nat) (ε := Unit) (α := Option Nat)
    (.ok c) (fun c => c.parentNameForRcn childRcn) (fun r => decide (r ∈ resources))
    (fun c => (get? c.usedKeys key).map toUsed) none () some

/-- `CertAuth::process_child_revoke_key` as translated from the source = the model, for every set of
classes, child record, class name and key. -/
theorem gen_process_child_revoke_key_eq_model (resources : List Nat) (c : ChildM) (childRcn key : Nat) :
    genRevoke resources c childRcn key = toOut (processChildRevokeKey resources c childRcn key) := by
  unfold genRevoke KM.Gen.C03.CertAuth.process_child_revoke_key processChildRevokeKey
  dsimp only
  -- both sides test the class first, then branch on the same look-up, then compare the same two names
  generalize get? c.usedKeys key = u
  generalize c.parentNameForRcn childRcn = my
  by_cases hm : my ∈ resources
  · rw [if_neg (not_not_intro (decide_eq_true hm)), if_neg (not_not_intro hm)]
    rcases u with _ | _ | r
    · rfl
    · rfl
    · show (if r = my then _ else _) = toOut (if r = my then _ else _)
      by_cases hr : r = my
      · rw [if_pos hr, if_pos hr, hr]
        rfl
      · rw [if_neg hr, if_neg hr]
        rfl
  · rw [if_pos (mt of_decide_eq_true hm), if_pos hm]
    rfl

/-- The three pinned behaviours (each a repaired defect) are NOT what the source says: on these
inputs the generated body differs from the pinned counter-models. -/
example :   -- before 43d7eca0: class test before the translation (mapped class name: request ignored)
    genRevoke [0] { usedKeys := [(7, some 0)], rcnMap := [(0, 5)] } 5 7 = .ok (some 0) ∧
      toOut (pinnedProcessChildRevokeKey [0] { usedKeys := [(7, some 0)], rcnMap := [(0, 5)] } 5 7) = .ok none :=
  ⟨rfl, rfl⟩
example :   -- before 7be8c4c6: a key this CA revoked itself was refused for ever
    genRevoke [0] { usedKeys := [(7, none)] } 0 7 = .ok none ∧
      toOut (pinnedRevokedKeyRefused [0] { usedKeys := [(7, none)] } 0 7) = .error () :=
  ⟨rfl, rfl⟩
example :   -- before 239f0a59: a key in use in another class was "revoked" in the named class
    genRevoke [0, 1] { usedKeys := [(7, some 1)] } 0 7 = .error () ∧
      toOut (pinnedRevokeAnyClass [0, 1] { usedKeys := [(7, some 1)] } 0 7) = .ok (some 0) :=
  ⟨rfl, rfl⟩

/-! ## `KeyState::revoke` – which keys are revoked when a resource class goes away

When a CA loses a class (the parent de-lists or removes it, the parent is removed, the CA is deleted, the class is
dropped) it asks the parent to revoke the keys `KeyState::revoke` returns.  The generated definition
(`KM.Gen.C03.KeyState.revoke`) makes requests for exactly the model's `KeyState.revokeKeys`, and those are exactly the
keys that hold a certificate of the parent (`certifiedIds`) – the CURRENT key and the NEW or OLD key of a roll in
progress.  The seeded change C03-r6 folds the `RollNew` arm into the `Active` arm (the certificate of the staged key
stays published by the parent and off its CRL): the generated definition changes and `gen_revoke_eq_model` stops
checking; the harness side is the oracle `ClassGoneKeysRevoked` (corpus `system/c03-parent-removed-during-rollnew`). -/

section Revoke
open KM.CaK

def kvariantOf : KeyState → KM.Gen.C03.KeyState
  | .pending _ => .Pending
  | .active _ => .Active
  | .rollPending .. => .RollPending
  | .rollNew .. => .RollNew
  | .rollOld .. => .RollOld

def kcurrent (d : KeyId) : KeyState → KeyId
  | .active c => c.id | .rollPending _ c => c.id | .rollNew _ c => c.id | .rollOld c _ => c.id | _ => d
def knew (d : KeyId) : KeyState → KeyId
  | .rollNew n _ => n.id | _ => d
def kold (d : KeyId) : KeyState → KeyId
  | .rollOld _ o => o.id | _ => d

/-- `KeyState::revoke` with a signer that knows every key: one request per key of `revokeKeys`, in that order (the old
key's stored request is the request for the old key). -/
theorem gen_revoke_eq_model (ks : KeyState) (d : KeyId) :
    KM.Gen.C03.KeyState.revoke (ε := Unit) (fun k : KeyId => Except.ok k) (kvariantOf ks) (kcurrent d ks) (knew d ks) (kold d ks) =
      Except.ok ks.revokeKeys := by
  cases ks <;> rfl

/-- Whatever signer fails for a key it is asked for: its error is returned and no list of requests.  The requests made
before the failing one may succeed or fail; the `?` at the failing key returns. -/
theorem gen_revoke_fails (f : KeyId → Except Unit KeyId) (ks : KeyState) (d : KeyId) (bad : KeyId)
    (hf : f bad = .error ()) (hb : bad ∈ ks.revokeKeys) (hold : ∀ c o, ks = .rollOld c o → bad ≠ o.id) :
    KM.Gen.C03.KeyState.revoke f (kvariantOf ks) (kcurrent d ks) (knew d ks) (kold d ks) = Except.error () := by
  cases ks with
  | pending p => cases hb
  | active c =>
    cases List.mem_singleton.mp hb
    simp only [KM.Gen.C03.KeyState.revoke, kvariantOf, kcurrent, hf]
  | rollPending p c =>
    cases List.mem_singleton.mp hb
    simp only [KM.Gen.C03.KeyState.revoke, kvariantOf, kcurrent, hf]
  | rollNew n c =>
    simp only [KM.Gen.C03.KeyState.revoke, kvariantOf, kcurrent, knew]
    rcases List.mem_cons.mp hb with rfl | hb
    · simp only [hf]
    · cases List.mem_singleton.mp hb
      cases f n.id
      · rfl
      · simp only [hf]
  | rollOld c o =>
    rcases List.mem_cons.mp hb with rfl | hb
    · simp only [KM.Gen.C03.KeyState.revoke, kvariantOf, kcurrent, hf]
    · exact absurd (List.mem_singleton.mp hb) (hold c o rfl)

/-- The instance with a signer that fails on exactly one key. -/
theorem gen_revoke_error (ks : KeyState) (d : KeyId) (bad : KeyId) (hb : bad ∈ ks.revokeKeys) (hold : ∀ c o, ks = .rollOld c o → bad ≠ o.id) :
    KM.Gen.C03.KeyState.revoke (fun k : KeyId => if k = bad then Except.error () else Except.ok k)
        (kvariantOf ks) (kcurrent d ks) (knew d ks) (kold d ks) = Except.error () :=
  gen_revoke_fails _ ks d bad (if_pos rfl) hb hold

/-- The keys revoked when the class goes away are exactly the keys that hold a
certificate of the parent – in every phase of a key roll. -/
theorem revoke_covers_certified (ks : KeyState) : ks.revokeKeys = ks.certifiedIds := by
  cases ks <;> rfl

/-- … and every one of them is a key of the state; a pending key (no certificate) is never among them. -/
theorem revokeKeys_subset_keyIds (ks : KeyState) : ∀ k ∈ ks.revokeKeys, k ∈ ks.keyIds := by
  cases ks with
  | pending _ => exact fun _ h => nomatch h
  | rollPending _ _ => exact fun _ h => List.mem_cons_of_mem _ h
  | active _ | rollNew _ _ | rollOld _ _ => exact fun _ h => h

/-- The seeded behaviour (C03-r6: `RollNew` treated like `Active`) is not what the generated body does. -/
example (n c : CertKey) (d : KeyId) :
    KM.Gen.C03.KeyState.revoke (ε := Unit) (fun k : KeyId => Except.ok k) (kvariantOf (.rollNew n c)) (kcurrent d (.rollNew n c))
        (knew d (.rollNew n c)) (kold d (.rollNew n c)) ≠ Except.ok [c.id] := by
  simp [KM.Gen.C03.KeyState.revoke, kvariantOf, kcurrent, knew]

end Revoke

end KM.Props.C03Src
