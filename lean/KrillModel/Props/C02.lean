/-
C02 — Delegation follows entitlements, never over-claims, converges and is idempotent.
The general theorems about the exchange rest on the class-by-class simulation in `Ca/Exchange*.lean`; the witness
pairs and counter-models are evaluated here.
-/
import KrillModel.Ca.Preds
import KrillModel.Ca.Witnesses
import KrillModel.Ca.LemmasNoOver
import KrillModel.Ca.LemmasKeySync
import KrillModel.Ca.LemmasTidy
import KrillModel.Ca.Exchange
import KrillModel.Ca.ExchangeConv
import KrillModel.Ca.ExchangePinned
import KrillModel.Ca.ExchangeHypotheses
import KrillModel.Ca.ExchangeStuck
namespace KM.Props.C02
open KM KM.CaK KM.Res KM.AMap

/-! ## Issued certificates are exactly limit(issuer ∩ entitlement) -/

/-- `issue_cert`: the certificate carries the issuer's current resources intersected with the
child's entitlement, narrowed to the limit if one was requested, and lies inside the issuer's
certificate. -/
theorem issued_exact (ks : KeyState) (childRes : ResSet) (l : Limit) (na : Int) (cc : ChildCert)
    (h : issueCert ks childRes l na = .ok cc) :
    ∃ c, ks.current = some c ∧
      cc.res = (match l with | none => inter c.cert.res childRes | some lim => lim) ∧
      subset cc.res (inter c.cert.res childRes) = true ∧
      subset cc.res c.cert.res = true ∧ subset cc.res childRes = true := by
  unfold issueCert at h
  split at h
  · cases h
  next c hc =>
    obtain ⟨h1, h2, h3⟩ := makeIssued_cases h
    refine ⟨c, hc, ?_, h2, h3, subset_trans h2 (inter_subset_right _ _)⟩
    cases l <;> exact h1

/-- Non-vacuity: a partial overlap with and without a limit. -/
example :
    issueCert (.active ⟨1, { res := [1, 2, 3] }, false⟩) [2, 3, 4] none 0 = .ok { res := [2, 3] } ∧
    issueCert (.active ⟨1, { res := [1, 2, 3] }, false⟩) [2, 3, 4] (some [3]) 0 =
      .ok { res := [3], limit := some [3] } := by decide +kernel

/-! ## No issued certificate ever exceeds the issuing key's certificate -/

/-- Invariant over all histories (any commands, any inputs, any interleaving of entitlement
changes, key rolls, suspension, unsuspension, revocation): in every reachable state every child
certificate in `issued` of a class has resources inside the certificate of the class's current
key – the key that issued it and publishes it. -/
theorem never_overclaims {s : Sys} (h : Reachable s) : s.ca.noOverclaim = true := by
  refine List.all_eq_true.mpr fun r _ => ?_
  cases hg : get s.ca.classes r with
  | none => rfl
  | some rc =>
    have hno := reachable_noOver h r rc hg
    unfold NoOver at hno
    simp only [Rc.noOverclaim]
    cases hc : rc.keys.current with
    | none =>
      -- no key is found in `issued`, so it has no entry
      rewrite [hc] at hno
      exact List.isEmpty_iff.mpr (List.eq_nil_iff_forall_not_mem.mpr fun p hp => get_none_iff.mp (hno p.1) p.2 hp)
    | some c =>
      rewrite [hc] at hno
      refine List.all_eq_true.mpr fun k _ => ?_
      cases hk : get rc.certs.issued k with
      | none => rfl
      | some cc => exact hno k cc hk

/-- In particular after a received certificate with fewer resources: the state after the command, which is what
gets published, has no over-claiming certificate – the **same command** that stores `CertificateReceived` carries
the `ChildCertificatesUpdated` that re-issues the over-claiming child certificates with the intersection or removes
them (the events: the `example` below). -/
theorem shrink_in_same_command {s : Sys} (h : Reachable s) (rcn : Rcn) (ki : KeyId) (cert : Cert)
    (na : Int) (prods : List ProdUpd) :
    (s.next (.updateRcvdCert rcn ki cert na prods)).ca.noOverclaim = true :=
  never_overclaims (Reachable.step _ h)

/-- The same for key activation: after the command that stores `KeyRollActivated` every issued
certificate lies inside the **new** key's certificate. -/
theorem activation_keeps_containment {s : Sys} (h : Reachable s) (na : Int) :
    (s.next (.keyrollActivate na)).ca.noOverclaim = true :=
  never_overclaims (Reachable.step _ h)

/-- The two events of the receiving command on `shrinkHistory`: key 6 is re-issued with `{1}`, key 5 removed. -/
example :
    (match (Sys.run {} shrinkHistory).exec (.updateRcvdCert 0 4 { res := [1], na := 100 } 70 []) with
      | .stored evs s' =>
        evs == [.key 0 (.received 4 { res := [1], na := 100 }),
                .childCerts 0 { issued := [(6, { res := [1], na := 70 })], removed := [5] }] &&
        (get s'.ca.classes 0).map (·.certs.issued) == some [(6, { res := [1], na := 70 })]
      | _ => false) = true := by decide +kernel

/-! ## Active children keep their certificate, whatever the suspension history -/

/-- In every reachable state, in every class, the issued and the suspended map have pairwise
different keys and no key is in both (no stale suspended entry): since fix bb96d233
`add_issued_certificate` removes the suspended entry of the key it issues for.  On the pinned
tree this failed after suspend → unsuspend (`pinned_add_issued_leaves_stale_entry`). -/
theorem classes_tidy {s : Sys} (h : Reachable s) (rcn : Rcn) (rc : Rc) (hg : get s.ca.classes rcn = some rc) :
    (keys rc.certs.issued).Nodup ∧ (keys rc.certs.suspended).Nodup ∧ rc.noStale = true := by
  have ht : TidyC rc.certs := reachable_tidy h rcn rc hg
  refine ⟨ht.ndI, ht.ndS, ?_⟩
  simp only [Rc.noStale, List.all_eq_true]
  intro p hp
  have hs : (get rc.certs.issued p.1).isSome = true := get_isSome_iff_mem_keys.mpr (List.mem_map.mpr ⟨p, hp, rfl⟩)
  simp [ht.disj p.1 hs]

/-- The class-level core: in a class without stale suspended entries (no key both issued and
suspended; keys of `issued` pairwise different, as in a `HashMap`), the update computed by
`shrink_overclaiming` leaves every issued child certificate untouched if it still fits,
re-issued with the intersection if the intersection is not empty, removed if nothing is left. -/
theorem shrink_exact_in_tidy_class (rc : Rc) (hnd : (keys rc.certs.issued).Nodup) (hns : rc.noStale = true)
    (cert : Cert) (na : Int) (upd : CertUpd) (hsh : rc.certs.shrinkOverclaiming cert na = .ok upd)
    (k : KeyId) (cc : ChildCert) (hk : get rc.certs.issued k = some cc) :
    (subset cc.res cert.res = true → get (rc.certs.applyUpd upd).issued k = some cc) ∧
    (subset cc.res cert.res = false → isEmpty (inter cert.res cc.res) = true →
      get (rc.certs.applyUpd upd).issued k = none ∧ k ∈ upd.removed) ∧
    (subset cc.res cert.res = false → isEmpty (inter cert.res cc.res) = false →
      ∃ cc', get (rc.certs.applyUpd upd).issued k = some cc' ∧
        reissue cc (some (inter cert.res cc.res)) cert na = .ok cc' ∧
        (cc.limit = none → cc'.res = inter cert.res cc.res)) := by
  obtain ⟨iss, rem1, sus, rem2, h1, h2, rfl⟩ := shrinkOverclaiming_ok hsh
  -- the key has no suspended entry, so the second loop does not mention it
  have hnosus : get rc.certs.suspended k = none := by
    simp only [Rc.noStale, List.all_eq_true] at hns
    have := hns (k, cc) (mem_of_get hk)
    simpa using this
  have hnk : k ∉ keys rc.certs.suspended := fun hm => by
    have := get_isSome_iff_mem_keys.mpr hm
    rw [hnosus] at this; cases this
  obtain ⟨_, _, hsub2⟩ := shrinkList_spec h2
  have hk_sus : k ∉ sus.map (·.1) := fun hm => hnk (hsub2 k (Or.inr hm))
  have hk_rem2 : k ∉ rem2 := fun hm => hnk (hsub2 k (Or.inl hm))
  obtain ⟨ha, hb, hc⟩ := shrinkList_exact hnd h1 (k, cc) (mem_of_get hk)
  have hget := applyUpd_issued_get rc.certs { issued := iss, removed := rem1 ++ rem2, suspended := sus } rfl k
  simp only [hk_sus, if_false, List.mem_append, hk_rem2, or_false] at hget
  refine ⟨?_, ?_, ?_⟩
  · intro hs
    obtain ⟨hl, hr⟩ := ha hs
    rw [hget]; simp [hr, hl, hk]
  · intro hs he
    obtain ⟨_, hr⟩ := hb hs he
    rw [hget]
    exact ⟨by simp [hr], List.mem_append_left _ hr⟩
  · intro hs he
    obtain ⟨cc', hl, hre, hr⟩ := hc hs he
    refine ⟨cc', ?_, hre, ?_⟩
    · rw [hget]; simp [hr, hl]
    · intro hlim
      have := (makeIssued_cases hre).1
      rwa [hlim] at this

/-- Non-vacuity: three children – one fits, one is narrowed, one loses everything. -/
example :
    let rc : Rc := Rc.mk 9 0 (.active ⟨4, { res := [1, 2, 3] }, false⟩)
      ⟨[(5, { res := [1] }), (6, { res := [1, 2] }), (7, { res := [3] })], []⟩ []
    (keys rc.certs.issued).Nodup ∧ rc.noStale = true ∧
    rc.certs.shrinkOverclaiming { res := [1] } 9 =
      .ok { issued := [(6, { res := [1], na := 9 })], removed := [7] } ∧
    (rc.certs.applyUpd { issued := [(6, { res := [1], na := 9 })], removed := [7] }).issued =
      [(6, { res := [1], na := 9 }), (5, { res := [1] })] := by decide +kernel


/-- `shrink_active_child` (since fix bb96d233): in **every** reachable state – whatever the
suspension history of the children – in every class, the command that receives a smaller
certificate leaves each issued child certificate untouched if it still fits, replaces it in
`issued` by one with the intersection if that is not empty, and removes it only if nothing is
left.  (The listener publishes the same update in the same command: `shrink_in_same_command`;
that the published set equals `issued` is C01's `objects_mirror`.) -/
theorem shrink_active_child {s : Sys} (h : Reachable s) (rcn : Rcn) (rc : Rc)
    (hg : get s.ca.classes rcn = some rc)
    (cert : Cert) (na : Int) (upd : CertUpd) (hsh : rc.certs.shrinkOverclaiming cert na = .ok upd)
    (k : KeyId) (cc : ChildCert) (hk : get rc.certs.issued k = some cc) :
    (subset cc.res cert.res = true → get (rc.certs.applyUpd upd).issued k = some cc) ∧
    (subset cc.res cert.res = false → isEmpty (inter cert.res cc.res) = true →
      get (rc.certs.applyUpd upd).issued k = none ∧ k ∈ upd.removed) ∧
    (subset cc.res cert.res = false → isEmpty (inter cert.res cc.res) = false →
      ∃ cc', get (rc.certs.applyUpd upd).issued k = some cc' ∧
        reissue cc (some (inter cert.res cc.res)) cert na = .ok cc' ∧
        (cc.limit = none → cc'.res = inter cert.res cc.res)) :=
  let ⟨hnd, _, hns⟩ := classes_tidy h rcn rc hg
  shrink_exact_in_tidy_class rc hnd hns cert na upd hsh k cc hk

/-- The F-C02-1 history (suspend → unsuspend → shrink) on the fixed tree: the unsuspended child
keeps a certificate, narrowed to what the class still holds, issued and published; nothing is
left in `suspended`. -/
example :
    let s := Sys.run {} staleHistory
    s.ca.activeChildHasCert = true ∧
    (get s.ca.children 7).map (·.active) = some true ∧
    (get s.ca.classes 0).map (·.certs.issued) = some [(6, { res := [1], na := 62 })] ∧
    (get s.ca.classes 0).map (·.certs.suspended) = some [] ∧
    (get s.objs 0).map (·.currentSet.published) = some [(.cer 6, .cert { res := [1], na := 62 })] := by decide +kernel

/-- Counter-model of the pinned tree (before bb96d233): `add_issued_certificate` was
`issued.insert` only, so suspend → unsuspend left key 6 in both maps. -/
theorem pinned_add_issued_leaves_stale_entry :
    let cc : ChildCert := { res := [1, 2], na := 60 }
    let cs := (({} : ChildCerts).addIssued (6, cc)).suspend (6, cc)
    (cs.pinnedAddIssued (6, { cc with na := 61 })).suspended = [(6, cc)] ∧
    (cs.addIssued (6, { cc with na := 61 })).suspended = [] := by decide +kernel

/-- Counter-model of the pinned tree (F-C02-1): from the stale state the next shrink re-issued
the stale entry as *suspended* and `suspend_certificate` removed the active child's certificate
from `issued` – the negation of `shrink_active_child` there (replayed on the pinned tree by
corpus/system/c02-suspend-unsuspend-shrink.ops, which must pass). -/
theorem pinned_shrink_withdraws_active_child :
    let stale : ChildCerts := { issued := [(6, { res := [1, 2], na := 61 })], suspended := [(6, { res := [1, 2], na := 60 })] }
    (match stale.shrinkOverclaiming { res := [1], na := 100 } 62 with
      | .ok upd => get (stale.pinnedApplyUpd upd).issued 6 == none &&
          (get (stale.pinnedApplyUpd upd).suspended 6).isSome
      | .error _ => false) = true := by decide +kernel

/-- The state-level predicate the oracle evaluates (`ActiveChildHasCert`: every key in use by an
active child is issued in its class) additionally needs that no two children present the same
key: in the model a second child certifying the first child's key and then being suspended
takes the shared certificate with it.  Not reachable with the system harness (child keys are
generated by the child CAs). -/
example :
    (Sys.run {} [ .repoUpdate [], .addParent 9,
      .updateEntitlements 9 [⟨0, [1, 2, 3], 100, []⟩] 0 [4],
      .updateRcvdCert 0 4 { res := [1, 2, 3], na := 100 } 50 [],
      .childAdd 7 [1, 2], .childAdd 8 [1, 2],
      .childCertify 7 0 6 none 60, .childCertify 8 0 6 none 60,
      .childSuspend 8 ]).ca.activeChildHasCert = false := by decide +kernel

/-! ## The published level -/

/-
`never_overclaims` above is about the aggregate's `issued` map – what the CA believes it
publishes.  The published set agrees with it as long as the listener's object set mirrors the
aggregate (C01's `objects_mirror`; here the oracle `NoOverclaimPublished` evaluates it on the
implementation's own object sets after every operation).  On the pinned tree F-C02-1 broke the
mirror; the counter-model is kept below.
-/

/-- Counter-model of the pinned tree (F-C02-1, second consequence): from a stale state
`shrink_overclaiming` can name a key in `issued` **and** in `removed` (live certificate
re-issued, stale suspended entry shrunk to nothing); `CertAuth::apply` inserts then removes,
`KeyObjectSet::update_certs` removes then inserts – the re-issued certificate stayed published
as an orphan the CA no longer tracked (replayed on the pinned tree by
corpus/system/c02-stale-orphan-published.ops, which must pass). -/
theorem pinned_shrink_orphans_certificate :
    let stale : ChildCerts := { issued := [(6, { res := [1, 2, 3], na := 62 })], suspended := [(6, { res := [1, 2], na := 60 })] }
    let os : ObjSet := { key := 4, cert := { res := [1, 2, 3], na := 100 }, published := [(.cer 6, .cert { res := [1, 2, 3], na := 62 })] }
    (match stale.shrinkOverclaiming { res := [3], na := 100 } 63 with
      | .ok upd => decide (6 ∈ upd.issued.map (·.1)) && decide (6 ∈ upd.removed) &&
          (get (stale.pinnedApplyUpd upd).issued 6 == none) &&
          (get (os.updateCerts upd).published (.cer 6) == some (.cert { res := [3], na := 63 }))
      | .error _ => false) = true := by decide +kernel

/-- The same history on the fixed tree: what is published is what is issued, inside the
certificate. -/
example :
    let s := Sys.run {} orphanHistory
    s.noOverclaimPublished = true ∧ s.ca.noOverclaim = true ∧ s.ca.activeChildHasCert = true ∧
    (get s.ca.classes 0).map (·.certs.issued) = some [] ∧
    (get s.objs 0).map (fun ok => (ok.currentSet.cert.res, ok.currentSet.published)) = some ([2], []) := by decide +kernel

/-! ## Synchronisation converges and is then idempotent -/

/-- A converged child: the sync round takes the "fetch entitlements" branch
(`has_pending_requests` is false) and `UpdateEntitlements` emits **no event** – nothing is
stored, the command history does not grow, the state is what it was.  For every state (reachable
or not), every parent, every list. -/
theorem sync_idempotent (s : Sys) (p : Handle) (ents : List Entitlement) (now : Int) (fresh : List KeyId)
    (hrepo : s.ca.hasRepo = true) (hc : s.ca.convergedB p ents now = true) :
    s.ca.hasPendingRequests p = false ∧
    s.ca.process (.updateEntitlements p ents now fresh) = .ok [] ∧
    s.next (.updateEntitlements p ents now fresh) = s := by
  simp only [Ca.convergedB, Bool.and_eq_true, List.all_eq_true, Bool.or_eq_true, Bool.not_eq_eq_eq_not,
    Bool.not_true, decide_eq_false_iff_not, List.contains_iff_mem] at hc
  obtain ⟨⟨hpend, hlisted⟩, hquiet⟩ := hc
  obtain ⟨evs, hproc, hall⟩ := updateEntitlements_found (now := now) (fun _ => False) hrepo fresh
    (fun q hq hpar => (hlisted q hq).resolve_left fun h => h hpar)
    (fun ent hent => by
      have hq := hquiet ent hent
      split at hq
      · rename_i q hf
        exact ⟨q, hf, fun e he => by rw [List.isEmpty_iff.mp hq] at he; cases he⟩
      · cases hq)
  cases List.eq_nil_iff_forall_not_mem.mpr hall
  exact ⟨hpend, hproc, next_of_unexpected hproc fun _ h => nomatch h⟩

/-- When does a class create no event for its entitlement: exactly when no key wants an update
and every listed key is known (here for the single-key state). -/
theorem active_quiet_iff (c : CertKey) (ent : Entitlement) (now : Int) :
    (KeyState.active c).entitlementEvents ent now = [] ↔
      c.wantsUpdate ent.res ent.na now = false ∧ ∀ k ∈ ent.issued, k = c.id := by
  simp only [KeyState.entitlementEvents, KeyState.requestKeys, List.append_eq_nil_iff, List.map_eq_nil_iff,
    List.filter_eq_nil_iff, KeyState.knows, KeyState.keyIds]
  constructor
  · rintro ⟨h1, h2⟩
    refine ⟨?_, ?_⟩
    · cases hw : c.wantsUpdate ent.res ent.na now
      · rfl
      · simp [hw] at h1
    · intro k hk
      have := h2 k hk
      simpa using this
  · rintro ⟨h1, h2⟩
    refine ⟨by simp [h1], ?_⟩
    intro k hk
    simp [h2 k hk]

/-
Full statement: from any reachable parent/child pair with fixed `now`, ≤ 3 rounds of
`ca_sync_parent` per level leave one current certificate per entitled class with exactly the
entitled resources and no open requests; a further round emits no events.

Proved (`sync_converges_partial`): the statement for one class's key-state machine
(`Ca/KeySync.lean`) against a parent that answers every request with a certificate for the
offered resources – from **every** well-formed key state, including every stage of a key roll
and the `RollOld` arm of `append_entitlement_events`.  `sync_idempotent` above is the
unrestricted `Sys`-level statement of the last sentence.  The exchange between two real
aggregates is `Ca/Exchange.lean`; on it `exchange_idempotent` (below) is proved for every pair,
and convergence is proved for concrete pairs covering each kind of entitlement change
(`exchange_converges_instances`).  For an ARBITRARY reachable pair the statement is FALSE as it
stands: `sync_stuck_with_request_for_lost_class` (replayed on the real code: F-C02-4, open),
`sync_misses_parent_side_reissue` and `names_clash_when_class_is_added_after_mapping` (below)
are reachable pairs on which `Pair.sync` never converges / whose names clash.  Two more were
defects of the code, replayed and repaired (the models follow the fixed code, the old behaviour
is kept as `pinned_sync_stuck_after_parent_side_revocation` – F-C02-2, fix 7be8c4c6 – and
`pinned_sync_alternates_with_non_injective_mapping` – F-C02-3, fix 02d8de59); with a
request limit the exchange converges through a dropped and re-created class
(`sync_converges_with_request_limit`).  Proved for EVERY reachable pair that
satisfies a decidable coupling (each conjunct excludes one of those pairs) and whose open
certificate requests the parent can answer (`pendingAnswerable`, needed only by the theorems
that start with requests to send):
`exchange_converges_quiet` (2 syncs when there is nothing to send) and
`exchange_converges_partial` (3 syncs) for pairs without a key roll of the child in progress
(`Pair.coupled`), `exchange_converges` (sync, sync, sync, activate, sync) for pairs with a key
roll in ANY stage in any classes (`Pair.coupledRoll`); the `Sys`-level simulation of
`Pair.sync` class by class – every class makes `KeyState.syncStep` or is untouched – is
`syncR_spec` / `syncR2_spec` (`Ca/ExchangeRequests.lean`), `syncE_spec` (`Ca/ExchangeConv.lean`), `syncE2_spec`
(`Ca/ExchangeRollConv.lean`) and `activate_spec` (`Ca/ExchangeChild.lean`).  Still missing: hierarchies of more than two levels
(composed by the lock-step run only); the parent's not-after rule is an input (`na`) of the
model, the same for every class; in `exchange_converges` the child has no suspended child
certificates and no other parent's class is waiting for its activation.
-/

/-- From every well-formed key state: two rounds of (sync, activate, sync) and two more syncs
leave the class `Active` with a single key, no open request, and a certificate for exactly the
offered resources; a further sync or activation changes nothing. -/
theorem sync_converges_partial (ks : KeyState) (hwf : ks.wf = true) (o : Offer) (now : Int) :
    ∃ c, (((ks.round o now).round o now).syncStep o now).syncStep o now = .active c ∧
      c.req = false ∧ seteq o.res c.cert.res = true ∧
      (KeyState.active c).syncStep o now = .active c ∧ (KeyState.active c).activateStep = .active c := by
  obtain ⟨h1, hwf1⟩ := abs_round hwf o now
  obtain ⟨h2, hwf2⟩ := abs_round hwf1 o now
  have hwf3 := wf_syncStep hwf2 o now
  -- the abstract run ends quiet
  have hq := (by decide +kernel : ∀ a : AState, a.round.round.syncStep.syncStep.quiet = true) (ks.abs o now)
  rw [← h1, ← h2, ← abs_syncStep hwf2, ← abs_syncStep hwf3] at hq
  generalize (((ks.round o now).round o now).syncStep o now).syncStep o now = fin at hq ⊢
  obtain ⟨c, rfl, hreq, hwant⟩ := quiet_cases hq
  refine ⟨c, rfl, hreq, seteq_of_not_wantsUpdate hwant, ?_, rfl⟩
  rw [syncStep_active, hreq]
  simp only [Bool.false_eq_true, if_false, CertKey.ask, Offer.ent, hwant]

/-- Non-vacuity: the `RollOld` arm – the *old* key wants an update, the request is made for the
current key, and the class still converges. -/
example :
    let ks : KeyState := .rollOld ⟨2, { res := [1, 2], na := 1000 }, false⟩ ⟨1, { res := [1, 2, 3], na := 1000 }, false⟩
    let o : Offer := ⟨[1, 2], 1000⟩
    ks.wf = true ∧ ks.requestKeys o.ent 0 = [2] ∧
    (((ks.round o 0).round o 0).syncStep o 0).syncStep o 0 = .active ⟨2, o.cert, false⟩ := by decide +kernel

/-- Non-vacuity of `sync_idempotent`: a converged single-class child. -/
example :
    (Sys.run {} [.repoUpdate [], .addParent 9,
      .updateEntitlements 9 [⟨0, [1, 2], 100, []⟩] 0 [4],
      .updateRcvdCert 0 4 { res := [1, 2], na := 100 } 50 []]).ca.convergedB 9 [⟨0, [1, 2], 100, [4]⟩] 0 = true := by
  decide +kernel

/-! ## The exchange between two aggregates

`Ca/Exchange.lean`: `Pair.sync` is one `ca_sync_parent` of the child against the parent's `list`,
`issue` and `revoke`, built from the real commands of both aggregates (each with its published
object sets), for any number of classes, class-name mappings and key states. -/

/-- `sync_idempotent` on the pair, unbounded: once the child has converged on the parent's list
(`convergedB`: nothing to send, every class listed, no key wants an update) a further sync
changes **neither** aggregate – no command is stored on either side.  For every pair of states. -/
theorem exchange_idempotent (x : Pair) (now na : Int) (fresh : List KeyId)
    (hrepo : x.child.ca.hasRepo = true)
    (hc : x.child.ca.convergedB x.ph (x.parent.ca.entitlementsFor x.ch na) now = true) :
    x.sync now na fresh = x := by
  obtain ⟨hpend, _, hnext⟩ := sync_idempotent x.child x.ph (x.parent.ca.entitlementsFor x.ch na) now fresh hrepo hc
  rw [sync_of_quiet hpend, hnext]

/-- `sync_converges` on the pair, for every kind of entitlement change of the property text, on
concrete pairs (bounded instances, evaluated by the kernel): first delegation, shrink to a
partial overlap, shrink to nothing (the parent itself loses the resources: the class is dropped
in one sync), regain, two classes at once, a class-name mapping, and a key roll of the child
(request, activation, revocation).  In each case the stated number of syncs ends `converged`
(one `Active` class per entitlement with exactly the entitled resources, no open request, the
parent's issued certificate equal to it) and the next sync changes nothing on either side. -/
theorem exchange_converges_instances :
    -- first delegation: two syncs (entitlements → request; request → certificate)
    (xStart.converged 900 = false ∧ xConv.converged 900 = true ∧ xConv.sync 10 900 [] = xConv) ∧
    -- shrink to a partial overlap: two syncs
    (xShrunk.converged 900 = false ∧ (xShrunk.syncs 10 900 [[], []]).converged 900 = true ∧
      (xShrunk.syncs 10 900 [[], [], []]) = xShrunk.syncs 10 900 [[], []]) ∧
    -- shrink to nothing: one sync removes the class
    (xNothing.converged 900 = false ∧ (xNothing.syncs 10 900 [[]]).converged 900 = true ∧
      (xNothing.syncs 10 900 [[]]).child.ca.classes = [] ∧
      (xNothing.syncs 10 900 [[], []]) = xNothing.syncs 10 900 [[]]) ∧
    -- regain: two syncs, a new class with a new key
    (xRegain.converged 900 = false ∧ (xRegain.syncs 10 900 [[21], []]).converged 900 = true ∧
      (xRegain.syncs 10 900 [[21], [], []]) = xRegain.syncs 10 900 [[21], []]) ∧
    -- two classes at once: two syncs
    (xTwo.converged 900 = false ∧ (xTwo.syncs 10 900 [[20, 21], []]).converged 900 = true ∧
      (xTwo.syncs 10 900 [[20, 21], []]).child.ca.classes.length = 2 ∧
      (xTwo.syncs 10 900 [[20, 21], [], []]) = xTwo.syncs 10 900 [[20, 21], []]) ∧
    -- class-name mapping at the parent: two syncs, the child's class is under the mapped name
    ((xMapped.syncs 10 900 [[20], []]).converged 900 = true ∧
      (xMapped.syncs 10 900 [[20], []]).child.ca.classes.map (·.2.parentRcn) = [5]) ∧
    -- key roll of the child: sync (certificate for the new key), activate, sync (revocation)
    (let r2 : Pair := { xRoll.sync 10 900 [] with child := (xRoll.sync 10 900 []).child.next (.keyrollActivate 900) }
     let r3 := r2.sync 10 900 []
     r3.converged 900 = true ∧ r3.sync 10 900 [] = r3 ∧
     r3.parent.ca.classes.map (fun q => keys q.2.certs.issued) = [[30]]) := by
  decide +kernel

/-- Non-vacuity of `exchange_idempotent`: the converged pair satisfies its hypotheses. -/
example :
    xConv.child.ca.hasRepo = true ∧
    xConv.child.ca.convergedB xConv.ph (xConv.parent.ca.entitlementsFor xConv.ch 900) 10 = true := by decide +kernel

/-- Non-vacuity of "shrink to nothing": the parent's own shrink removed the child's certificate in
the same command (`shrink_active_child`: nothing left), before the child synchronised. -/
example :
    (get xConv.parent.ca.classes 0).map (fun rc => keys rc.certs.issued) = some [20] ∧
    (get xNothing.parent.ca.classes 0).map (fun rc => keys rc.certs.issued) = some [] ∧
    xNothing.parent.ca.entitlementsFor 7 900 = [] := by decide +kernel

/-! ## Convergence of the exchange for every coupled reachable pair

`Pair.coupled` (`Ca/ExchangeHypotheses.lean`) is the conjunction of five decidable predicates on the
pair: `childHasRepo`, `mappingInjective`, `noRequestLimits`, `classNamesDistinct`, `certsOnFile`.
The theorems below hold for EVERY pair of reachable aggregates that satisfies it – any number of
classes, children, certificates, any history on either side.  The theorems that may start with
requests to send (`exchange_keeps_coupling`, `exchange_converges_partial`, `exchange_converges`)
need in addition `pendingAnswerable`: the parent can answer every certificate request the child has
open (a krill parent refuses the others with an error and the child keeps them for ever –
`sync_stuck_with_request_for_lost_class`); after a sync that fetched entitlements it holds by
itself (`PostE.answerable`).  The counter-models after them show that the hypotheses cannot be
dropped. -/

/-- The coupling is an invariant of the exchange: every sync keeps it (and keeps both sides
reachable), provided the sync that fetches entitlements gets a new key for each class it
creates. -/
theorem exchange_keeps_coupling (x : Pair) (now na : Int) (f : List KeyId)
    (hp : Reachable x.parent) (hc : Reachable x.child)
    (hcoupled : x.coupled = true) (hnoroll : x.noRollInProgress = true)
    (hansw : x.pendingAnswerable = true)
    (hf : x.child.ca.hasPendingRequests x.ph = false → x.newClasses na ≤ f.length) :
    Coupled (x.sync now na f) :=
  sync_coupled (coupled_of_bool hp hc hcoupled hnoroll) now na f hf (fun _ => answerable_of_bool hansw)

/-- `sync_converges` for the pair, from nothing-to-send: for every coupled pair of reachable
aggregates in which the child has no open request and no key roll in progress – i.e. after any
change of entitlements at the parent (resources of the child, resources of the parent's own
certificates, classes added or removed, class-name mapping) – TWO syncs (entitlements, then the
requests with their responses) leave the child with exactly one `Active` class per listed class,
holding exactly the entitled resources, no open request, the same certificate on file at the
parent; and a further sync changes nothing on either side. -/
theorem exchange_converges_quiet (x : Pair) (now na : Int) (f1 f2 : List KeyId)
    (hp : Reachable x.parent) (hc : Reachable x.child)
    (hcoupled : x.coupled = true) (hnoroll : x.noRollInProgress = true)
    (hquiet : x.child.ca.hasPendingRequests x.ph = false)
    (hf : x.newClasses na ≤ f1.length) :
    (x.syncs now na [f1, f2]).converged na = true ∧
    ∀ f, (x.syncs now na [f1, f2]).sync now na f = x.syncs now na [f1, f2] := by
  have h := converges_from_quiet (coupled_of_bool hp hc hcoupled hnoroll) now na f1 f2 hquiet hf
  exact ⟨h.converged, h.sync_eq⟩

/-
Full statement: as below, without `hnoroll` – that is `exchange_converges` further down (with
the activation in the schedule and the coupling extended to the keys of the roll).
-/

/-- `sync_converges` for the pair, from ANY coupled pair of reachable aggregates without a key
roll in progress (open requests of any kind in any classes, classes the parent no longer lists,
listed classes the child does not have yet): THREE syncs – requests, entitlements, requests –
end converged, and every further sync changes nothing on either side.  New keys are consumed by
the one sync that fetches the entitlements. -/
theorem exchange_converges_partial (x : Pair) (now na : Int) (f1 f2 f3 : List KeyId)
    (hp : Reachable x.parent) (hc : Reachable x.child)
    (hcoupled : x.coupled = true) (hnoroll : x.noRollInProgress = true)
    (hansw : x.pendingAnswerable = true)
    (hf : if x.child.ca.hasPendingRequests x.ph then x.parent.ca.classes.length ≤ f2.length
      else x.newClasses na ≤ f1.length) :
    (x.syncs now na [f1, f2, f3]).converged na = true ∧
    ∀ f, (x.syncs now na [f1, f2, f3]).sync now na f = x.syncs now na [f1, f2, f3] := by
  have h := converges_any (coupled_of_bool hp hc hcoupled hnoroll) (answerable_of_bool hansw) now na f1 f2 f3 hf
  exact ⟨h.converged, h.sync_eq⟩

/-- The coupling is established by a child that has a repository and no class yet (first
delegation), whatever the parent – if its class names for the child translate back. -/
theorem fresh_child_is_coupled (x : Pair) (hrepo : x.child.ca.hasRepo = true)
    (hnames : x.mappingInjective = true) (hnone : x.child.ca.classes = []) :
    x.coupled = true ∧ x.noRollInProgress = true ∧ x.coupledRoll = true ∧
    x.child.ca.hasPendingRequests x.ph = false := by
  simp only [Pair.coupled, Pair.coupledRoll, Pair.childHasRepo, hrepo, hnames, Pair.noRequestLimits,
    Pair.classNamesDistinct, Pair.certsOnFile, Pair.noRollInProgress, Pair.stayingCertsOnFile,
    Pair.keysWellFormed, Pair.keysDistinct, Pair.noParentSideRevocation, Pair.noSuspendedCerts,
    Pair.othersNotActivating, Ca.hasPendingRequests, hnone, List.all_nil, List.any_nil, List.filter_nil,
    List.map_nil, List.nodup_nil, decide_true, Bool.and_self, and_self]

example : xStart.child.ca.hasRepo = true ∧ xStart.mappingInjective = true ∧ xStart.child.ca.classes = [] := by
  decide +kernel

/-- The cycle of the property text: a converged pair (as reached by `exchange_converges_quiet`),
then ANY change of the child's entitlement at the parent (`ChildUpdateResources`: more, fewer,
other resources, or a refused command), then two syncs: converged again, and a fixed point –
the coupling is re-established by the convergence itself. -/
theorem exchange_reconverges_after_resources_change (x : Pair) (now na : Int) (f1 f2 g1 g2 : List KeyId)
    (res : ResSet) (hp : Reachable x.parent) (hc : Reachable x.child)
    (hcoupled : x.coupled = true) (hnoroll : x.noRollInProgress = true)
    (hquiet : x.child.ca.hasPendingRequests x.ph = false) (hf : x.newClasses na ≤ f1.length)
    (hg : ({ x.syncs now na [f1, f2] with
      parent := (x.syncs now na [f1, f2]).parent.next (.childUpdateResources (x.syncs now na [f1, f2]).ch res) } :
        Pair).newClasses na ≤ g1.length) :
    (({ x.syncs now na [f1, f2] with
      parent := (x.syncs now na [f1, f2]).parent.next (.childUpdateResources (x.syncs now na [f1, f2]).ch res) } :
        Pair).syncs now na [g1, g2]).converged na = true ∧
    ∀ f, (({ x.syncs now na [f1, f2] with
      parent := (x.syncs now na [f1, f2]).parent.next (.childUpdateResources (x.syncs now na [f1, f2]).ch res) } :
        Pair).syncs now na [g1, g2]).sync now na f =
      ({ x.syncs now na [f1, f2] with
        parent := (x.syncs now na [f1, f2]).parent.next (.childUpdateResources (x.syncs now na [f1, f2]).ch res) } :
          Pair).syncs now na [g1, g2] := by
  have h := converges_from_quiet (coupled_of_bool hp hc hcoupled hnoroll) now na f1 f2 hquiet hf
  have h2 := converges_from_quiet (h.coupled_after_resources_change res) now na g1 g2 h.quiet hg
  exact ⟨h2.converged, h2.sync_eq⟩

/-- Non-vacuity: `xStart` converges, the entitlement shrinks to `{1}`, it converges again with the
class narrowed (this is `xShrunk`). -/
example :
    ({ xStart.syncs 10 900 [[20], []] with
      parent := (xStart.syncs 10 900 [[20], []]).parent.next (.childUpdateResources 7 [1]) } : Pair) = xShrunk ∧
    xShrunk.newClasses 900 ≤ ([] : List KeyId).length := by decide +kernel

/-! ### Non-vacuity: the witness pairs satisfy the hypotheses -/

theorem xStart_coupled : Coupled xStart :=
  have hr : Reachable xStart.parent ∧ Reachable xStart.child := Pair.reachable_of_runs _ _ _ _
  coupled_of_bool hr.1 hr.2 (by decide) (by decide)

theorem xConv_coupled : Coupled xConv :=
  sync_coupled (sync_coupled xStart_coupled 10 900 [20] (fun _ => by decide) (fun h => absurd h (by decide)))
    10 900 [] (fun h => by revert h; decide) (fun _ => answerable_of_bool (by decide))

theorem xTwo_reachable : Reachable xTwo.parent ∧ Reachable xTwo.child := Pair.reachable_of_runs _ _ _ _

/- The pairs below are a converged pair with one more command on one side.  `with_reducible`: the step is literally
the one in the definition; left to itself the unifier evaluates both states before it compares them. -/

theorem xShrunk_reachable : Reachable xShrunk.parent := by
  delta xShrunk; with_reducible exact Reachable.step _ xConv_coupled.inv.rp

theorem xNothing_reachable : Reachable xNothing.parent := by
  delta xNothing; with_reducible exact Reachable.step _ xConv_coupled.inv.rp

/-- Every pair of `exchange_converges_instances` is reachable, coupled, without a key roll and
without an open request, and the fresh keys used there are enough. -/
example :
    (xStart.coupled = true ∧ xStart.noRollInProgress = true ∧
      xStart.child.ca.hasPendingRequests xStart.ph = false ∧ xStart.newClasses 900 ≤ [20].length) ∧
    (xShrunk.coupled = true ∧ xShrunk.noRollInProgress = true ∧
      xShrunk.child.ca.hasPendingRequests xShrunk.ph = false ∧ xShrunk.newClasses 900 ≤ ([] : List KeyId).length) ∧
    (xNothing.coupled = true ∧ xNothing.noRollInProgress = true ∧
      xNothing.child.ca.hasPendingRequests xNothing.ph = false ∧ xNothing.newClasses 900 ≤ ([] : List KeyId).length) ∧
    (xRegain.coupled = true ∧ xRegain.noRollInProgress = true ∧
      xRegain.child.ca.hasPendingRequests xRegain.ph = false ∧ xRegain.newClasses 900 ≤ [21].length) ∧
    (xTwo.coupled = true ∧ xTwo.noRollInProgress = true ∧
      xTwo.child.ca.hasPendingRequests xTwo.ph = false ∧ xTwo.newClasses 900 ≤ [20, 21].length) ∧
    (xMapped.coupled = true ∧ xMapped.noRollInProgress = true ∧
      xMapped.child.ca.hasPendingRequests xMapped.ph = false ∧ xMapped.newClasses 900 ≤ [20].length) := by
  decide +kernel

/-- Non-vacuity of `exchange_converges_partial` with requests open at the start: the pair after
the first sync of `xStart` (the new class has its request open). -/
example :
    let x := xStart.sync 10 900 [20]
    x.coupled = true ∧ x.noRollInProgress = true ∧ x.child.ca.hasPendingRequests x.ph = true ∧
    x.pendingAnswerable = true ∧
    x.parent.ca.classes.length ≤ ([] : List KeyId).length + 1 := by decide +kernel

/-- The convergence statements of `exchange_converges_instances` (first delegation, shrink to a
part, shrink to nothing, regain, two classes, class-name mapping) as corollaries of the general
theorem. -/
theorem exchange_converges_instances_from_general :
    (xStart.syncs 10 900 [[20], []]).converged 900 = true ∧
    (xShrunk.syncs 10 900 [[], []]).converged 900 = true ∧
    (xNothing.syncs 10 900 [[], []]).converged 900 = true ∧
    (xRegain.syncs 10 900 [[21], []]).converged 900 = true ∧
    (xTwo.syncs 10 900 [[20, 21], []]).converged 900 = true ∧
    (xMapped.syncs 10 900 [[20], []]).converged 900 = true := by
  have hconvC : Reachable xConv.child := xConv_coupled.inv.rc
  have hnothing : Coupled xNothing := coupled_of_bool xNothing_reachable hconvC (by decide) (by decide)
  have hy := sync_coupled hnothing 10 900 [] (fun _ => by decide) (fun h => absurd h (by decide))
  have hregainP : Reachable xRegain.parent :=
    Reachable.step (.updateRcvdCert 0 4 { res := [1, 2, 3, 4], na := 1000 } 500 []) hy.inv.rp
  have hmappedP : Reachable xMapped.parent := by
    delta xMapped; with_reducible exact Reachable.step _ xStart_coupled.inv.rp
  refine ⟨?_, ?_, ?_, ?_, ?_, ?_⟩
  · exact (exchange_converges_quiet xStart 10 900 [20] [] xStart_coupled.inv.rp xStart_coupled.inv.rc
      (by decide) (by decide) (by decide) (by decide)).1
  · exact (exchange_converges_quiet xShrunk 10 900 [] [] xShrunk_reachable hconvC
      (by decide) (by decide) (by decide) (by decide)).1
  · exact (exchange_converges_quiet xNothing 10 900 [] [] xNothing_reachable hconvC
      (by decide) (by decide) (by decide) (by decide)).1
  · exact (exchange_converges_quiet xRegain 10 900 [21] [] hregainP hy.inv.rc
      (by decide) (by decide) (by decide) (by decide)).1
  · exact (exchange_converges_quiet xTwo 10 900 [20, 21] [] xTwo_reachable.1 xTwo_reachable.2
      (by decide) (by decide) (by decide) (by decide)).1
  · exact (exchange_converges_quiet xMapped 10 900 [20] [] hmappedP
      (by delta xMapped; with_reducible exact xStart_coupled.inv.rc) (by decide) (by decide) (by decide) (by decide)).1

/-! ### With a key roll of the child in progress -/

/-- `sync_converges` for the pair, key rolls included: from ANY pair of reachable aggregates that
satisfies `Pair.coupledRoll` – every class of the child in any key state (`Pending`, `Active`,
`RollPending`, `RollNew`, `RollOld`) with any open requests, classes the parent no longer lists,
listed classes the child does not have yet – the schedule sync, sync, sync, `KeyRollActivate`,
sync ends converged: one `Active` class per listed class with exactly the entitled resources, no
open request, the old keys revoked, the same certificate on file at the parent; every further
sync changes nothing on either side.  New keys (pairwise different, not yet in use) are consumed
by the one sync that fetches the entitlements. -/
theorem exchange_converges (x : Pair) (now na na' : Int) (f1 f2 f3 f4 : List KeyId)
    (hp : Reachable x.parent) (hc : Reachable x.child) (hcoupled : x.coupledRoll = true)
    (hansw : x.pendingAnswerable = true)
    (hf : if x.child.ca.hasPendingRequests x.ph then x.parent.ca.classes.length ≤ f2.length ∧ x.freshOk f2 = true
      else x.newClasses na ≤ f1.length ∧ x.freshOk f1 = true) :
    (((x.syncs now na [f1, f2, f3]).activate na').sync now na f4).converged na = true ∧
    ∀ f, (((x.syncs now na [f1, f2, f3]).activate na').sync now na f4).sync now na f =
      ((x.syncs now na [f1, f2, f3]).activate na').sync now na f4 := by
  obtain ⟨hc2, hoth⟩ := coupled2_of_bool hp hc hcoupled
  have h := converges_roll hc2 hoth (answerable_of_bool hansw) now na na' f1 f2 f3 f4 (by
    split
    · rename_i hpend
      simp only [hpend, if_true] at hf
      exact ⟨hf.1, freshOk_of_bool hf.2⟩
    · rename_i hpend
      simp only [hpend] at hf
      exact ⟨hf.1, freshOk_of_bool hf.2⟩)
  exact ⟨h.converged, h.sync_eq⟩

/-- Non-vacuity: the child of `xRoll` in every stage of its key roll (`RollPending` with the
request open, `RollNew`, `RollOld`), and the pairs without a roll, satisfy the coupling; the
instance of `exchange_converges_instances` follows from the theorem. -/
example :
    let r1 := xRoll.sync 10 900 []
    let r2 := r1.activate 900
    (xRoll.child.ca.classes.map fun q => q.2.keys.variant) = [.rollPending] ∧
    (r1.child.ca.classes.map fun q => q.2.keys.variant) = [.rollNew] ∧
    (r2.child.ca.classes.map fun q => q.2.keys.variant) = [.rollOld] ∧
    xRoll.coupledRoll = true ∧ r1.coupledRoll = true ∧ r2.coupledRoll = true ∧
    xRoll.pendingAnswerable = true ∧ r1.pendingAnswerable = true ∧ r2.pendingAnswerable = true ∧
    xRoll.child.ca.hasPendingRequests xRoll.ph = true ∧
    xRoll.parent.ca.classes.length ≤ [40].length ∧ xRoll.freshOk [40] = true ∧
    xStart.coupledRoll = true ∧ xShrunk.coupledRoll = true ∧ xNothing.coupledRoll = true ∧
    xRegain.coupledRoll = true ∧ xTwo.coupledRoll = true ∧ xMapped.coupledRoll = true := by decide +kernel

theorem exchange_converges_roll_instance :
    (((xRoll.syncs 10 900 [[], [40], []]).activate 900).sync 10 900 []).converged 900 = true :=
  (exchange_converges xRoll 10 900 900 [] [40] [] [] xConv_coupled.inv.rp
    (by delta xRoll; with_reducible exact Reachable.step _ xConv_coupled.inv.rc) (by decide) (by decide) (by decide)).1

/-! ### The hypotheses are necessary: reachable pairs on which `Pair.sync` never converges

Common history (= `xConv`): the parent holds `{1,2,3,4}` in class 0 and entitles child 7 to
`{1,2}`; the child has class 0 under parent 9 with key 20 certified for `{1,2}`. -/

/-- the parent of `xConv` as a command history -/
def pConvOps : List Cmd := [ .repoUpdate [], .addParent 99,
    .updateEntitlements 99 [⟨0, [1, 2, 3, 4], 1000, []⟩] 0 [4],
    .updateRcvdCert 0 4 { res := [1, 2, 3, 4], na := 1000 } 500 [],
    .childAdd 7 [1, 2], .childCertify 7 0 20 none 900 ]

/-- the child of `xConv` as a command history -/
def cConvOps : List Cmd := [ .repoUpdate [], .addParent 9,
    .updateEntitlements 9 [⟨0, [1, 2], 900, []⟩] 10 [20],
    .updateRcvdCert 0 20 { res := [1, 2], na := 900 } 900 [] ]

example : Sys.run {} pConvOps = xConv.parent ∧ Sys.run {} cConvOps = xConv.child := by decide +kernel

/-- The child is in `RollOld` (new key 30 activated, revocation of key 20 still to be sent);
meanwhile the parent lost the child's resources and its `shrink_overclaiming` removed – revoked –
the certificates of keys 20 and 30.  (Neither history contains a command the fixes changed: the
states are the same on the pinned and on the current tree.) -/
def xRevoked : Pair :=
  ⟨Sys.run {} (pConvOps ++ [.childCertify 7 0 30 none 900,
      .updateRcvdCert 0 4 { res := [3, 4], na := 1000 } 500 []]),
   Sys.run {} (cConvOps ++ [.keyrollInit [(0, 30)], .updateRcvdCert 0 30 { res := [1, 2], na := 900 } 900 [],
      .keyrollActivate 900]), 7, 9⟩

/-- Counter-model of the PINNED tree (before fix 7be8c4c6; F-C02-2, same refusal as F-C01-3 and
F-C08-6; replayed on that tree: corpus/system/c02-roll-old-revoked-by-parent.ops shows the fixed
behaviour, seeded/ keeps the revert).  Every sync sent the revocation request for key 20; the
parent refused it (`KeyUseNoIssuedCert`: the key is already marked revoked, the class still
exists), the child stayed in `RollOld` with its open request and therefore never fetched
entitlements: the pair was a fixed point of the exchange that is not converged – the parent lists
nothing for the child, the child kept class 0 with certificates for `{1,2}` for ever. -/
theorem pinned_sync_stuck_after_parent_side_revocation :
    Reachable xRevoked.parent ∧ Reachable xRevoked.child ∧ xRevoked.coupled = true ∧
    xRevoked.noRollInProgress = false ∧ xRevoked.noParentSideRevocation = false ∧
    (xRevoked.keysWellFormed && xRevoked.keysDistinct && xRevoked.noSuspendedCerts &&
      xRevoked.othersNotActivating && xRevoked.stayingCertsOnFile) = true ∧
    xRevoked.parent.pinnedExec (.childRevokeKey 7 0 20) = .refused .noIssuedCert ∧
    xRevoked.parent.ca.entitlementsFor 7 900 = [] ∧
    (xRevoked.child.ca.classes.map fun q => q.2.keys.variant) = [.rollOld] ∧
    ∀ fs, (xRevoked.pinnedSyncs 10 900 fs).converged 900 = false := by
  have hstuck : ∀ fs, (xRevoked.pinnedSyncs 10 900 fs).converged 900 = false := fun fs => by
    rw [pinnedSyncs_of_fixed (syncWith_of_requests_refused (by decide +kernel) (by decide +kernel) 10) fs]
    decide +kernel
  have hr : Reachable xRevoked.parent ∧ Reachable xRevoked.child := Pair.reachable_of_runs _ _ _ _
  refine ⟨hr.1, hr.2, ?_⟩
  -- the other conjuncts are closed: one evaluation
  simp only [hstuck, implies_true, and_true]
  decide +kernel

/-- On the current tree (fix 7be8c4c6) the same pair converges: the revocation request for the key
the parent revoked itself is confirmed (no event, nothing changes at the parent), the child
finishes its roll in the first sync, fetches the entitlements in the second – it is entitled to
nothing – and drops the class; further syncs change nothing. -/
theorem sync_converges_after_parent_side_revocation :
    xRevoked.parent.exec (.childRevokeKey 7 0 20) = .stored [] xRevoked.parent ∧
    ((xRevoked.sync 10 900 []).child.ca.classes.map fun q => q.2.keys.variant) = [.active] ∧
    (xRevoked.syncs 10 900 [[], []]).converged 900 = true ∧
    (xRevoked.syncs 10 900 [[], []]).child.ca.classes = [] ∧
    xRevoked.syncs 10 900 [[], [], []] = xRevoked.syncs 10 900 [[], []] := by decide +kernel

/-- Residual of F-C02-2: the operator removed the child at the parent and added it again while
the child was in `RollOld` – the new child record knows none of its keys. -/
def xReadded : Pair :=
  ⟨Sys.run {} (pConvOps ++ [.childCertify 7 0 30 none 900, .childRemove 7, .childAdd 7 [1, 2]]),
   xRevoked.child, 7, 9⟩

/-- A key the parent has no record of is still refused (`KeyUseNoIssuedCert`): the child never
leaves `RollOld` although the parent lists `{1,2}` for it.  Why `noParentSideRevocation` cannot be
dropped altogether (it can be weakened to "in use or revoked").  Replayed on the real code:
corpus/system-findings/c02-f2-child-readded-during-roll.ops. -/
theorem sync_stuck_after_child_readded :
    Reachable xReadded.parent ∧ Reachable xReadded.child ∧ xReadded.noParentSideRevocation = false ∧
    xReadded.pendingAnswerable = true ∧
    xReadded.parent.exec (.childRevokeKey 7 0 20) = .refused .noIssuedCert ∧
    (xReadded.parent.ca.entitlementsFor 7 900).map (·.res) = [[1, 2]] ∧
    ∀ fs, (xReadded.syncs 10 900 fs).converged 900 = false := by
  have hstuck := never_converges_of_requests_refused (x := xReadded) (na := 900) (by decide +kernel) 10
  have hr : Reachable xReadded.parent ∧ Reachable xReadded.child := by
    delta xReadded xRevoked; with_reducible exact Pair.reachable_of_runs _ _ _ _
  refine ⟨hr.1, hr.2, ?_⟩
  simp only [hstuck, implies_true, and_true]
  decide +kernel

/-- The child issued a certificate with a request limit `{1,2}` to a child of its own
(key 50); then the parent reduces the child's entitlement to `{1}`. -/
def xLimit : Pair :=
  ⟨Sys.run {} (pConvOps ++ [.childUpdateResources 7 [1]]),
   Sys.run {} (cConvOps ++ [.childAdd 3 [1, 2], .childCertify 3 0 50 (some [1, 2]) 800]), 7, 9⟩

/-- `xLimit` converges, by a detour (replayed: corpus/system-findings-limit/c02-b-limit-grandchild-shrink.ops):
the child refuses to store the smaller certificate (`Error::limit`: `shrink_overclaiming`
re-issues the grandchild's certificate with its old limit `{1,2}` on the reduced set `{1}`), and
`handle_cert_response` answers a refused `UpdateRcvdCert` with `DropResourceClass`
(`Sys.receiveOrDrop`): the second sync leaves the child without the class and without anything
to send, the third fetches the entitlements (a new class, key 21), the fourth gets the
certificate for `{1}`: converged, and a fixed point.  `noRequestLimits` stays a hypothesis of the
GENERAL theorems (their proof follows every class through `KeyState.syncStep`; the detour
"class dropped and created again under a new name" is outside that simulation), this instance
shows the exchange converges without it. -/
theorem sync_converges_with_request_limit :
    Reachable xLimit.parent ∧ Reachable xLimit.child ∧ xLimit.noRequestLimits = false ∧
    (xLimit.sync 10 900 []).child.exec (.updateRcvdCert 0 20 { res := [1], na := 900 } 900 []) =
      .refused (.issue .limit) ∧
    (xLimit.syncs 10 900 [[], []]).child.ca.classes = [] ∧
    (xLimit.syncs 10 900 [[], [], [21], []]).converged 900 = true ∧
    ((xLimit.syncs 10 900 [[], [], [21], []]).child.ca.classes.map fun q => (q.1, q.2.keys.keyIds)) = [(1, [21])] ∧
    xLimit.syncs 10 900 [[], [], [21], [], []] = xLimit.syncs 10 900 [[], [], [21], []] := by
  have hr : Reachable xLimit.parent ∧ Reachable xLimit.child := Pair.reachable_of_runs _ _ _ _
  exact ⟨hr.1, hr.2, by decide +kernel⟩

/-- The parent presents its two classes 0 and 1 to the child under the same name 5 – on the
pinned tree, whose `process` accepted the second mapping. -/
def xSameName : Pair := ⟨xTwoParent.pinnedRun [.childMapping 7 0 5, .childMapping 7 1 5], xChild, 7, 9⟩

/-- Counter-model of the PINNED tree (before fix 02d8de59; F-C02-3, the validation that F-C03-2
missed as well).  `list` returned two classes named 5 (`{5}` and `{1}`); the child created two
classes named 5, both were certified by the one parent class that `parent_name_for_rcn 5` yields,
and `find_parent_rc` then matched the first of them against both entitlements: from the third
sync on the pair alternated between two states (request, certificate) and was converged in
neither.  (The real code, with `HashMap`s, shows the same two classes and the same endless
re-issue, and in addition asks the parent to revoke the sibling class's key:
corpus/system/c02-two-classes-one-child-name.ops for the fixed behaviour.) -/
theorem pinned_sync_alternates_with_non_injective_mapping :
    xSameName.mappingInjective = false ∧
    xSameName.childHasRepo = true ∧ xSameName.noRequestLimits = true ∧ xSameName.classNamesDistinct = true ∧
    xSameName.certsOnFile = true ∧ xSameName.noRollInProgress = true ∧
    (xSameName.parent.ca.entitlementsFor 7 900).map (·.rcn) = [5, 5] ∧
    (let z := xSameName.pinnedSyncs 10 900 [[20, 21], []]
     (z.pinnedSync 10 900 []).pinnedSync 10 900 [] = z ∧ z.pinnedSync 10 900 [] ≠ z ∧
     z.converged 900 = false ∧ (z.pinnedSync 10 900 []).converged 900 = false ∧
     ∀ n, (z.pinnedSyncs 10 900 (List.replicate n [])).converged 900 = false) := by
  have hz : (xSameName.pinnedSyncs 10 900 [[20, 21], []]).pinnedSyncs 10 900 [[], []] =
        xSameName.pinnedSyncs 10 900 [[20, 21], []] ∧
      (xSameName.pinnedSyncs 10 900 [[20, 21], []]).converged 900 = false ∧
      ((xSameName.pinnedSyncs 10 900 [[20, 21], []]).pinnedSyncs 10 900 [[]]).converged 900 = false := by
    decide +kernel
  have hcyc := never_converges_of_two_cycle hz.1 hz.2.1 hz.2.2
  -- the other conjuncts are closed: one evaluation
  simp only [hcyc, implies_true, and_true]
  decide +kernel

/-- On the current tree (fix 02d8de59) the second mapping is refused, the names stay distinct and
the pair converges in two syncs with one class per parent class. -/
theorem second_mapping_to_same_name_refused :
    (xTwoParent.next (.childMapping 7 0 5)).exec (.childMapping 7 1 5) = .refused .childNameClash ∧
    (let x : Pair := ⟨xTwoParent.run [.childMapping 7 0 5, .childMapping 7 1 5], xChild, 7, 9⟩
     x.mappingInjective = true ∧ (x.parent.ca.entitlementsFor 7 900).map (·.rcn) = [1, 5] ∧
     (x.syncs 10 900 [[20, 21], []]).converged 900 = true ∧
     x.syncs 10 900 [[20, 21], [], []] = x.syncs 10 900 [[20, 21], []]) := by decide +kernel

/-- An accepted class-name mapping keeps the names the child sees translating back
(`mappingInjective`), for every state of the parent – this is what fix 02d8de59 establishes. -/
theorem mapping_keeps_names_distinct (s : Sys) (ch : Handle) (n m : Rcn) (evs : List Ev) (s' : Sys)
    (hok : s.ca.namesOk ch = true) (hex : s.exec (.childMapping ch n m) = .stored evs s') :
    s'.ca.namesOk ch = true :=
  mapping_keeps_namesOk hok hex

/-- Non-vacuity: an accepted mapping on a parent whose names are distinct (this is `xMapped`). -/
example : xParent.ca.namesOk 7 = true ∧
    (match xParent.exec (.childMapping 7 0 5) with | .stored _ _ => true | _ => false) = true := by decide +kernel

/-- What the fix cannot establish at the time of the mapping (`mappingInjective` therefore stays a
hypothesis of the general theorems): a mapping onto a name that no class has YET is accepted;
when the parent later gets a class of that name (class names are the counter `next_class_name`)
two classes appear to the child under one name.  Residual of F-C02-3 / F-C03-2, open. -/
theorem names_clash_when_class_is_added_after_mapping :
    let p := Sys.run {} [ .repoUpdate [], .addParent 98, .addParent 99,
      .updateEntitlements 98 [⟨0, [1, 2], 1000, []⟩] 0 [4],
      .updateRcvdCert 0 4 { res := [1, 2], na := 1000 } 500 [],
      .childAdd 7 [1], .childMapping 7 0 1,
      .updateEntitlements 99 [⟨0, [5, 6], 1000, []⟩] 0 [5],
      .updateRcvdCert 1 5 { res := [5, 6], na := 1000 } 500 [],
      .childUpdateResources 7 [1, 5] ]
    Reachable p ∧ p.ca.namesOk 7 = false ∧ (p.ca.entitlementsFor 7 900).map (·.rcn) = [1, 1] := by
  exact ⟨reachable_run .init _, by decide +kernel⟩

/-- The child has a certificate request open for its class 0 (its entitlement shrank to `{1}`
and it fetched the entitlements); before it sends the request the parent loses class 0 (its own
parent no longer lists it). -/
def xLost : Pair :=
  { xShrunk.sync 10 900 [] with
    parent := (xShrunk.sync 10 900 []).parent.next (.updateEntitlements 99 [] 0 []) }

/-- … and the parent gets the resources back – as its class 1. -/
def xLostRegained : Pair :=
  { xLost with parent := xLost.parent.run [
      .updateEntitlements 99 [⟨0, [1, 2, 3, 4], 1000, []⟩] 0 [6],
      .updateRcvdCert 1 6 { res := [1, 2, 3, 4], na := 1000 } 500 [] ] }

/-- The parent refuses the request (`ResourceClassUnknown`) – a krill parent answers with an
error, never with an RFC 6492 1201 response, so the child's "class is gone: drop it" branch is
not reached: the request stays open, every sync sends it again, the entitlements are never
fetched.  A fixed point that is not converged – even when the parent later holds the resources
again under a new class name.  What `pendingAnswerable` excludes.  Replayed on the real code:
corpus/system-findings/c02-h-request-for-lost-class.ops (F-C02-4, open). -/
theorem sync_stuck_with_request_for_lost_class :
    Reachable xLost.parent ∧ Reachable xLost.child ∧ xLost.pendingAnswerable = false ∧
    xLost.coupled = true ∧ xLost.noRollInProgress = true ∧ xLost.coupledRoll = true ∧
    xLost.parent.exec (.childCertify 7 0 20 none 900) = .refused .unknownClass ∧
    xLost.parent.ca.entitlementsFor 7 900 = [] ∧
    (∀ fs, (xLost.syncs 10 900 fs).converged 900 = false) ∧
    (xLostRegained.parent.ca.entitlementsFor 7 900).map (fun e => (e.rcn, e.res)) = [(1, [1])] ∧
    ∀ fs, (xLostRegained.syncs 10 900 fs).converged 900 = false := by
  have hy : Coupled (xShrunk.sync 10 900 []) :=
    sync_coupled (coupled_of_bool xShrunk_reachable xConv_coupled.inv.rc (by decide) (by decide)) 10 900 []
      (fun _ => by decide) (fun h => absurd h (by decide))
  have hP : Reachable xLost.parent := by delta xLost; with_reducible exact Reachable.step _ hy.inv.rp
  have hC : Reachable xLost.child := by delta xLost; with_reducible exact hy.inv.rc
  have hstuck := never_converges_of_requests_refused (x := xLost) (na := 900) (by decide +kernel) 10
  have hstuck' := never_converges_of_requests_refused (x := xLostRegained) (na := 900) (by decide +kernel) 10
  refine ⟨hP, hC, ?_⟩
  simp only [hstuck, hstuck', implies_true, and_true, true_and]
  decide +kernel

/-- Between two syncs of the child the parent's own certificate shrinks to `{1,3,4}`
(`shrink_overclaiming` re-issues the child's certificate with `{1}`) and grows back. -/
def xReissued : Pair :=
  ⟨Sys.run {} (pConvOps ++ [.updateRcvdCert 0 4 { res := [1, 3, 4], na := 1000 } 500 [],
      .updateRcvdCert 0 4 { res := [1, 2, 3, 4], na := 1000 } 500 []]),
   Sys.run {} cConvOps, 7, 9⟩

/-- The parent lists `{1,2}` again, the child still holds its old certificate for `{1,2}` and
asks for nothing; the certificate on file (and published) at the parent is the shrunk one, `{1}`:
a fixed point that is not converged.  What `certsOnFile` excludes.  (In the code the parent
reports the not-after time of the certificate on file; the child asks again only once that is a
week or 10 % later than its own – `na` is an input of the model.) -/
theorem sync_misses_parent_side_reissue :
    Reachable xReissued.parent ∧ Reachable xReissued.child ∧ xReissued.certsOnFile = false ∧
    xReissued.childHasRepo = true ∧ xReissued.mappingInjective = true ∧ xReissued.noRequestLimits = true ∧
    xReissued.classNamesDistinct = true ∧ xReissued.noRollInProgress = true ∧
    xReissued.parent.ca.issuedFor 7 0 20 = some { res := [1], na := 500 } ∧
    (xReissued.parent.ca.entitlementsFor 7 900).map (·.res) = [[1, 2]] ∧
    ∀ fs, (xReissued.syncs 10 900 fs).converged 900 = false := by
  have hq : xReissued.child.ca.hasRepo = true ∧
      xReissued.child.ca.convergedB xReissued.ph (xReissued.parent.ca.entitlementsFor xReissued.ch 900) 10 = true ∧
      xReissued.converged 900 = false := by decide +kernel
  have hstuck : ∀ fs, (xReissued.syncs 10 900 fs).converged 900 = false := fun fs => by
    rw [syncs_of_fixed (fun f => exchange_idempotent xReissued 10 900 f hq.1 hq.2.1) fs]
    exact hq.2.2
  have hr : Reachable xReissued.parent ∧ Reachable xReissued.child := Pair.reachable_of_runs _ _ _ _
  refine ⟨hr.1, hr.2, ?_⟩
  simp only [hstuck, implies_true, and_true]
  decide +kernel

/-- A child without a repository never leaves the refused `UpdateEntitlements`
(`childHasRepo`). -/
theorem sync_stuck_without_repository :
    let x : Pair := ⟨xParent, Sys.run {} [.addParent 9], 7, 9⟩
    Reachable x.parent ∧ Reachable x.child ∧ x.childHasRepo = false ∧
    x.sync 10 900 [20] = x ∧ x.converged 900 = false := by
  exact ⟨reachable_run .init _, reachable_run .init _, by decide +kernel⟩

end KM.Props.C02
