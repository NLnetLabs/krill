/-
C05 — Configuration changes are validated against held resources, all or nothing.
Models: `Ca/Roa.lean` (`Routes::process_updates`), `Ca/Aspa.lean`, `Ca/Bgpsec.lean` (BGPsec
and the child checks), `Ca/Resources.lean` (what "held" is for krill).

`held`/`holdsAsn` are parameters of the iff-theorems: they hold for every predicate, in
particular for `ResSet.holdsCode`, the test krill performs, which is the property's notion
of holding (`held_is_own_family`; the pinned tree's family-blind test is kept as a labelled
counter-model, `pinned_held_family_confusion`).

Clause → theorem (property text of C05 in properties.jsonl)
| clause | theorem(s) |
|---|---|
| a ROA delta is applied entirely or not at all | `roa_delta_all_or_nothing`, `roa_delta_result_keys`, `refused_leaves_untouched` |
| refused exactly when it adds a prefix not held / invalid max length / already present (same comment) / removes one not present | `roa_delta_iff` (+ `roa_update_iff` on the normalised delta), `roa_delta_errors_exact`, `held_is_own_family` |
| implicit and explicit max length, duplicates inside one delta | `normalised_explicit`, `Spec.present`/`commentOf` in `roa_delta_iff` |
| ASPA changes refused exactly when: customer AS not held, empty or duplicated provider list, customer its own provider, removal of what does not exist | `aspa_update_iff`, `aspa_existing_iff`; applied entirely: `aspa_update_applied` |
| router-key changes: AS not held, CSR not validly self-signed, removal of what does not exist | `bgpsec_update_iff`; applied entirely: `bgpsec_update_applied` |
| child changes: entitled to nothing (add), resources the parent does not hold, unknown / duplicate child | `child_add_iff`, `child_update_iff`, `child_update_accepts_empty` (shrinking to nothing is legitimate, C02) |
| a refused change leaves configuration (and repository) untouched | `refused_leaves_untouched` (per command); per API request: false for the multi-field child update, `child_request_not_atomic` (F-C05-1, open, system stream); repository: no event ⇒ nothing to publish (C07/C01) |
| for every request content against every reachable CA state (histories) | `history_entries_held_when_accepted`, `api_view_is_fold_of_accepted`, `aspa_history_customers_held`, `bgpsec_history_keys_held` |
| (pinned tree, fixed) | `pinned_held_family_confusion` (F-C05-2), `pinned_aspa_update_not_applied` (F-C05-3) |
-/
import KrillModel.Ca.ConfigLemmas
namespace KM.Props.C05
open KM.Bgp KM.Ca KM.Input

/-- The error report of `process_updates` is exactly the list of bad entries, class by class
and in the order of the delta. -/
theorem roa_delta_errors_exact (r : Routes) (held : Roa → Bool) (u : RoaUpdates) (E : DeltaError)
    (h : processUpdates r held u = .error E) : E = Spec.expectedErrors r held u := by
  have := processUpdates_closed r held u
  rw [h] at this
  exact this.1

/-- **A ROA delta is refused exactly when one of its entries is bad.** -/
theorem roa_delta_iff (r : Routes) (held : Roa → Bool) (u : RoaUpdates) :
    (∃ E, processUpdates r held u = .error E) ↔ Spec.SomeEntryBad r held u := by
  have := processUpdates_closed r held u
  rw [← expected_nonempty_iff]
  split at this
  next hp =>
    rw [hp, this.1]
    exact ⟨fun ⟨_, hE⟩ => (nomatch hE), fun h => (nomatch h)⟩
  next E hp =>
    rw [hp, ← this.1]
    exact ⟨fun _ => this.2, fun _ => ⟨E, rfl⟩⟩

/-- **All or nothing.**  A refused delta yields no event at all (`Except.error` carries
none); an accepted delta yields events that, applied to the configuration, produce exactly
`(r ∖ removed) ∪ added`, every added authorisation carrying the comment of its last
mention, and the configuration handed on for issuing ROA objects has the same
authorisations. -/
theorem roa_delta_all_or_nothing (r : Routes) (held : Roa → Bool) (u : RoaUpdates)
    (r' : Routes) (evs : List RouteEv) (h : processUpdates r held u = .ok (r', evs)) :
    (∀ p, (applyRouteEvs r evs).get? p = Spec.expectedGet r u p) ∧
    (∀ p, r'.has p = (applyRouteEvs r evs).has p) := by
  have := processUpdates_closed r held u
  rw [h] at this
  exact ⟨this.2.2, fun p => (this.2.1 p).symm⟩

/-- On an accepted delta every listed removal is gone unless re-added, every addition is
there. -/
theorem roa_delta_result_keys (r : Routes) (held : Roa → Bool) (u : RoaUpdates)
    (r' : Routes) (evs : List RouteEv) (h : processUpdates r held u = .ok (r', evs)) (p : Roa) :
    (applyRouteEvs r evs).has p =
      ((r.has p && !(u.removed.contains p)) || u.added.any (fun c => c.payload == p)) := by
  have hlast : u.added.any (fun c => c.payload == p) = (Spec.lastComment u.added p).isSome := by
    rw [Spec.lastComment, Option.isSome_map, List.isSome_find?, List.any_reverse]
  rw [Routes.has_eq_isSome, (roa_delta_all_or_nothing r held u r' evs h).1 p, Spec.expectedGet, hlast,
    ← Spec.baseline_has, Routes.has_eq_isSome]
  cases Spec.lastComment u.added p <;> simp

/-- The production path (`process_route_authorizations_update`) normalises the delta first;
the characterisation is the same on the normalised delta. -/
theorem roa_update_iff (r : Routes) (held : Roa → Bool) (u : RoaUpdates) :
    (∃ E, processRouteUpdate r held u = .error E) ↔ Spec.SomeEntryBad r held u.setExplicitMaxLength :=
  roa_delta_iff r held u.setExplicitMaxLength

/-- After normalisation every payload of the delta carries an explicit max length. -/
theorem normalised_explicit (u : RoaUpdates) :
    (∀ c ∈ u.setExplicitMaxLength.added, c.payload.maxLen.isSome = true) ∧
    (∀ p ∈ u.setExplicitMaxLength.removed, p.maxLen.isSome = true) := by
  constructor
  · intro c hc
    obtain ⟨c', _, rfl⟩ := List.mem_map.mp hc; rfl
  · intro p hp
    obtain ⟨p', _, rfl⟩ := List.mem_map.mp hp; rfl

/-- One request: what it can bring into the configuration.  An authorisation that is
configured afterwards either was configured before, or the request was accepted and lists it
among its (normalised) additions with a valid max length and a prefix held *at that
moment*. -/
theorem request_adds_only_held (r : Routes) (q : RouteReq) (p : Roa)
    (h : (routeCommand r q.held q.upd).has p = true) :
    r.has p = true ∨
      (Spec.accepted r q = true ∧ (∃ c ∈ q.upd.setExplicitMaxLength.added, c.payload = p) ∧
        q.held p = true ∧ maxLengthValid p = true) := by
  obtain ⟨hacc, href⟩ := routeCommand_view r q
  cases ha : Spec.accepted r q with
  | false => rw [href ha] at h; exact Or.inl h
  | true =>
    rw [Routes.has_eq_isSome, hacc ha p, Spec.viewStep] at h
    cases hl : Spec.lastComment q.upd.setExplicitMaxLength.added p with
    | none =>
      rw [hl] at h
      simp only at h
      refine Or.inl ?_
      split at h
      · cases h
      · rwa [Routes.has_eq_isSome]
    | some c =>
      -- the last mention is an entry of the accepted delta, so it is not bad
      obtain ⟨cf, hcf, _⟩ := Option.map_eq_some_iff.mp hl
      have hmem : cf ∈ q.upd.setExplicitMaxLength.added :=
        List.mem_reverse.mp (List.mem_of_find?_eq_some hcf)
      have hpay : cf.payload = p := by simpa using List.find?_some hcf
      have hnb := mt (expected_nonempty_iff r q.held q.upd.setExplicitMaxLength).mpr
        ((Bool.not_eq_false _).mpr ha)
      obtain ⟨pre, post, hsplit⟩ := List.append_of_mem hmem
      refine Or.inr ⟨rfl, ⟨cf, hmem, hpay⟩, ?_, ?_⟩ <;> rw [← hpay, ← Bool.not_eq_false] <;> intro hn
      · exact hnb (Or.inr ⟨pre, cf, post, hsplit, Or.inr (Or.inl hn)⟩)
      · exact hnb (Or.inr ⟨pre, cf, post, hsplit, Or.inl hn⟩)

/-- **Every reachable configuration only contains authorisations that were within the held
resources at the time of acceptance**: whatever is configured after a history of requests
was configured at the start or was added by an accepted request whose resources held its
prefix (and whose max length was valid) – entitlements may change freely between requests. -/
theorem history_entries_held_when_accepted (r0 : Routes) (h : List RouteReq) (p : Roa)
    (hp : (runRoutes r0 h).has p = true) :
    r0.has p = true ∨
      ∃ pre q post, h = pre ++ q :: post ∧ Spec.accepted (runRoutes r0 pre) q = true ∧
        (∃ c ∈ q.upd.setExplicitMaxLength.added, c.payload = p) ∧
        q.held p = true ∧ maxLengthValid p = true :=
  Fold.foldl_origin _ (fun r => r.has p = true) _ (fun r q => request_adds_only_held r q p) h r0 hp

/-- **What the API shows equals the fold of the accepted deltas**: after any history of
requests the configured authorisations and their comments are what results from applying
the accepted deltas in order (`Spec.viewStep`: last mention among the additions, else gone
if removed, else unchanged); refused requests leave no trace. -/
theorem api_view_is_fold_of_accepted (r0 : Routes) (h : List RouteReq) :
    ∀ p, (runRoutes r0 h).get? p = Spec.viewRun r0 r0.get? h p := by
  suffices H : ∀ (r : Routes) (g : Roa → Option Comment), (∀ p, r.get? p = g p) →
      ∀ p, (runRoutes r h).get? p = Spec.viewRun r g h p from H r0 r0.get? (fun _ => rfl)
  induction h with
  | nil => exact fun r g hg => hg
  | cons q rest ih =>
    intro r g hg
    obtain ⟨hacc, href⟩ := routeCommand_view r q
    show ∀ p, (runRoutes (routeCommand r q.held q.upd) rest).get? p = _
    unfold Spec.viewRun
    cases ha : Spec.accepted r q with
    | true =>
      refine ih _ _ fun p' => ?_
      rw [hacc ha p', Spec.viewStep, Spec.viewStep, hg p']
    | false =>
      rw [href ha]
      exact ih r g hg

/-- **krill's test is the property's notion of holding** (after fix f600a28f,
`RoaPayload::is_held_by`): a block of the prefix' own address family spans the prefix.
Together with `roa_delta_iff` (which holds for every `held`): a ROA delta is refused exactly
when … it adds a prefix the CA does not hold. -/
theorem held_is_own_family (res : ResSet) (roa : Roa) :
    res.holdsCode roa = res.holdsSpec roa := rfl

/-- COUNTER-MODEL WITNESS – what the pinned tree did (finding F-C05-2, fixed by f600a28f):
rpki-rs's `contains_roa_address` is blind to the address family.  A CA that held only IPv4
`10.0.0.0/8` passed the test for the IPv6 prefix `a00::/16` and the delta was accepted. -/
theorem pinned_held_family_confusion :
    ∃ (res : ResSet) (roa : Roa), roa.pfx.WF ∧ res.v6 = [] ∧ roa.pfx.fam = .v6 ∧
      res.holdsSpec roa = false ∧ res.holdsPinned roa = true ∧
      (∃ r' evs, processUpdates [] res.holdsPinned ⟨[⟨roa, none⟩], []⟩ = .ok (r', evs)) ∧
      (∃ E, processUpdates [] res.holdsCode ⟨[⟨roa, none⟩], []⟩ = .error E) := by
  refine ⟨{ v4 := [(10 * 2 ^ 120, 11 * 2 ^ 120 - 1)] }, ⟨64496, ⟨.v6, 0x0a00 * 2 ^ 112, 16⟩, some 16⟩,
    by decide, rfl, rfl, by decide, by decide, ?_, ?_⟩
  · exact ⟨[(⟨64496, ⟨.v6, 0x0a00 * 2 ^ 112, 16⟩, some 16⟩, none)],
      [.added ⟨64496, ⟨.v6, 0x0a00 * 2 ^ 112, 16⟩, some 16⟩], rfl⟩
  · exact ⟨{ notheld := [⟨⟨64496, ⟨.v6, 0x0a00 * 2 ^ 112, 16⟩, some 16⟩, none⟩] }, rfl⟩

/-- **An ASPA update is refused exactly when** it removes a definition that does not exist
(or that an earlier removal of the same update took), or contains a definition with an empty
provider list, with the customer among the providers, with a duplicated provider, or for a
customer AS that is not held. -/
theorem aspa_update_iff (s : AspaDefs) (holdsAsn : Nat → Bool) (u : AspaUpdates) :
    (∃ e, aspaProcessUpdates s holdsAsn u = .error e) ↔
      (∃ pre c post, u.remove = pre ++ c :: post ∧ (s.has c = false ∨ c ∈ pre)) ∨
      (∃ d ∈ u.addOrReplace, d.providers = [] ∨ d.customer ∈ d.providers ∨
        hasDup d.providers = true ∨ holdsAsn d.customer = false) :=
  then_error_iff (fun e h => by rw [aspaProcessUpdates, h]) (fun acc h => by rw [aspaProcessUpdates, h])
    (aspaRemoves.error_iff_bad s u.remove) (foldlE_error_iff_mem (aspaAddStep_error_iff holdsAsn) u.addOrReplace)

/-- **A provider update of an existing definition is refused exactly when** it would leave a
changed, non-empty definition for a customer AS that is not held or that would list the
customer as its own provider. -/
theorem aspa_existing_iff (s : AspaDefs) (holdsAsn : Nat → Bool) (c : Nat) (u : ProvUpdate) :
    (∃ e, updatedAllowedAndNeeded s holdsAsn c u = .error e) ↔
      (let existing : AspaDef := (s.get? c).getD ⟨c, []⟩
       let updated := existing.applyUpdate u
       updated ≠ existing ∧ updated.providers ≠ [] ∧
        (holdsAsn c = false ∨ updated.customer ∈ updated.providers)) := by
  unfold updatedAllowedAndNeeded AspaDef.customerUsedAsProvider
  simp only
  generalize (s.get? c).getD ⟨c, []⟩ = existing
  generalize existing.applyUpdate u = updated
  by_cases h1 : updated = existing
  · simp [h1]
  · cases hp : updated.providers with
    | nil => simp [h1]
    | cons x xs =>
      cases h3 : holdsAsn c
      · simp [h1]
      · by_cases h4 : updated.customer ∈ x :: xs <;> simp [h1, h4]

/-- **An accepted ASPA update is applied entirely** (after fix abeec4b3): for every customer
the definition the events leave behind has the providers of the definition the ASPA objects
are issued from (`apply_update` sorts them, hence "up to order") – also when a customer is
removed and listed again, or listed twice, in one update. -/
theorem aspa_update_applied (s : AspaDefs) (holdsAsn : Nat → Bool) (u : AspaUpdates)
    (all : AspaDefs) (evs : List AspaEv)
    (h : aspaProcessUpdates s holdsAsn u = .ok (all, evs)) :
    ∀ c, SameProviders ((applyAspaEvs s evs).get? c) (all.get? c) :=
  (aspaProcessUpdates_ok h).1

/-- COUNTER-MODEL WITNESS – what the pinned tree did (finding F-C05-3, fixed by abeec4b3):
`process_updates` computed the event of an `add_or_replace` entry against the definitions
*before* the update.  With `64496 => 1,2` configured, the update
`{remove: [64496], add_or_replace: [64496 => 1,2]}` was accepted, the returned definitions
(from which the objects were issued) contained `64496 => 1,2`, the events left nothing;
and with `64496 => 1` configured, listing `64496 => 1,2` and then `64496 => 1` returned
`64496 => 1` while the events left `64496 => 1,2`.  The fixed code gets both right. -/
theorem pinned_aspa_update_not_applied :
    (∃ (s : AspaDefs) (holdsAsn : Nat → Bool) (u : AspaUpdates) (all : AspaDefs) (evs : List AspaEv),
      aspaProcessUpdatesPinned s holdsAsn u = .ok (all, evs) ∧
      all.has 64496 = true ∧ (applyAspaEvs s evs).has 64496 = false) ∧
    (∃ (s : AspaDefs) (holdsAsn : Nat → Bool) (u : AspaUpdates) (all : AspaDefs) (evs : List AspaEv),
      aspaProcessUpdatesPinned s holdsAsn u = .ok (all, evs) ∧ u.remove = [] ∧
      (all.get? 64496).map (·.providers) = some [1] ∧
      ((applyAspaEvs s evs).get? 64496).map (·.providers) = some [1, 2]) := by
  refine ⟨⟨[⟨64496, [1, 2]⟩], fun _ => true, ⟨[⟨64496, [1, 2]⟩], [64496]⟩, _, _, rfl, ?_, ?_⟩,
    ⟨[⟨64496, [1]⟩], fun _ => true, ⟨[⟨64496, [1, 2]⟩, ⟨64496, [1]⟩], []⟩, _, _, rfl, rfl, ?_, ?_⟩⟩ <;> decide

/-- One request: a customer that has a definition afterwards had one before or is listed by the
accepted request, whose entries are all good. -/
theorem aspa_request_adds_only_held (s : AspaDefs) (q : AspaReq) (c : Nat)
    (hc : (aspaCommand s q.holdsAsn q.upd).has c = true) :
    s.has c = true ∨ ∃ d, d ∈ q.upd.addOrReplace ∧ d.customer = c ∧
      (∃ r, aspaProcessUpdates s q.holdsAsn q.upd = .ok r) ∧
      q.holdsAsn c = true ∧ d.providers ≠ [] ∧ d.customer ∉ d.providers ∧ hasDup d.providers = false := by
  unfold aspaCommand at hc
  cases hp : aspaProcessUpdates s q.holdsAsn q.upd with
  | error e => rw [hp] at hc; exact Or.inl hc
  | ok r =>
    obtain ⟨all, evs⟩ := r
    rw [hp] at hc
    have hnobad := (not_congr (aspa_update_iff s q.holdsAsn q.upd)).mp fun ⟨e, he⟩ => by rw [hp] at he; cases he
    obtain ⟨hsame, hhas⟩ := aspaProcessUpdates_ok hp
    -- the applied definitions have the customers of the returned ones
    rw [AspaDefs.has_eq_isSome, sameProviders_isSome (hsame c), ← AspaDefs.has_eq_isSome] at hc
    refine (hhas c hc).imp_right fun ⟨d, hd, hdc⟩ => ?_
    have hgood : ¬ (d.providers = [] ∨ d.customer ∈ d.providers ∨
        hasDup d.providers = true ∨ q.holdsAsn d.customer = false) :=
      fun hb => hnobad (Or.inr ⟨d, hd, hb⟩)
    simp only [not_or, Bool.not_eq_true, Bool.not_eq_false] at hgood
    exact ⟨d, hd, hdc, ⟨_, rfl⟩, hdc ▸ hgood.2.2.2, hgood.1, hgood.2.1, hgood.2.2.1⟩

/-- **ASPA histories**: a customer that has a definition after a history of update requests
had one at the start or was listed by an accepted request while its AS was held, with a
non-empty, duplicate-free provider list that does not name the customer. -/
theorem aspa_history_customers_held (s0 : AspaDefs) (h : List AspaReq) (c : Nat)
    (hc : (runAspa s0 h).has c = true) :
    s0.has c = true ∨
      ∃ pre q post d, h = pre ++ q :: post ∧ d ∈ q.upd.addOrReplace ∧ d.customer = c ∧
        (∃ r, aspaProcessUpdates (runAspa s0 pre) q.holdsAsn q.upd = .ok r) ∧
        q.holdsAsn c = true ∧ d.providers ≠ [] ∧ d.customer ∉ d.providers ∧ hasDup d.providers = false :=
  (Fold.foldl_origin _ (fun s => s.has c = true) _ (fun s q => aspa_request_adds_only_held s q c) h s0 hc).imp_right
    fun ⟨pre, q, post, hs, d, hd⟩ => ⟨pre, q, post, d, hs, hd⟩

/-- **A router-key update is refused exactly when** it removes a definition that does not
exist (or that an earlier removal of the same update took), or adds one whose CSR is not
validly self-signed or whose AS is not held. -/
theorem bgpsec_update_iff (s : BgpsecDefs) (holdsAsn : Nat → Bool) (now : Nat) (u : BgpsecUpdates) :
    (∃ e, bgpsecProcessUpdates s holdsAsn now u = .error e) ↔
      (∃ pre k post, u.remove = pre ++ k :: post ∧ (s.has k = false ∨ k ∈ pre)) ∨
      (∃ d ∈ u.add, d.valid = false ∨ holdsAsn d.asn = false) :=
  -- after the additions only the clock is projected away
  then_error_iff
    (g := fun acc => (foldlE' (bgpsecAddStep holdsAsn) (acc.1, acc.2, now) u.add).map fun r => (r.1, r.2.1))
    (fun e h => by rw [bgpsecProcessUpdates, h])
    (fun acc h => by
      rw [bgpsecProcessUpdates, h]; dsimp only
      cases foldlE' (bgpsecAddStep holdsAsn) (acc.1, acc.2, now) u.add <;> rfl)
    (foldlE'_eq_foldlE _ _ _ ▸ bgpsecRemoves.error_iff_bad s u.remove) fun acc => by
      rw [← foldlE_error_iff_mem (bgpsecAddStep_error_iff holdsAsn) u.add (acc.1, acc.2, now), ← foldlE'_eq_foldlE]
      cases foldlE' (bgpsecAddStep holdsAsn) (acc.1, acc.2, now) u.add <;> simp [Except.map]

/-- The events of an accepted router-key update produce exactly the definitions the
certificates are issued from. -/
theorem bgpsec_update_applied (s : BgpsecDefs) (holdsAsn : Nat → Bool) (now : Nat) (u : BgpsecUpdates)
    (all : BgpsecDefs) (evs : List BgpsecEv)
    (h : bgpsecProcessUpdates s holdsAsn now u = .ok (all, evs)) :
    applyBgpsecEvs s evs = all ∧
      ∀ k, all.has k = true → s.has k = true ∨ ∃ d ∈ u.add, (⟨d.asn, d.key⟩ : BgpsecKey) = k := by
  revert h
  fun_cases bgpsecProcessUpdates s holdsAsn now u <;> intro h <;> cases h
  next acc hf r hg =>
  have hrem := bgpsecRemoves.inv_of_ok s _ acc (foldlE'_eq_foldlE _ _ _ ▸ hf)
  obtain ⟨a1, a2⟩ := bgpsecAddFold_ok s holdsAsn u.add (acc.1, acc.2, now) r hrem.applied hg
  exact ⟨a1, fun k hk => (a2 k hk).imp_left hrem.any_of_any⟩

/-- One request: a key that is defined afterwards was defined before or is listed by the accepted
request, whose entries are all good. -/
theorem bgpsec_request_adds_only_held (s : BgpsecDefs) (q : BgpsecReq) (k : BgpsecKey)
    (hk : (bgpsecCommand s q.holdsAsn q.now q.upd).has k = true) :
    s.has k = true ∨ ∃ d, d ∈ q.upd.add ∧ (⟨d.asn, d.key⟩ : BgpsecKey) = k ∧
      d.valid = true ∧ q.holdsAsn d.asn = true := by
  unfold bgpsecCommand at hk
  cases hp : bgpsecProcessUpdates s q.holdsAsn q.now q.upd with
  | error e => rw [hp] at hk; exact Or.inl hk
  | ok r =>
    obtain ⟨all, evs⟩ := r
    rw [hp] at hk
    obtain ⟨happ, hkeys⟩ := bgpsec_update_applied s q.holdsAsn q.now q.upd all evs hp
    refine (hkeys k (happ ▸ hk)).imp_right fun ⟨d, hd, hdk⟩ => ?_
    have hnobad := (not_congr (bgpsec_update_iff s q.holdsAsn q.now q.upd)).mp fun ⟨e, he⟩ => by
      rw [hp] at he; cases he
    have hgood : ¬ (d.valid = false ∨ q.holdsAsn d.asn = false) :=
      fun hb => hnobad (Or.inr ⟨d, hd, hb⟩)
    simp only [not_or, Bool.not_eq_false] at hgood
    exact ⟨d, hd, hdk, hgood.1, hgood.2⟩

/-- **Router-key histories**: a definition that exists after a history of update requests
existed at the start or was added by an accepted request with a validly signed CSR while
its AS was held. -/
theorem bgpsec_history_keys_held (s0 : BgpsecDefs) (h : List BgpsecReq) (k : BgpsecKey)
    (hk : (runBgpsec s0 h).has k = true) :
    s0.has k = true ∨
      ∃ pre q post d, h = pre ++ q :: post ∧ d ∈ q.upd.add ∧ (⟨d.asn, d.key⟩ : BgpsecKey) = k ∧
        d.valid = true ∧ q.holdsAsn d.asn = true :=
  (Fold.foldl_origin _ (fun s => s.has k = true) _ (fun s q => bgpsec_request_adds_only_held s q k) h s0 hk).imp_right
    fun ⟨pre, q, post, hs, d, hd⟩ => ⟨pre, q, post, d, hs, hd⟩

/-- **Adding a child is refused exactly when** it would be entitled to nothing, to
resources the CA does not hold, or the name is taken. -/
theorem child_add_iff (all : ResSet) (s : Children) (h : String) (id : Nat) (res : ResSet) :
    (∃ e, processChildAdd all s h id res = .error e) ↔
      (res.isEmpty = true ∨ all.contains res = false ∨ s.has h = true) := by
  rw [processChildAdd, guard_error_iff, guard_error_iff, ite_error_iff, Bool.not_eq_true']

/-- **Changing a child's resources is refused exactly when** the new resources are not held
by the CA or the child does not exist. -/
theorem child_update_iff (all : ResSet) (s : Children) (h : String) (res : ResSet) :
    (∃ e, processChildUpdateResources all s h res = .error e) ↔
      (all.contains res = false ∨ s.has h = false) := by
  rw [processChildUpdateResources, guard_error_iff, Bool.not_eq_true', ← children_get_none]
  refine or_congr_right ?_
  cases s.get? h with
  | none => exact ⟨fun _ => rfl, fun _ => ⟨_, rfl⟩⟩
  | some c =>
    -- resources changed or the same: no error either way
    refine ⟨fun ⟨e, he⟩ => ?_, fun hn => (nomatch hn)⟩
    dsimp only at he
    split at he <;> cases he

/-- Shrinking a child to nothing is a legitimate update (C02 quantifies over histories that
do so); the clause "child entitled to nothing" of the property is about *adding* a child
(`child_add_iff`).  `process_child_update_resources` accepts the empty set. -/
theorem child_update_accepts_empty :
    ∃ (all : ResSet) (s : Children) (evs : List ChildEv),
      processChildUpdateResources all s "a" {} = .ok evs ∧
      ((applyChildEvs s evs).get? "a").map (·.resources.isEmpty) = some true := by
  refine ⟨{ v4 := [(0, 100)] }, [("a", ⟨0, { v4 := [(0, 10)] }⟩)], _, rfl, by decide⟩

/-- **One API request, several commands** (`CaManager::ca_child_update`): a request that
carries a new ID certificate *and* new resources is executed as two commands; when the
second is refused the first stays applied.  The full statement "a refused child update
request leaves the configuration untouched" fails at the level of the request; it holds per
command (`refused_leaves_untouched`).  (Finding F-C05-1; replayed on the real `CaManager` by
the `system` stream, oracle `refused_leaves_untouched` of the `sysreq` driver.) -/
theorem child_request_not_atomic :
    ∃ (all : ResSet) (s : Children) (req : ChildUpdateReq) (e : ChildErr),
      (caChildUpdate all s "a" req).2 = some e ∧ (caChildUpdate all s "a" req).1 ≠ s := by
  refine ⟨{ v4 := [(0, 100)] }, [("a", ⟨0, { v4 := [(0, 10)] }⟩)],
    ⟨some 1, some { v4 := [(0, 200)] }⟩, .extraResources, by decide, by decide⟩

/-- Every configuration command of this file: when the validation refuses, the command has
no event and the configuration is what it was; the update of one existing ASPA definition
(third part) is modelled by its events, and returns the error of the validation instead of any.
(That a refused command writes nothing but its audit record is C07's `rejected_only_audit`.) -/
theorem refused_leaves_untouched :
    (∀ (r : Routes) (held : Roa → Bool) (u : RoaUpdates) (E : DeltaError),
      processRouteUpdate r held u = .error E → routeCommand r held u = r) ∧
    (∀ (s : AspaDefs) (holdsAsn : Nat → Bool) (u : AspaUpdates) (e : AspaErr),
      aspaProcessUpdates s holdsAsn u = .error e → aspaCommand s holdsAsn u = s) ∧
    (∀ (s : AspaDefs) (holdsAsn : Nat → Bool) (c : Nat) (u : ProvUpdate) (e : AspaErr),
      updatedAllowedAndNeeded s holdsAsn c u = .error e →
        aspaUpdateExisting s holdsAsn c u = .error e) ∧
    (∀ (s : BgpsecDefs) (holdsAsn : Nat → Bool) (now : Nat) (u : BgpsecUpdates) (e : BgpsecErr),
      bgpsecProcessUpdates s holdsAsn now u = .error e → bgpsecCommand s holdsAsn now u = s) := by
  refine ⟨?_, ?_, ?_, ?_⟩
  · intro r held u E h; unfold routeCommand; rw [h]
  · intro s ha u e h; unfold aspaCommand; rw [h]
  · intro s ha c u e h; unfold aspaUpdateExisting; rw [h]
  · intro s ha now u e h; unfold bgpsecCommand; rw [h]

/-- A delta with one entry of every bad class and a good one: refused, all four lists
non-empty. -/
example :
    let p1 : Roa := ⟨64496, ⟨.v4, 167772160, 8⟩, some 8⟩
    let p2 : Roa := ⟨64496, ⟨.v4, 184549376, 8⟩, some 8⟩
    let p3 : Roa := ⟨64496, ⟨.v4, 167772160, 16⟩, some 40⟩
    let p4 : Roa := ⟨64496, ⟨.v4, 167837696, 16⟩, some 16⟩
    let held : Roa → Bool := fun r => r.pfx.addr / 2 ^ 24 == 10
    ∃ E, processUpdates [(p1, some "c")] held ⟨[⟨p1, some "c"⟩, ⟨p2, none⟩, ⟨p3, none⟩, ⟨p4, none⟩], [p4]⟩ = .error E ∧
      E.duplicates ≠ [] ∧ E.notheld ≠ [] ∧ E.invalidLength ≠ [] ∧ E.unknowns ≠ [] := by
  refine ⟨_, rfl, ?_, ?_, ?_, ?_⟩ <;> decide

/-- An accepted delta with a removal, a fresh addition with comment and a comment change. -/
example :
    let p1 : Roa := ⟨64496, ⟨.v4, 167772160, 8⟩, some 8⟩
    let p4 : Roa := ⟨64496, ⟨.v4, 167837696, 16⟩, some 16⟩
    let p5 : Roa := ⟨64497, ⟨.v4, 167837696, 16⟩, some 16⟩
    ∃ r' evs, processUpdates [(p1, some "c"), (p4, none)] (fun _ => true)
        ⟨[⟨p1, some "d"⟩, ⟨p5, some "x"⟩], [p4]⟩ = .ok (r', evs) ∧ evs.length = 4 := by
  exact ⟨_, _, rfl, by decide⟩

/-- `aspa_update_applied` covers an update that removes one customer and lists it again,
lists another twice and adds a third. -/
example :
    let s : AspaDefs := [⟨64496, [1, 2]⟩, ⟨64497, [3]⟩]
    let u : AspaUpdates := ⟨[⟨64496, [2]⟩, ⟨64497, [4, 3]⟩, ⟨64497, [4]⟩, ⟨64498, [5]⟩], [64496]⟩
    ∃ all evs, aspaProcessUpdates s (fun _ => true) u = .ok (all, evs) ∧ evs.length = 5 := by
  refine ⟨_, _, rfl, by decide⟩

/-- A history in which the entitlement shrinks between two requests: the authorisation
accepted while `10.0.0.0/8` was held stays configured, a later request for the same prefix
is refused, and the view is the fold of the accepted delta alone. -/
example :
    let p : Roa := ⟨64496, ⟨.v4, 167772160, 8⟩, some 8⟩
    let p2 : Roa := ⟨64497, ⟨.v4, 167772160, 8⟩, some 8⟩
    let h : List RouteReq := [⟨fun _ => true, ⟨[⟨p, none⟩], []⟩⟩, ⟨fun _ => false, ⟨[⟨p2, none⟩], []⟩⟩]
    (runRoutes [] h).has p = true ∧ (runRoutes [] h).has p2 = false ∧
      Spec.accepted [] h[0] = true ∧ Spec.accepted (runRoutes [] [h[0]]) h[1] = false := by
  decide

end KM.Props.C05
