/-
C04 (source tie, function body) — `KeyState::knows_key` (`/repo/src/server/ca/keys.rs`), as the
translator `pure_fns` regenerates it on every run, equals the model's `KeyState.knows`
(Ca/Keys.lean): a key is "one of ours" in EVERY stage of a roll – pending, current, NEW and old.

`append_entitlement_events` asks `knows_key` for every certificate the parent lists; a listed key the
CA does not know becomes `UnexpectedKeyFound` and a revocation request.  The round-4 seeded change for
C04 re-wrote the function over accessors and forgot the new key: a parent synchronisation during
`RollNew` then made the CA ask its parent to revoke its own staged key, and the roll ended on a key
the parent certifies nothing for ("no operation interleaved with the roll can leave a key without
certificate in use").  With `gen_knows_key_eq_model` the set of keys per variant is tied to the Rust
`match`: a forgotten key, a wrong variant, `&&` for `||` – each changes the generated definition and
this file stops checking.  (`Generated/ApplyDomain.lean` ties the panic arms of the `apply_*`
functions; `knows_key` and, in the second part, `KeyState::append_keyroll_activate` - the precondition of the
activation - are the decision functions of the key life cycle that the roll's safety rests on.)
-/
import KrillModel.Generated.PureFnsC04
import KrillModel.Ca.Keys
namespace KM.Props.C04Src
open KM.CaK

/-- Variant of the model's state ↦ variant of the Rust enum. -/
def variantOf : KeyState → KM.Gen.C04.KeyState
  | .pending _ => .Pending
  | .active _ => .Active
  | .rollPending .. => .RollPending
  | .rollNew .. => .RollNew
  | .rollOld .. => .RollOld

/-- The identifiers the payload of the variant holds (`d` where the variant has no such key – the
generated body never consults it there: `gen_knows_key_ignores_absent`). -/
def pendingKey (d : KeyId) : KeyState → KeyId
  | .pending p => p.id | .rollPending p _ => p.id | _ => d
def currentKey (d : KeyId) : KeyState → KeyId
  | .active c => c.id | .rollPending _ c => c.id | .rollNew _ c => c.id | .rollOld c _ => c.id | _ => d
def newKey (d : KeyId) : KeyState → KeyId
  | .rollNew n _ => n.id | _ => d
def oldKey (d : KeyId) : KeyState → KeyId
  | .rollOld _ o => o.id | _ => d

/-- `KeyState::knows_key` as translated from the source = the model, for every state and key. -/
theorem gen_knows_key_eq_model (ks : KeyState) (ki d : KeyId) :
    KM.Gen.C04.KeyState.knows_key (variantOf ks) (pendingKey d ks) (currentKey d ks) (newKey d ks) (oldKey d ks) ki
      = ks.knows ki := by
  cases ks <;>
    simp [KM.Gen.C04.KeyState.knows_key, variantOf, pendingKey, currentKey, newKey, oldKey, KeyState.knows,
      KeyState.keyIds, eq_comm]

/-- The placeholder is irrelevant: keys the variant does not have are not consulted. -/
theorem gen_knows_key_ignores_absent (ks : KeyState) (ki d d' : KeyId) :
    KM.Gen.C04.KeyState.knows_key (variantOf ks) (pendingKey d ks) (currentKey d ks) (newKey d ks) (oldKey d ks) ki
      = KM.Gen.C04.KeyState.knows_key (variantOf ks) (pendingKey d' ks) (currentKey d' ks) (newKey d' ks)
          (oldKey d' ks) ki := by
  rw [gen_knows_key_eq_model, gen_knows_key_eq_model]

/-- Non-vacuity, and what the seeded change broke: the NEW key of a roll is known. -/
example (n c : CertKey) : KM.Gen.C04.KeyState.knows_key (variantOf (.rollNew n c)) (pendingKey 0 (.rollNew n c))
    (currentKey 0 (.rollNew n c)) (newKey 0 (.rollNew n c)) (oldKey 0 (.rollNew n c)) n.id = true := by
  simp [KM.Gen.C04.KeyState.knows_key, variantOf, newKey]

/-! ### `KeyState::append_keyroll_activate`

`roll_completes_partial`, `single_signer` and the activation lemmas (Props/C04.lean) run on `KeyState.keyrollActivate`:
the activation is REFUSED while the new or the current key has an open certificate request (the round-5 seeded change
dropped that precondition: under the trust anchor the old key kept its open request, the issuance replaced the queued
revocation at the proxy and the class stayed in the old-key phase for ever), otherwise exactly one `KeyRollActivated`
with the revocation request for the CURRENT key. -/

/-- What the model's verdict looks like as the result of the Rust function (the event list it appended to). -/
def activateAs {ε Ev : Type} (errPending : ε) (act : Ev) (events : List Ev) : Except KeyErr (List KeyEv) → Except ε (List Ev)
  | .ok [] => .ok events
  | .ok _ => .ok (events ++ [act])
  | .error _ => .error errPending

/-- `KeyState::append_keyroll_activate` as translated from the source = the model, in the stage it is called in
(`ResourceClass::append_keyroll_activate` calls it for a class that has a new key; elsewhere it is `KeyUseNoNewKey`). -/
theorem gen_append_keyroll_activate_eq_model {Q ε Ev : Type} (n c : CertKey) (mkReq : KeyId → Q) (act : Q → Ev)
    (errPending errNoNew : ε) (events : List Ev) :
    KM.Gen.C04.KeyState.append_keyroll_activate (variantOf (.rollNew n c)) n.req c.req c.id (fun k => .ok (mkReq k)) act
      errPending errNoNew events
      = activateAs errPending (act (mkReq c.id)) events (KeyState.rollNew n c).keyrollActivate := by
  simp only [KM.Gen.C04.KeyState.append_keyroll_activate, variantOf, KeyState.keyrollActivate]
  cases n.req <;> cases c.req <;> rfl

/-- In every other stage the function refuses (`KeyUseNoNewKey`). -/
theorem gen_append_keyroll_activate_other {K Q ε Ev : Type} (ks : KeyState) (h : ∀ n c, ks ≠ .rollNew n c) (a b : Bool) (k : K)
    (rk : K → Except ε Q) (act : Q → Ev) (e1 e2 : ε) (events : List Ev) :
    KM.Gen.C04.KeyState.append_keyroll_activate (variantOf ks) a b k rk act e1 e2 events = .error e2 := by
  cases ks <;> first | rfl | exact absurd rfl (h _ _)

end KM.Props.C04Src
