/-
C09 (source tie) — the hand-written model of the decision of `Queue::schedule_task`
(`KM.Queue.scheduleWith`, Queue/Queue.lean) equals the definition that the translator `pure_fns`
regenerates from the closure body in `/repo/src/commons/queue.rs` on every run
(`Generated/PureFnsC09.lean`, `KM.Gen.C09.Queue.schedule_task`).  Two further ties, each under a heading of its own below:
the fold step of `Queue::claim_scheduled_pending_task` chooses a member of the model's `claimChoices`, and the entry
points of `TaskQueue` (`schedule`, `schedule_and_finish_existing`, `schedule_missing`, `reschedule`) are the model's.

`soonest_keeps_earlier`, `if_missing_keeps_existing` and the other scheduling theorems
(Props/C09.lean) are about `schedule`, i.e. `scheduleWith` for every resolution of the two look-ups.
With `gen_schedule_task_eq_model` the per-mode decision is tied to the Rust `match mode`: which
entries are deleted in which mode, where the earlier of the two time stamps is taken, when nothing
is stored – each such edit changes the generated definition and this file stops checking.

Differences that do not matter, bridged here: the generated definition is over an abstract
transaction with the three store calls as parameters; the statement instantiates it with the
model's `QState` and `kvDel` / `kvPut` on the scope the call names, keys = the entry found, and
feeds the look-up results `(key, time stamp of that key)`.  `toGen` renames the model's modes to the
Rust variants.  What the look-ups return (any entry with that name) stays in the model
(`optChoices`) and is tied to the code by the `queue` stream only.
-/
import KrillModel.Generated.PureFnsC09
import KrillModel.Queue.Lemmas
namespace KM.Props.C09Src
open KM.Queue

/-- Model mode ↦ Rust variant. -/
def toGen : Mode → KM.Gen.C09.ScheduleMode
  | .replaceExisting => .ReplaceExisting
  | .replaceExistingSoonest => .ReplaceExistingSoonest
  | .finishOrReplaceExisting => .FinishOrReplaceExisting
  | .finishOrReplaceExistingSoonest => .FinishOrReplaceExistingSoonest
  | .ifMissing => .IfMissing

/-- `toGen` is a bijection. -/
theorem toGen_bijective :
    (∀ a b, toGen a = toGen b → a = b) ∧ (∀ g, ∃ m, toGen m = g) := by
  let back : KM.Gen.C09.ScheduleMode → Mode
    | .ReplaceExisting => .replaceExisting
    | .ReplaceExistingSoonest => .replaceExistingSoonest
    | .FinishOrReplaceExisting => .finishOrReplaceExisting
    | .FinishOrReplaceExistingSoonest => .finishOrReplaceExistingSoonest
    | .IfMissing => .ifMissing
  have hl : ∀ m, back (toGen m) = m := fun m => by cases m <;> rfl
  have hr : ∀ g, toGen (back g) = g := fun g => by cases g <;> rfl
  exact ⟨fun a b h => (hl a).symm.trans ((congrArg back h).trans (hl b)), fun g => ⟨back g, hr g⟩⟩

/-- What `get_storage_key_and_time` hands back for a found entry: its key and its time stamp. -/
def found (o : Option Entry) : Option (Entry × Nat) := o.map fun e => (e, e.ts)

/-- The definition generated from the closure of `schedule_task` is the model's `scheduleWith` –
for every queue state, task, time stamp (given or taken from the clock), mode and every result of
the two look-ups. -/
theorem gen_schedule_task_eq_model (s : QState) (name val : String) (tsOpt : Option Nat) (now : Nat)
    (mode : Mode) (p r : Option Entry) :
    KM.Gen.C09.Queue.schedule_task (σ := QState) (κ := Entry)
        (fun st e => { st with pending := kvDel st.pending e.ts e.name })
        (fun st e => { st with running := kvDel st.running e.ts e.name })
        (fun st t => { st with pending := kvPut st.pending ⟨t, name, val⟩ })
        now s tsOpt (toGen mode) (found p) (found r) =
      scheduleWith s name val (tsOpt.getD now) mode p r := by
  -- once the mode and the results of the two look-ups are given, both sides compute to the same record
  cases mode <;> cases p <;> cases r <;> rfl

/-- Non-vacuity: the generated definition on a concrete queue – `IfMissing` keeps an existing task,
`ReplaceExistingSoonest` keeps the earlier time, `FinishOrReplaceExisting` removes the running entry. -/
example :
    let e : Entry := ⟨5, "t", "old"⟩
    let s : QState := ⟨[e], [⟨3, "t", "run"⟩]⟩
    let g (m : Mode) (p r : Option Entry) :=
      KM.Gen.C09.Queue.schedule_task (σ := QState) (κ := Entry)
        (fun st e => { st with pending := kvDel st.pending e.ts e.name })
        (fun st e => { st with running := kvDel st.running e.ts e.name })
        (fun st t => { st with pending := kvPut st.pending ⟨t, "t", "new"⟩ })
        0 s (some 9) (toGen m) (found p) (found r)
    g .ifMissing (some e) none = s ∧
    g .replaceExistingSoonest (some e) none = ⟨[⟨5, "t", "new"⟩], [⟨3, "t", "run"⟩]⟩ ∧
    g .replaceExisting (some e) none = ⟨[⟨9, "t", "new"⟩], [⟨3, "t", "run"⟩]⟩ ∧
    g .finishOrReplaceExisting (some e) (some ⟨3, "t", "run"⟩) = ⟨[⟨9, "t", "new"⟩], []⟩ := by
  decide +kernel

/-! ## The choice of the task to claim (`Queue::claim_scheduled_pending_task`)

The closure handed to `fold(None, …)` over the keys of the pending scope is regenerated as
`KM.Gen.C09.Queue.claim_fold_step` (the code around it – the clock reading, the fold starting from `None`,
the move to the running scope – is compared verbatim by the translator).  Folding it over the pending
entries IN ANY ORDER yields a member of the model's `claimChoices` (due, minimal time stamp) and `none`
exactly when nothing is due: `claim_earliest_first` and `claim_none_iff_nothing_due` (Props/C09.lean) are
about `claimChoices`; with the theorems below the comparison operators of the Rust closure (`ts > now`,
`acc_ts < ts`) are tied to them – `>=` instead of `>` (a task due exactly now is not claimed), `>` instead
of `<` (the LATEST due task is claimed) change the generated definition and this file stops checking. -/

/-- Every pending key is well formed: `split_storage_key` gives its time stamp (the name is not looked at
by the fold). -/
def splitEntry (e : Entry) : Option (Nat × Entry) := some (e.ts, e)

/-- The generated fold step, instantiated. -/
abbrev genStep (now : Nat) : Option (Nat × Entry) → Entry → Option (Nat × Entry) :=
  KM.Gen.C09.Queue.claim_fold_step splitEntry now

/-- Invariant of the fold: the accumulator is the choice among the entries seen so far. -/
def FoldInv (now : Nat) (seen : List Entry) : Option (Nat × Entry) → Prop
  | none => ∀ x ∈ seen, ¬ x.ts ≤ now
  | some (t, e) => e ∈ seen ∧ t = e.ts ∧ e.ts ≤ now ∧ ∀ x ∈ seen, x.ts ≤ now → e.ts ≤ x.ts

/-- The generated step on well-formed keys: a key that is not yet due, or later than the choice so far, is
passed over. -/
theorem genStep_none (now : Nat) (k : Entry) :
    genStep now none k = if k.ts > now then none else some (k.ts, k) := rfl

theorem genStep_some (now t : Nat) (e k : Entry) :
    genStep now (some (t, e)) k =
      if k.ts > now then some (t, e) else if t < k.ts then some (t, e) else some (k.ts, k) := rfl

theorem fold_step_inv (now : Nat) (seen : List Entry) (acc : Option (Nat × Entry)) (k : Entry)
    (h : FoldInv now seen acc) : FoldInv now (seen ++ [k]) (genStep now acc k) := by
  have hk : k ∈ seen ++ [k] := List.mem_append_right _ (List.mem_singleton_self k)
  have snoc {P : Entry → Prop} (hs : ∀ x ∈ seen, P x) (hk : P k) : ∀ x ∈ seen ++ [k], P x :=
    List.forall_mem_append.mpr ⟨hs, List.forall_mem_singleton.mpr hk⟩
  rcases acc with _ | ⟨t, e⟩
  · rw [genStep_none]
    by_cases hgt : k.ts > now
    · rw [if_pos hgt]
      exact snoc h (Nat.not_le_of_gt hgt)
    · rw [if_neg hgt]
      exact ⟨hk, rfl, Nat.le_of_not_gt hgt, snoc (fun x hx hd => absurd hd (h x hx)) fun _ => Nat.le_refl _⟩
  · obtain ⟨h1, rfl, h3, h4⟩ := h
    have he := List.mem_append_left [k] h1
    rw [genStep_some]
    by_cases hgt : k.ts > now
    · rw [if_pos hgt]
      exact ⟨he, rfl, h3, snoc h4 fun hd => absurd hd (Nat.not_le_of_gt hgt)⟩
    · rw [if_neg hgt]
      by_cases hlt : e.ts < k.ts
      · rw [if_pos hlt]
        exact ⟨he, rfl, h3, snoc h4 fun _ => Nat.le_of_lt hlt⟩
      · rw [if_neg hlt]
        exact ⟨hk, rfl, Nat.le_of_not_gt hgt,
          snoc (fun x hx hd => Nat.le_trans (Nat.le_of_not_gt hlt) (h4 x hx hd)) fun _ => Nat.le_refl _⟩

theorem fold_inv (now : Nat) (l : List Entry) :
    ∀ (seen : List Entry) (acc : Option (Nat × Entry)), FoldInv now seen acc →
      FoldInv now (seen ++ l) (l.foldl (genStep now) acc) := by
  induction l with
  | nil => intro seen acc h; simpa using h
  | cons k tl ih =>
      intro seen acc h
      have := ih (seen ++ [k]) (genStep now acc k) (fold_step_inv now seen acc k h)
      simpa [List.append_assoc] using this

/-- Folding the generated step over the pending entries in ANY
order `l` (a permutation of the pending scope: `list_keys` order is unspecified) from `None`: the result
is `none` exactly when nothing is due, otherwise an entry of the model's `claimChoices`. -/
theorem gen_claim_fold_chooses_earliest_due (s : QState) (now : Nat) (l : List Entry)
    (hl : ∀ e, e ∈ l ↔ e ∈ s.pending) :
    match l.foldl (genStep now) none with
    | none => claimChoices s now = []
    | some (t, e) => e ∈ claimChoices s now ∧ t = e.ts := by
  have h := fold_inv now l [] none fun _ hx => absurd hx List.not_mem_nil
  rw [List.nil_append] at h
  generalize l.foldl (genStep now) none = res at h
  rcases res with _ | ⟨t, e⟩
  · exact claimChoices_eq_nil_iff.mpr fun x hx => Nat.lt_of_not_le (h x ((hl x).mpr hx))
  · obtain ⟨h1, h2, h3, h4⟩ := h
    exact ⟨mem_claimChoices.mpr ⟨⟨(hl e).mp h1, h3⟩, fun x hx => h4 x ((hl x).mpr hx)⟩, h2⟩

/-- The two edits named above are NOT what the generated step does: a task due exactly now is claimed
(`>` not `>=`), of two due tasks the earlier one wins whatever the order (`<` not `>`), and of two equal
minimal ones the LATER in key order (the model leaves that choice open). -/
example :
    (([⟨5, "a", ""⟩] : List Entry).foldl (genStep 5) none).map (·.2.name) = some "a" ∧
    (([⟨3, "a", ""⟩, ⟨2, "b", ""⟩] : List Entry).foldl (genStep 5) none).map (·.2.name) = some "b" ∧
    (([⟨2, "b", ""⟩, ⟨3, "a", ""⟩] : List Entry).foldl (genStep 5) none).map (·.2.name) = some "b" ∧
    (([⟨2, "b", ""⟩, ⟨2, "c", ""⟩] : List Entry).foldl (genStep 5) none).map (·.2.name) = some "c" ∧
    (([⟨7, "a", ""⟩] : List Entry).foldl (genStep 5) none) = none := by decide +kernel

/-! ## The entry points of `TaskQueue` (`src/server/mq.rs`)

`TaskQueue::schedule`, `schedule_and_finish_existing`, `schedule_missing` (which `ScheduleMode` each hands
on), the private `TaskQueue::schedule_task` (name and JSON of the task, `Some(priority.to_millis())` as the
time stamp, the mode unchanged) and `TaskQueue::reschedule` are regenerated too.  Composed with the
generated closure of `Queue::schedule_task` they are the model's `tqSchedule` / `tqScheduleFinish` /
`tqScheduleMissing` for every resolution of the two look-ups: the follow-up theorems of Props/C09.lean
(`object_change_schedules_repo_sync` and the other table facts, `soonest_keeps_earlier`,
`if_missing_keeps_existing`, the start-up tasks scheduled with `schedule_missing`) speak about these.  The seeded
change C09 (round 1: `schedule_missing` where `schedule` is needed) was an edit of a CALLER; an edit of the entry point
itself (another mode, the clock instead of the priority) changes a generated definition here. -/

/-- The generated entry point over the generated private helper over the generated closure of the queue,
on a model queue state, for one resolution `(p, r)` of the two look-ups. -/
def genEntry (entry : (String × String → KM.Gen.C09.ScheduleMode → Nat → Except Unit QState) → String × String → Nat → Except Unit QState)
    (s : QState) (name val : String) (secs now : Nat) (p r : Option Entry) : Except Unit QState :=
  entry
    (fun task mode prio =>
      KM.Gen.C09.TaskQueue.schedule_task (fun t : String × String => t.1) (fun t => Except.ok t.2) prioMillis
        (fun nm js tsOpt mode =>
          Except.ok (KM.Gen.C09.Queue.schedule_task (σ := QState) (κ := Entry)
            (fun st e => { st with pending := kvDel st.pending e.ts e.name })
            (fun st e => { st with running := kvDel st.running e.ts e.name })
            (fun st t => { st with pending := kvPut st.pending ⟨t, nm, js⟩ })
            now s tsOpt mode (found p) (found r)))
        id task mode prio)
    (name, val) secs

theorem gen_tq_entry (mode : Mode) (s : QState) (name val : String) (secs now : Nat) (p r : Option Entry) :
    KM.Gen.C09.TaskQueue.schedule_task (fun t : String × String => t.1) (fun t => Except.ok t.2) prioMillis
        (fun nm js tsOpt mode =>
          Except.ok (ε := Unit) (KM.Gen.C09.Queue.schedule_task (σ := QState) (κ := Entry)
            (fun st e => { st with pending := kvDel st.pending e.ts e.name })
            (fun st e => { st with running := kvDel st.running e.ts e.name })
            (fun st t => { st with pending := kvPut st.pending ⟨t, nm, js⟩ })
            now s tsOpt mode (found p) (found r)))
        id (name, val) (toGen mode) secs =
      Except.ok (scheduleWith s name val (prioMillis secs) mode p r) := by
  unfold KM.Gen.C09.TaskQueue.schedule_task
  simp only [Except.mapError]
  rw [gen_schedule_task_eq_model]
  rfl

/-- `TaskQueue::schedule` = `ReplaceExistingSoonest` at the time of the priority. -/
theorem gen_tq_schedule_eq_model (s : QState) (name val : String) (secs now : Nat) (p r : Option Entry) :
    genEntry (fun st => KM.Gen.C09.TaskQueue.schedule st) s name val secs now p r =
      Except.ok (scheduleWith s name val (prioMillis secs) .replaceExistingSoonest p r) :=
  gen_tq_entry .replaceExistingSoonest s name val secs now p r

/-- `TaskQueue::schedule_and_finish_existing` = `FinishOrReplaceExistingSoonest`. -/
theorem gen_tq_schedule_finish_eq_model (s : QState) (name val : String) (secs now : Nat) (p r : Option Entry) :
    genEntry (fun st => KM.Gen.C09.TaskQueue.schedule_and_finish_existing st) s name val secs now p r =
      Except.ok (scheduleWith s name val (prioMillis secs) .finishOrReplaceExistingSoonest p r) :=
  gen_tq_entry .finishOrReplaceExistingSoonest s name val secs now p r

/-- `TaskQueue::schedule_missing` = `IfMissing`. -/
theorem gen_tq_schedule_missing_eq_model (s : QState) (name val : String) (secs now : Nat) (p r : Option Entry) :
    genEntry (fun st => KM.Gen.C09.TaskQueue.schedule_missing st) s name val secs now p r =
      Except.ok (scheduleWith s name val (prioMillis secs) .ifMissing p r) :=
  gen_tq_entry .ifMissing s name val secs now p r

/-- The model's three entry points are exactly these, over every resolution of the look-ups. -/
theorem tq_entries_are_scheduleWith (s : QState) (name val : String) (secs : Nat) :
    tqSchedule s name val secs =
      (optChoices s.pending name).flatMap (fun p => (optChoices s.running name).map fun r =>
        scheduleWith s name val (prioMillis secs) .replaceExistingSoonest p r) ∧
    tqScheduleFinish s name val secs =
      (optChoices s.pending name).flatMap (fun p => (optChoices s.running name).map fun r =>
        scheduleWith s name val (prioMillis secs) .finishOrReplaceExistingSoonest p r) ∧
    tqScheduleMissing s name val secs =
      (optChoices s.pending name).flatMap (fun p => (optChoices s.running name).map fun r =>
        scheduleWith s name val (prioMillis secs) .ifMissing p r) := ⟨rfl, rfl, rfl⟩

/-- `TaskQueue::reschedule`: the claimed task's own key, at the time of the priority. -/
theorem gen_tq_reschedule_eq_model (s : QState) (key : Entry) (secs : Nat) :
    KM.Gen.C09.TaskQueue.reschedule prioMillis
        (fun (k : Entry) (t : Option Nat) => t.map fun ts => reschedule s k.ts k.name ts) key secs =
      some (reschedule s key.ts key.name (prioMillis secs)) := rfl

end KM.Props.C09Src
