/-
C16 — source tie for krill's *own* code: the **panic-site census**.

`Generated/PanicSites.lean` is regenerated from `/repo/src` on every run (translator
`panic_sites`): for every function outside tests / CLI / upgrades the number of potential panic
sites per kind (index or slice, `unwrap`, `expect`, panic-family macro, integer division, shift,
process exit).  `Input/PanicReview.lean` is the hand-written review of every such row.

| clause of C16 | theorem |
|---|---|
| no … input makes request processing panic or exit the process (krill's own code, systematically) | `all_panic_sites_reviewed`: every (function, kind, count) row of the census has a review row with **the same count** – a new site in a reviewed function, or a new function with a site, breaks the proof; the check then searches for a failing input with the `strfn` ops of the `pure` stream |
| (open defects are visible) | `no_open_findings_unlisted`: a row classified `finding` names an id of `knownFindings` |
| CSR SIA authorities (`seems_global_uri`, RFC 6492 issue + child import) | `seems_global_uri_total`, `seems_global_uri_slice_in_range`; compared with the code by `strfn seems_global_uri*` |

What this does **not** say: that the reasons in the review table are right – they are the audit
(read by hand, site by site); arithmetic overflow sites are not in the census (debug-only,
`Input/Checked.lean` covers the ones on client values); third-party crates are outside it.
-/
import KrillModel.Generated.PanicSites
import KrillModel.Input.PanicReview
import KrillModel.Input.Checked
import KrillModel.Base.Table
namespace KM.Props.C16Src
open KM.Input KM.Input.PanicReview

abbrev Site := String × String × Nat
abbrev Row := String × String × Nat × Class × String

/-- The review row is about this census row: same function, same kind, **same count**. -/
def rowMatches (s : Site) (r : Row) : Bool :=
  r.1 == s.1 && r.2.1 == s.2.1 && r.2.2.1 == s.2.2

/-- The census row has a review. -/
def covered (s : Site) : Bool := reviewed.any (rowMatches s)

/-- One walk over both tables (both sorted by function, kind): review rows that match nothing
are skipped. -/
def walk : List Site → List Row → Bool
  | [], _ => true
  | _ :: _, [] => false
  | s :: ss, r :: rs => if rowMatches s r then walk ss rs else walk (s :: ss) rs

theorem walk_eq : ∀ (rs : List Row) (ss : List Site), walk ss rs = Table.walk rowMatches ss rs
  | _, [] => by unfold walk Table.walk; rfl
  | [], _ :: _ => rfl
  | r :: rs, s :: ss => by rw [walk, Table.walk, walk_eq rs ss, walk_eq rs (s :: ss)]

/-- The columns of a review row that `rowMatches` compares. -/
def rowKey (r : Row) : Site := (r.1, r.2.1, r.2.2.1)

theorem rowMatches_of_key (s : Site) (r : Row) (h : s = rowKey r) (_ : true = true) : rowMatches s r = true := by
  subst h
  simp [rowMatches, rowKey]

/-- The same test with the count compared first.  A scan of the review for a site that is not there
looks into the strings of the few rows with that count only (`==` on string literals costs the kernel
thousands of steps per character). -/
theorem rowMatches_count_first (s : Site) :
    rowMatches s = fun r => r.2.2.1 == s.2.2 && (r.2.1 == s.2.1 && r.1 == s.1) := by
  funext r
  rw [rowMatches, Bool.and_comm, Bool.and_comm (r.1 == s.1)]

/-- The walk succeeds on the tables of this run.  The review table is sorted like the census; as long as it has
exactly its rows, the key columns of the review are the census.  The kernel sees that without looking into
a string (equal literals are identical terms; `==` on them costs it thousands of steps per character) - in
three pieces, because the elaborator's own check of `rfl` recurses once per row and gives up on a
list of this length.  Review rows for functions that are gone are harmless: then the walk is evaluated
(linear in the tables, where `sites.all covered` is quadratic). -/
theorem census_walk : walk KM.Gen.PanicSites.sites reviewed = true := by
  first
    | have h1 : (reviewed.take 100).map rowKey = KM.Gen.PanicSites.sites.take 100 := rfl
      have h2 : ((reviewed.drop 100).take 100).map rowKey = (KM.Gen.PanicSites.sites.drop 100).take 100 := rfl
      have h3 : ((reviewed.drop 100).drop 100).map rowKey = (KM.Gen.PanicSites.sites.drop 100).drop 100 := rfl
      have keys : (KM.Gen.PanicSites.sites).map id = reviewed.map rowKey := by
        rw [List.map_id, ← List.take_append_drop 100 reviewed, ← List.take_append_drop 100 (reviewed.drop 100),
          List.map_append, List.map_append, h1, h2, h3, List.take_append_drop, List.take_append_drop]
      rw [walk_eq]
      exact Table.walk_of_aligned rowMatches_of_key (q := fun _ _ => true) keys (List.all_eq_true.mpr fun _ _ => rfl)
    | decide +kernel

/-- **Every potential panic site of krill's own code has been reviewed**, with the count it has
in the current source. -/
theorem all_panic_sites_reviewed : ∀ s ∈ KM.Gen.PanicSites.sites, covered s = true :=
  Table.any_of_walk rowMatches reviewed _ (walk_eq .. ▸ census_walk)

def findingsListed : Bool :=
  reviewed.all fun r =>
    match r.2.2.2.1 with
    | .finding id => knownFindings.contains id
    | _ => true

/-- **Every row classified `finding` names a listed finding id.** -/
theorem no_open_findings_unlisted :
    ∀ r ∈ reviewed, ∀ id, r.2.2.2.1 = Class.finding id → id ∈ knownFindings := by
  have h : findingsListed = true := by decide +kernel
  intro r hr id hc
  have := List.all_eq_true.mp h r hr
  simp only [hc] at this
  exact List.contains_iff_mem.mp this

/-! ## `seems_global_uri` -/

/-- The slice `&auth[0..i]` with `i = auth.rfind(':')` never panics: the offset `rfind`
returns is in range and on a character boundary. -/
theorem seems_global_uri_slice_in_range (ch : Char) :
    ∀ (s : List Char) (i : Nat), rfindChar ch s = some i → (sliceTo s i).isSome = true := by
  intro s
  induction s with
  | nil => intro i h; simp [rfindChar] at h
  | cons c rest ih =>
    intro i h
    unfold rfindChar at h
    cases hr : rfindChar ch rest with
    | some j =>
      rw [hr] at h
      simp only [Option.some.injEq] at h
      subst h
      have hpos : 0 < utf8Size c := Char.utf8Size_pos c
      cases hk : utf8Size c + j with
      | zero => omega
      | succ k =>
        unfold sliceTo
        have hle : utf8Size c ≤ k + 1 := by omega
        rw [if_pos hle]
        have hj : k + 1 - utf8Size c = j := by omega
        rw [hj]
        have := ih j hr
        cases hs : sliceTo rest j with
        | none => rw [hs] at this; cases this
        | some v => rfl
    | none =>
      rw [hr] at h
      by_cases hc : (c == ch) = true
      · rw [if_pos hc] at h
        simp only [Option.some.injEq] at h
        subst h
        simp [sliceTo]
      · rw [if_neg hc] at h; cases h

/-- **`seems_global_uri` answers for every authority string.** -/
theorem seems_global_uri_total (auth : List Char) : seemsGlobalUri auth ≠ none := by
  unfold seemsGlobalUri
  split
  · simp
  · cases hr : rfindChar ':' auth with
    | none => simp
    | some i =>
      have h := seems_global_uri_slice_in_range ':' auth i hr
      cases hs : sliceTo auth i with
      | none => rw [hs] at h; cases h
      | some v => simp [hs]

/-! ## non-vacuity -/

example : KM.Gen.PanicSites.sites.length > 200 := by decide +kernel
example : covered ("commons/util/mod::seems_global_uri", "index", 1) = true := by
  first
    | exact all_panic_sites_reviewed _ (List.mem_of_getElem? (i := 107) rfl)
    | decide +kernel
/-- A second index in the same function (what the round-3 seeded change does) is *not* covered. -/
example : covered ("commons/util/mod::seems_global_uri", "index", 2) = false := by
  rw [covered, rowMatches_count_first]
  decide +kernel
example : seemsGlobalUri "localhost".toList = some false := by decide
example : seemsGlobalUri "127.0.0.1:873".toList = some false := by decide
example : seemsGlobalUri "localhost:873".toList = some true := by decide
example : seemsGlobalUri "host:".toList = some true := by decide
example : seemsGlobalUri "::1".toList = some false := by decide
example : seemsGlobalUri "example.org".toList = some true := by decide
-- (F-C16-5/F-C16-6, the two rows this census classified `finding`, are repaired: fix 4d7887d3)
example : (reviewed.filter fun r => r.2.2.2.1 matches .finding _).length = 0 := by decide +kernel
example : seemsGlobalUri "é:".toList = some true := by decide
example : ipAddrOk "1:2:3:4:5:6:7.8.9.10".toList = true := by decide
example : ipAddrOk "1::7.8.9.10".toList = true := by decide
example : ipAddrOk "01.2.3.4".toList = false := by decide
example : sliceTo "é:".toList 1 = none := by decide

end KM.Props.C16Src
