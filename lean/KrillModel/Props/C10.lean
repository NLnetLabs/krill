/-
C10 — Publication protocol: atomic deltas, hash checks, publisher isolation.
Property theorems, with the few helper lemmas that only they use; the lemma file is
`KrillModel.Pubd.Lemmas`.

The model is `KrillModel/Pubd/{Content,Rrdp,Manager}.lean`; it is tied to
`src/server/pubd/{content,rrdp,access,manager}.rs` by the `pubd` correspondence stream.

One statement of the property is *false* of the code and is proved in negated form with a
witness that replays on the implementation (see `known_findings.jsonl`):

* F-C10-1 `isolation_fails_for_nested_handles`: handles may contain `/`, so `a` and `a/b` (and
  `ta` and anything) have nested jails.

F-C10-2 (a URI written with an upper-case scheme and a lower-case authority was equal, as
`uri::Rsync`, to the all-lower-case URI but a different object key) is repaired in the code
(fix 0b03ffe5); the model follows the fixed code, `key_respects_uri_equality` states what the fix
establishes and `pinned_key_splits_equal_uris` keeps the old behaviour as a counter-model.
-/
import KrillModel.Pubd.Lemmas
namespace KM.Props.C10
open KM.Pubd

/-! ## Accepted exactly when every element applies, inside the jail -/

/-- `publish_iff` — a delta verifies (against the publisher's current ⊕ staged objects) exactly
when every published URI is new, every updated or withdrawn URI holds content with the stated
hash, and every URI lies under the publisher's base URI.  (Holds for every delta; elements are
judged against the state before the delta.) -/
theorem publish_iff (objs : Objs) (jail : Uri) (d : Delta) :
    verifyDelta objs jail d = none ↔
      ∀ e ∈ d, inJail jail e.uri = true ∧
        match e with
        | .publish u _ => objs.get? (key u) = none
        | .update u h _ => (objs.get? (key u)).map Content.hash = some h
        | .withdraw u h => (objs.get? (key u)).map Content.hash = some h := by
  rw [verifyDelta_eq_none_iff]
  refine forall₂_congr fun e _ => ?_
  cases e <;> exact Iff.rfl

/-- The same at the level of the manager: a publication request of publisher `h` is answered
with success exactly when `h` is registered and the delta is empty or verifies in `h`'s jail
against what `list` returns for `h`. -/
theorem publish_accepted_iff (s : Server) (h : Handle) (d : Delta) :
    (s.publish h d).2 = .ok ↔
      ∃ jail, s.jail? h = some jail ∧ (d = [] ∨ verifyDelta (s.list h) jail d = none) := by
  unfold Server.list
  fun_cases Server.publish s h d with
  | case1 hj => simp [hj]
  | case2 jail hj he => simp [hj, List.isEmpty_iff.mp he]
  | case3 jail hj he e hv =>
    have : d ≠ [] := fun h0 => he (h0 ▸ rfl)
    simp [hj, hv, this]
  | case4 jail hj he hv => simp [hj, hv]

example : (Server.publish ⟨⟨rsyncLower, ⟨"h", 0⟩, ⟨"m", 0⟩, [], true⟩, ⟨5, 50, false, false, false⟩,
      [(["ca"], ⟨rsyncLower, ⟨"h", 0⟩, ⟨"m", 0⟩, ["ca"], true⟩)], Rrdp.create 1 1⟩ ["ca"]
      [.publish ⟨rsyncLower, ⟨"h", 0⟩, ⟨"m", 0⟩, ["ca", "a.cer"], false⟩ ⟨1, 10⟩]).2 = .ok := by decide +kernel

/-! ## All or nothing -/

/-- `publish_atomic` — a refused request changes nothing; an accepted one stages the whole delta
(and nothing else changes: access, configuration, RRDP session/serial/snapshot/deltas and the
other publishers' staged elements stay as they are). -/
theorem publish_atomic (s : Server) (h : Handle) (d : Delta) :
    ((s.publish h d).2 ≠ .ok → (s.publish h d).1 = s) ∧
    ((s.publish h d).2 = .ok →
      (s.publish h d).1 = s ∨ (s.publish h d).1 = { s with rrdp := s.rrdp.stage h d }) :=
  s.publish_cases h d (fun _ _ _ => ⟨fun h => absurd rfl h, fun _ => .inr rfl⟩)
    fun _ _ => ⟨fun _ => rfl, fun _ => .inl rfl⟩

/-- Staging touches only the publisher's own staged elements. -/
theorem stage_touches_only_own (r : Rrdp) (h q : Handle) (d : Delta) (hq : q ≠ h) :
    (r.stage h d).stagedOf q = r.stagedOf q ∧ (r.stage h d).current q = r.current q ∧
    (r.stage h d).snapshot = r.snapshot ∧ (r.stage h d).deltas = r.deltas ∧
    (r.stage h d).serial = r.serial ∧ (r.stage h d).session = r.session := by
  refine ⟨?_, rfl, rfl, rfl, rfl, rfl⟩
  simp only [Rrdp.stage, Rrdp.stagedOf, hget?_hset_ne _ _ _ _ hq]

/-! ## The list reply is the current content, staged changes included -/

/-- `staging_refines` — for a delta that verifies against current ⊕ staged and names every URI at
most once, merging it into the staged elements has exactly the effect of applying it to
current ⊕ staged; and the staged elements stay consistent with the published objects (so that
the RRDP delta generated from them fits the published snapshot).  `AllCanon` only says that the
URIs are well-formed rsync URIs (scheme `rsync` in any case – what the parser accepts); the
case of scheme and authority is free (`key_respects_uri_equality`). -/
theorem staging_refines (cur : Objs) (st : Staged) (jail : Uri) (d : Delta)
    (hwf : WfStaged cur st) (hcs : AllCanon st) (hcd : AllCanon d) (hnd : KeyNodup d)
    (hv : verifyDelta (objectsFor cur st) jail d = none) :
    (∀ k, (objectsFor cur (mergeNew st d)).get? k = (applyDelta (objectsFor cur st) d).get? k) ∧
    WfStaged cur (mergeNew st d) ∧ AllCanon (mergeNew st d) := by
  have hok : ∀ e ∈ d, e.fits (viewStaged cur st (key e.uri)) := fun e he => by
    rw [← get?_objectsFor cur st hwf.nodup]
    exact ((verifyDelta_eq_none_iff _ jail d).mp hv e he).2
  obtain ⟨hview, hwf', hcanon⟩ := mergeNew_spec hwf hcs hcd hnd hok
  refine ⟨fun k => ?_, hwf', hcanon⟩
  rw [get?_objectsFor cur _ hwf'.nodup, hview, get?_applyDelta _ d hnd,
    get?_objectsFor cur st hwf.nodup]

example : WfStaged [] [] ∧ AllCanon [] ∧
    verifyDelta (objectsFor [] []) ⟨rsyncLower, ⟨"h", 0⟩, ⟨"m", 0⟩, ["ca"], true⟩
      [.publish ⟨rsyncLower, ⟨"h", 0⟩, ⟨"m", 0⟩, ["ca", "a.cer"], false⟩ ⟨1, 10⟩] = none :=
  ⟨WfStaged.nil _, (fun e he => nomatch he), by decide⟩

/-- The staged elements are keyed by `uri::Rsync` (equality `rsEq`), the published objects by
`CurrentObjectUri` (`key`): for well-formed URIs the two agree (since fix 0b03ffe5). -/
theorem key_respects_uri_equality (u v : Uri) (hu : u.canon = true) (hv : v.canon = true) :
    rsEq u v = true ↔ key u = key v := by
  rw [rsEq_iff_keyEq hu hv]
  simp [keyEq]

/-- An example with every case variant: upper-case scheme with lower-case authority included. -/
example :
    let u : Uri := ⟨rsyncLower, ⟨"h", 0⟩, ⟨"m", 0⟩, ["ca", "a.cer"], false⟩
    let u' : Uri := ⟨⟨"rsync", 31⟩, ⟨"h", 0⟩, ⟨"m", 0⟩, ["ca", "a.cer"], false⟩
    let u'' : Uri := ⟨⟨"rsync", 16⟩, ⟨"h", 1⟩, ⟨"m", 0⟩, ["ca", "a.cer"], false⟩
    key u = key u' ∧ key u = key u'' ∧
    verifyDelta [(key u, ⟨1, 10⟩)] ⟨rsyncLower, ⟨"h", 0⟩, ⟨"m", 0⟩, ["ca"], true⟩
      [.publish u' ⟨2, 10⟩] = some (.present u') := by decide +kernel

/-- COUNTER-MODEL OF THE PINNED TREE (F-C10-2, before fix 0b03ffe5): the object key of
`RSYNC://h/m/ca/a.cer` differed from the key of `rsync://h/m/ca/a.cer` although the URIs are
equal – a held URI could be published again and a staged element was silently replaced. -/
theorem pinned_key_splits_equal_uris :
    ∃ u v : Uri, u.canon = true ∧ v.canon = true ∧ rsEq u v = true ∧
      keyPinned u ≠ keyPinned v ∧ key u = key v :=
  ⟨⟨rsyncLower, ⟨"h", 0⟩, ⟨"m", 0⟩, ["ca", "a.cer"], false⟩,
   ⟨⟨"rsync", 31⟩, ⟨"h", 0⟩, ⟨"m", 0⟩, ["ca", "a.cer"], false⟩, by decide, by decide, by decide,
   by decide, by decide⟩

/-- `list_reply_is_current_content` — after an accepted publication request the list reply of the
publisher is the former list reply with the delta applied (all of it, including what is not yet
visible in RRDP), and a refused request leaves it as it was. -/
theorem list_reply_is_current_content (s : Server) (hi : SInv s) (h : Handle) (d : Delta)
    (hok : OpOk (.publish h d)) :
    ((s.publish h d).2 = .ok → ∀ k, ((s.publish h d).1.list h).get? k = (applyDelta (s.list h) d).get? k) ∧
    ((s.publish h d).2 ≠ .ok → (s.publish h d).1.list h = s.list h) := by
  refine s.publish_cases h d (fun jail _ hv => ⟨fun _ k => ?_, fun h => absurd rfl h⟩) fun _ hr => ?_
  · show (objectsFor ((s.rrdp.stage h d).current h) ((s.rrdp.stage h d).stagedOf h)).get? k = _
    rw [stagedOf_stage, if_pos rfl]
    exact (staging_refines _ _ jail d (hi.r.wf h) (hi.r.canon h) hok.1 hok.2 hv).1 k
  · -- unchanged, and accepted only if the delta is empty
    exact ⟨fun ho _ => by rw [hr ho]; rfl, fun _ => rfl⟩

/-! ## An RRDP update publishes exactly what was listed -/

/-- `rrdp_update_preserves` — `apply_rrdp_updated` moves every publisher's staged elements into
the snapshot: afterwards the published objects of `h` are exactly what `list` returned before
(and still returns), nothing is staged, and the elements that went into the RRDP delta fit the
objects `h` had published before (publishes are new, updates and withdraws name the published
hash).  Holds in every state reachable by requests whose deltas name each URI once and use
canonical URIs (`SInv`, see `invariant_reachable`). -/
theorem rrdp_update_preserves (s : Server) (hi : SInv s) (t rnd : Nat) (h : Handle) :
    (s.rrdp.applyUpdated t rnd).objectsFor h = s.rrdp.objectsFor h ∧
    (s.rrdp.applyUpdated t rnd).current h = s.rrdp.objectsFor h ∧
    (s.rrdp.applyUpdated t rnd).staged = [] ∧
    ∀ e ∈ s.rrdp.stagedOf h, ElemWf (s.rrdp.current h) e := by
  have hcur := current_applyUpdated hi.r.stagedNodup hi.r.snapNodup t rnd h
  refine ⟨?_, hcur, rfl, (hi.r.wf h).wf⟩
  show objectsFor ((s.rrdp.applyUpdated t rnd).current h) [] = _
  rw [hcur]
  rfl

/-- The invariant used above holds after every history of requests. -/
theorem invariant_reachable (base : Uri) (cfg : Cfg) (session rnd : Nat) (ops : List Op)
    (hok : ∀ op ∈ ops, OpOk op) : SInv ((Server.init base cfg session rnd).run ops) :=
  (SInv.init base cfg session rnd).run hok

/-! ## Jails -/

/-- `jails_disjoint_iff` — the jails of two publishers have a URI in common exactly when one
handle is a `/`-segment prefix of the other (this includes equal handles) or one of them is
`ta` (whose jail is the whole repository). -/
theorem jails_disjoint_iff (base : Uri) (p q : Handle) (jp jq : Uri)
    (hp : publisherBase base p = some jp) (hq : publisherBase base q = some jq) :
    (∃ u, inJail jp u = true ∧ inJail jq u = true) ↔
      (p <+: q ∨ q <+: p ∨ p = taHandle ∨ q = taHandle) := by
  -- the jails meet exactly when one of the two paths below the base is a prefix of the other
  have hmeet : (∃ u, inJail jp u = true ∧ inJail jq u = true) ↔
      (jailSegs p <+: jailSegs q ∨ jailSegs q <+: jailSegs p) := by
    constructor
    · rintro ⟨u, hup, huq⟩
      rcases List.prefix_or_prefix_of_prefix ((inJail_publisherBase hp u).mp hup).2.1
        ((inJail_publisherBase hq u).mp huq).2.1 with h | h
      · exact .inl ((List.prefix_append_right_inj _).mp h)
      · exact .inr ((List.prefix_append_right_inj _).mp h)
    · -- a URI just below the longer path lies in both jails
      have below : ∀ {a b : Handle} {ja : Uri}, publisherBase base a = some ja →
          jailSegs a <+: jailSegs b →
          inJail ja { base with segs := base.segs ++ jailSegs b ++ ["x"], dir := false } = true := by
        intro a b ja ha hab
        rw [inJail_publisherBase ha]
        refine ⟨by simp [eqModule, CiName.eqIgnoreCase], ?_, ?_⟩
        · exact ((List.prefix_append_right_inj _).mpr hab).trans (List.prefix_append _ _)
        · have := hab.length_le
          simp only [List.length_append, List.length_cons, List.length_nil]
          omega
      rintro (h | h)
      · exact ⟨_, below hp h, below hq (List.prefix_refl _)⟩
      · exact ⟨_, below hp (List.prefix_refl _), below hq h⟩
  rw [hmeet, jailSegs_prefix_iff, jailSegs_prefix_iff, or_or_or_comm, or_assoc]

example : publisherBase ⟨rsyncLower, ⟨"h", 0⟩, ⟨"m", 0⟩, [], true⟩ ["ca", "x"] =
    some ⟨rsyncLower, ⟨"h", 0⟩, ⟨"m", 0⟩, ["ca", "x"], true⟩ := by decide

/-! ## Isolation -/

/-- `isolation` — for two publishers whose jails have no URI in common (by
`jails_disjoint_iff`: neither handle a segment prefix of the other, neither `ta`), a request of
`p` leaves everything `q` has untouched (listed, published and staged objects), an accepted
delta of `p` names no URI of `q`'s jail, and nothing `p` is told (its list reply) is an object
of `q`.  `hi` holds in every reachable state (`invariant_reachable`). -/
theorem isolation (s : Server) (hi : SInv s) (p q : Handle) (hpq : q ≠ p) (jp jq : Uri)
    (hp : s.jail? p = some jp) (hq : publisherBase s.base q = some jq)
    (hdis : ¬ ∃ u, inJail jp u = true ∧ inJail jq u = true) (d : Delta) :
    (s.publish p d).1.list q = s.list q ∧
    (s.publish p d).1.rrdp.current q = s.rrdp.current q ∧
    (s.publish p d).1.rrdp.stagedOf q = s.rrdp.stagedOf q ∧
    ((s.publish p d).2 = .ok → ∀ e ∈ d, inJail jq e.uri = false) ∧
    (∀ o ∈ s.list p, ∀ o' ∈ s.list q, o.1 ≠ o'.1) := by
  have hkeep : (s.publish p d).1.list q = s.list q ∧
      (s.publish p d).1.rrdp.current q = s.rrdp.current q ∧
      (s.publish p d).1.rrdp.stagedOf q = s.rrdp.stagedOf q :=
    s.publish_cases p d (fun _ _ _ =>
      ⟨objectsFor_stage_ne _ _ _ _ hpq, rfl, (stage_touches_only_own _ _ _ _ hpq).1⟩)
      fun _ _ => ⟨rfl, rfl, rfl⟩
  refine ⟨hkeep.1, hkeep.2.1, hkeep.2.2, fun hok e he => ?_, ?_⟩
  · obtain ⟨jail, hj, hd⟩ := (publish_accepted_iff s p d).mp hok
    rw [hp] at hj
    cases hj
    rcases hd with rfl | hd
    · cases he
    · exact Bool.eq_false_iff.mpr fun hin =>
        hdis ⟨e.uri, ((publish_iff _ _ _).mp hd e he).1, hin⟩
  · intro o ho o' ho' heq
    have h1 := hi.r.objectsFor_jailed (hi.access p jp hp) o ho
    have h2 := hi.r.objectsFor_jailed hq o' ho'
    rw [← heq] at h2
    exact hdis ⟨o.1, h1, h2⟩

/-- F-C10-1: without disjoint jails isolation fails.  Handles may contain `/`; `a` and `a/b`
are both accepted, the jail of `a` contains the jail of `a/b`, and `a` may publish the very URI
`a/b` holds: the repository then has two objects for one URI. -/
theorem isolation_fails_for_nested_handles :
    ∃ (base : Uri) (ops : List Op) (u : Uri) (c c' : Content),
      (∀ op ∈ ops, OpOk op) ∧ c ≠ c' ∧
      let s := (Server.init base ⟨5, 50, false, false, false⟩ 1 1).run ops
      (s.list ["a", "b"]).get? u = some c ∧ (s.list ["a"]).get? u = some c' := by
  let base : Uri := ⟨rsyncLower, ⟨"h", 0⟩, ⟨"m", 0⟩, [], true⟩
  let u : Uri := ⟨rsyncLower, ⟨"h", 0⟩, ⟨"m", 0⟩, ["a", "b", "x.cer"], false⟩
  refine ⟨base, [.addpub ["a"], .addpub ["a", "b"], .publish ["a", "b"] [.publish u ⟨1, 10⟩],
    .publish ["a"] [.publish u ⟨2, 10⟩]], u, ⟨1, 10⟩, ⟨2, 10⟩, ?_, by decide, by decide +kernel,
    by decide +kernel⟩
  intro op hop
  simp only [List.mem_cons, List.mem_nil_iff, or_false] at hop
  rcases hop with rfl | rfl | rfl | rfl
  · trivial
  · trivial
  · exact .publish_one _ rfl
  · exact .publish_one _ rfl

/-- A request of another publisher, an RRDP update or a session reset leaves what `q` has. -/
theorem step_list_other {op : Op} {s s' : Server} (q : Handle)
    (ho : match op with
      | .addpub h => h ≠ q
      | .rmpub h => h ≠ q
      | .publish h _ => h ≠ q
      | .update _ => True
      | .reset _ _ => True
      | .delete _ _ => False) (hs : Step op s s') (hi : SInv s) : s'.list q = s.list q := by
  cases hs with
  | skip => rfl
  | @addpub _ h => simp only [Server.list]; exact objectsFor_publisherAdded s.rrdp h q
  | rmpub _ h => simp only [Server.list]; exact objectsFor_removePublisher_ne s.rrdp h q (Ne.symm ho)
  | publish => simp only [Server.list]; exact objectsFor_stage_ne s.rrdp _ _ _ (Ne.symm ho)
  | update _ rnd => exact (rrdp_update_preserves s hi _ rnd q).1
  | reset => rfl
  | delete => exact ho.elim

/-- Isolation over histories: whatever the other publishers request (publications, additions and
removals of other publishers), and through RRDP updates and session resets, the list reply of
`q` – everything `q` has – stays exactly as it is. -/
theorem isolation_history (q : Handle) : ∀ (ops : List Op) (s : Server), SInv s →
    (∀ op ∈ ops, OpOk op ∧ match op with
      | .addpub h => h ≠ q
      | .rmpub h => h ≠ q
      | .publish h _ => h ≠ q
      | .update _ => True
      | .reset _ _ => True
      | .delete _ _ => False) →
    (s.run ops).list q = s.list q := by
  intro ops s hi hok
  exact (Server.run_induction (P := fun s' => SInv s' ∧ s'.list q = s.list q)
    (fun s' op h hq => ⟨h.1.step hq.1, (step_list_other q hq.2 (s'.step_spec op) h.1).trans h.2⟩)
    ops ⟨hi, rfl⟩ hok).2

/-- Non-vacuity: a history of another publisher (with an RRDP update and a session reset) meets
the hypotheses for `q = ca`. -/
example :
    let u : Uri := ⟨rsyncLower, ⟨"h", 0⟩, ⟨"m", 0⟩, ["cb", "a.cer"], false⟩
    ∀ op ∈ ([.addpub ["cb"], .publish ["cb"] [.publish u ⟨1, 10⟩], .update 2, .reset 2 3] : List Op),
      OpOk op ∧ match op with
        | .addpub h => h ≠ ["ca"]
        | .rmpub h => h ≠ ["ca"]
        | .publish h _ => h ≠ ["ca"]
        | .update _ => True
        | .reset _ _ => True
        | .delete _ _ => False := by
  intro u op hop
  simp only [List.mem_cons, List.mem_nil_iff, or_false] at hop
  rcases hop with rfl | rfl | rfl | rfl
  · exact ⟨trivial, by decide⟩
  · exact ⟨.publish_one _ rfl, by decide⟩
  · exact ⟨trivial, trivial⟩
  · exact ⟨trivial, trivial⟩

/-! ## Removing a publisher -/

/-- `remove_exact` — removing publisher `h` leaves `h` with no object (everything it had is
withdrawn, staged changes included), un-registers `h`, and changes nothing of any other
publisher; after the next RRDP update the snapshot holds nothing of `h`. -/
theorem remove_exact (s : Server) (hi : SInv s) (h : Handle) :
    (∀ k, ((s.removePublisher h).1.list h).get? k = none) ∧
    (s.removePublisher h).1.jail? h = none ∧
    (∀ q, q ≠ h → (s.removePublisher h).1.list q = s.list q ∧
      (s.removePublisher h).1.rrdp.current q = s.rrdp.current q ∧
      (s.removePublisher h).1.jail? q = s.jail? q) ∧
    (∀ t rnd k, (((s.removePublisher h).1.rrdp.applyUpdated t rnd).current h).get? k = none) := by
  have hlist := hi.r.removePublisher_objectsFor h
  have hinv := hi.r.removePublisher h
  have hr : (s.removePublisher h).1.rrdp = s.rrdp.removePublisher h := by
    rw [Server.removePublisher_fst]
  have ha : (s.removePublisher h).1.access = herase s.access h := by
    rw [Server.removePublisher_fst]
  unfold Server.list Server.jail?
  rw [hr, ha]
  refine ⟨fun k => ?_, ?_, fun q hq => ⟨objectsFor_removePublisher_ne _ h q hq,
    current_removePublisher _ h q, ?_⟩, fun t rnd k => ?_⟩
  · rw [hlist]; rfl
  · rw [hget?_herase, if_pos rfl]
  · rw [hget?_herase, if_neg hq]
  · rw [current_applyUpdated hinv.stagedNodup hinv.snapNodup, hlist]; rfl

end KM.Props.C10
