/-
C19 (source tie) — the hand-written model of the status records (`Status/Status.lean`:
`RepoStatus.setFailure / setLastUpdated / updatePublished`, `ParentStatus.setFailure / setLastUpdated /
setEntitlements`, `ChildStatus.setSuccess / setFailure / setSuspended`) equals the definitions that the
translator `pure_fns` regenerates from `/repo/src/api/ca.rs` on every run
(`Generated/PureFnsC19.lean`, namespace `KM.Gen.C19`).

`status_is_last_exchange`, `published_list_*`, `child_last_request_partial`, `restart_invariant`
(Props/C19.lean) are about the model's setters.  With the theorems below these are tied to the Rust
bodies: which fields a setter assigns (a failure must NOT touch `last_success`; a child's request of
either outcome clears `suspended`), that `update_published` removes an entry of the same URI before it
pushes in BOTH the `Publish` and the `Update` arm (the defect fixed by 7b4aa6c7 was the missing `retain`
in the `Publish` arm: the pinned counter-model `applyElPinned` is shown to differ from the generated
body), that a withdraw only removes, that `set_entitlements` REBUILDS `all_resources` from the classes
of this reply (seed C19-r2 accumulated it) and replaces the class list.  Each such edit changes a
generated definition and this file stops checking.

Instantiation of the abstract parameters of the generated definitions (printed in the header of the
generated file): time stamps `T := Nat`, URIs `U := String`, exchange records `X := Exchange` /
`ChildExchange`, error labels `ε := String`, delta elements `E := DeltaEl`, published files
`F := File`, entitlement classes `C := String × List Nat`, resource sets `R := List Nat` with
`union := unionAtoms`, `empty := []`.
-/
import KrillModel.Generated.PureFnsC19
import KrillModel.Status.Status
namespace KM.Props.C19Src
open KM.Status

/-! ### instantiation -/

def exSuccess (t : Nat) (u : String) : Exchange := ⟨t, u, .success⟩
def exFailure (t : Nat) (u : String) (e : String) : Exchange := ⟨t, u, .failure e⟩
def chSuccess (t : Nat) (a : Option String) : ChildExchange := ⟨t, .success, a⟩
def chFailure (t : Nat) (a : Option String) (e : String) : ChildExchange := ⟨t, .failure e, a⟩

/-- Variant of a delta element (rpki-rs `PublishDeltaElement`). -/
def kind : DeltaEl → KM.Gen.C19.PublishDeltaElement
  | .publish _ _ => .Publish
  | .update _ _ => .Update
  | .withdraw _ => .Withdraw

/-- `PublishedFile { uri, base64 }` built from the unpacked fields of a publish / update element (never
evaluated for a withdraw: that arm does not push). -/
def fileOf : DeltaEl → File
  | .publish u c => (u, c)
  | .update u c => (u, c)
  | .withdraw u => (u, "")

/-- `el.uri == uri` for the unpacked `uri` of the element. -/
def sameUri (e : DeltaEl) (f : File) : Bool := f.1 == e.uri

/-! ### RepoStatus -/

theorem gen_repo_set_last_updated_eq_model (s : RepoStatus) (uri : String) (now : Nat) :
    KM.Gen.C19.RepoStatus.set_last_updated exSuccess s.lastExchange s.lastSuccess now uri =
      ((s.setLastUpdated uri now).lastExchange, (s.setLastUpdated uri now).lastSuccess) := rfl

/-- `set_last_updated` leaves the published list alone (it is not among the assigned fields). -/
theorem repo_set_last_updated_keeps_published (s : RepoStatus) (uri : String) (now : Nat) :
    (s.setLastUpdated uri now).published = s.published := rfl

theorem gen_repo_set_failure_eq_model (s : RepoStatus) (uri err : String) (now : Nat) :
    KM.Gen.C19.RepoStatus.set_failure exFailure s.lastExchange now uri err =
      (s.setFailure uri err now).lastExchange := rfl

/-- A failure keeps the last success and the published list: the generated body assigns
`last_exchange` only, and so does the model. -/
theorem repo_set_failure_keeps_rest (s : RepoStatus) (uri err : String) (now : Nat) :
    (s.setFailure uri err now).lastSuccess = s.lastSuccess ∧
    (s.setFailure uri err now).published = s.published := ⟨rfl, rfl⟩

/-- The generated loop = the model's fold of `applyEl` (the leading copies of the three fields are the
function's own binders, shadowed by the loop state: never read). -/
theorem loop_eq (x : Option Exchange) (t : Option Nat) (now : Nat) (uri : String)
    (els : List DeltaEl) (l : List DeltaEl) :
    ∀ (x0 : Option Exchange) (t0 : Option Nat) (p0 : List File) (p : List File),
    KM.Gen.C19.RepoStatus.update_published.loop exSuccess kind fileOf sameUri x0 t0 p0 now uri els x t p l =
      (x, some now, applyDelta p l) := by
  induction l with
  | nil => exact fun _ _ _ _ => rfl
  | cons e tl ih =>
    intro x0 t0 p0 p
    rw [KM.Gen.C19.RepoStatus.update_published.loop]
    -- what each arm does to the list is `applyEl` by definition
    cases e <;> exact ih _ _ _ _

/-- `RepoStatus::update_published`: generated definition = model, for every status, URI, delta and clock
value. -/
theorem gen_update_published_eq_model (s : RepoStatus) (uri : String) (d : List DeltaEl) (now : Nat) :
    KM.Gen.C19.RepoStatus.update_published exSuccess kind fileOf sameUri s.lastExchange s.lastSuccess s.published now uri d =
      ((s.updatePublished uri d now).lastExchange, (s.updatePublished uri d now).lastSuccess,
       (s.updatePublished uri d now).published) := by
  unfold KM.Gen.C19.RepoStatus.update_published
  simp only [loop_eq]
  rfl

/-- The behaviour before fix 7b4aa6c7 (no `retain` in the `Publish` arm) is NOT what the generated body
does: publishing an object that the list already shows yields one entry, the pinned code two. -/
theorem pinned_publish_differs :
    (KM.Gen.C19.RepoStatus.update_published exSuccess kind fileOf sameUri none none [("u", "a")] 1 "r"
        [.publish "u" "b"]).2.2 ≠
      [DeltaEl.publish "u" "b"].foldl applyElPinned [("u", "a")] := by decide

/-! ### ParentStatus -/

theorem gen_parent_set_last_updated_eq_model (s : ParentStatus) (uri : String) (now : Nat) :
    KM.Gen.C19.ParentStatus.set_last_updated exSuccess s.lastExchange s.lastSuccess now uri =
      ((s.setLastUpdated uri now).lastExchange, (s.setLastUpdated uri now).lastSuccess) := rfl

theorem gen_parent_set_failure_eq_model (s : ParentStatus) (uri err : String) (now : Nat) :
    KM.Gen.C19.ParentStatus.set_failure exFailure s.lastExchange now uri err =
      (s.setFailure uri err now).lastExchange := rfl

/-- A failure keeps the last success, the entitlements and the resources shown. -/
theorem parent_set_failure_keeps_rest (s : ParentStatus) (uri err : String) (now : Nat) :
    (s.setFailure uri err now).lastSuccess = s.lastSuccess ∧
    (s.setFailure uri err now).classes = s.classes ∧
    (s.setFailure uri err now).allResources = s.allResources := ⟨rfl, rfl, rfl⟩

theorem ent_loop_eq (x : Option Exchange) (t : Option Nat) (r0 : List Nat) (cl : List (String × List Nat))
    (now : Nat) (uri : String) (ent : List (String × List Nat)) (l : List (String × List Nat)) :
    ∀ (x0 : Option Exchange) (t0 : Option Nat) (a0 : List Nat) (c0 : List (String × List Nat)) (acc : List Nat),
    KM.Gen.C19.ParentStatus.set_entitlements.loop exSuccess (fun c : String × List Nat => c.2) unionAtoms []
        x0 t0 a0 c0 now uri ent x t r0 cl acc l =
      (x, t, l.foldl (fun acc c => unionAtoms acc c.2) acc, cl) := by
  induction l with
  | nil => exact fun _ _ _ _ _ => rfl
  | cons c tl ih =>
    intro x0 t0 a0 c0 acc
    rw [KM.Gen.C19.ParentStatus.set_entitlements.loop]
    exact ih _ _ _ _ _

/-- `ParentStatus::set_entitlements`: generated definition = model – the class list is REPLACED by the
reply's, `all_resources` is rebuilt from exactly those classes starting from the empty set, the exchange
is recorded as a success. -/
theorem gen_set_entitlements_eq_model (s : ParentStatus) (uri : String) (ent : Entitlements) (now : Nat) :
    KM.Gen.C19.ParentStatus.set_entitlements exSuccess (fun c : String × List Nat => c.2) unionAtoms []
        s.lastExchange s.lastSuccess s.allResources s.classes now uri ent =
      ((s.setEntitlements uri ent now).lastExchange, (s.setEntitlements uri ent now).lastSuccess,
       (s.setEntitlements uri ent now).allResources, (s.setEntitlements uri ent now).classes) := by
  unfold KM.Gen.C19.ParentStatus.set_entitlements
  simp only [ent_loop_eq]
  rfl

/-- What is shown after `set_entitlements` does not depend on what was shown before (no accumulation:
the seeded change C19-r2). -/
theorem set_entitlements_forgets (s s' : ParentStatus) (uri : String) (ent : Entitlements) (now : Nat) :
    (s.setEntitlements uri ent now).allResources = (s'.setEntitlements uri ent now).allResources ∧
    (s.setEntitlements uri ent now).classes = (s'.setEntitlements uri ent now).classes := ⟨rfl, rfl⟩

/-! ### ChildStatus -/

theorem gen_child_set_success_eq_model (s : ChildStatus) (agent : Option String) (now : Nat) :
    KM.Gen.C19.ChildStatus.set_success chSuccess s.lastExchange s.lastSuccess s.suspended now agent =
      ((s.setSuccess agent now).lastExchange, (s.setSuccess agent now).lastSuccess,
       (s.setSuccess agent now).suspended) := rfl

theorem gen_child_set_failure_eq_model (s : ChildStatus) (agent : Option String) (err : String) (now : Nat) :
    KM.Gen.C19.ChildStatus.set_failure chFailure s.lastExchange s.suspended now agent err =
      ((s.setFailure agent err now).lastExchange, (s.setFailure agent err now).suspended) := rfl

/-- A refused request keeps the time of the last success. -/
theorem child_set_failure_keeps_success (s : ChildStatus) (agent : Option String) (err : String) (now : Nat) :
    (s.setFailure agent err now).lastSuccess = s.lastSuccess := rfl

theorem gen_child_set_suspended_eq_model (s : ChildStatus) (now : Nat) :
    KM.Gen.C19.ChildStatus.set_suspended s.suspended now = (s.setSuspended now).suspended := rfl

/-- Non-vacuity: a delta that publishes over an existing entry, updates and withdraws. -/
example :
    (KM.Gen.C19.RepoStatus.update_published exSuccess kind fileOf sameUri none none [("u", "a"), ("v", "b")] 7 "r"
        [.publish "u" "c", .update "v" "d", .withdraw "u", .publish "w" "e"]) =
      (some ⟨7, "r", .success⟩, some 7, [("v", "d"), ("w", "e")]) := by decide +kernel

/-! ### a success clears a recorded failure (seed C19-r6)

Whatever was recorded before - in particular a failure - a successful exchange is what the views show afterwards: the
setters assign `last_exchange` unconditionally (the seeded change C19-r6 recorded the success of a list query only when the
last exchange had not been a failure). -/

theorem repo_success_clears_failure (s : RepoStatus) (uri : String) (now : Nat) :
    (s.setLastUpdated uri now).optFailure = none ∧
    ∀ d, (s.updatePublished uri d now).optFailure = none := ⟨rfl, fun _ => rfl⟩

theorem parent_success_clears_failure (s : ParentStatus) (uri : String) (ent : Entitlements) (now : Nat) :
    (s.setLastUpdated uri now).optFailure = none ∧ (s.setEntitlements uri ent now).optFailure = none := ⟨rfl, rfl⟩

/-- A failure after a success is shown as that failure, with the time of the last success kept. -/
theorem repo_failure_after_success (s : RepoStatus) (uri uri' err : String) (t t' : Nat) :
    ((s.setLastUpdated uri t).setFailure uri' err t').optFailure = some err ∧
    ((s.setLastUpdated uri t).setFailure uri' err t').lastSuccess = some t := ⟨rfl, rfl⟩

end KM.Props.C19Src
