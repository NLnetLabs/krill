/-
C07 (and C06) — source tie for the assumption "one call = one critical section".

`Props/C07.lean` proves serialisability for machines whose calls are ONE phase list bracketed by
ONE acquisition of the entity's scope lock (`Sys/Interleave.lean`).  Observation alone (the event
log of the `conc` stream is well bracketed) does not show that the code has this shape: two
well-formed brackets, duplicate check in the first, write in the second, pass that test.  Here
the shape is tied to `/repo`'s source: the translator `store_sections` regenerates
`Generated/StoreSections.lean` on every run (every method of `AggregateStore`, `WalStore`,
`KeyValueStore`: its storage operations in source order, each with the `execute` closure it is in).

| clause of C07 | theorem |
|---|---|
| applied one at a time in a single total order … none is lost or applied twice (the assumption of `serialisable` holds of the source) | `store_methods_single_section`: every method that is one call on one entity has all its reads and writes in ONE section on the scope lock; `store_methods_roles`: every other method with storage operations is a pure delegate, read-only, a walk over entities, a cache helper or a one-section `KeyValueStore` helper – nothing that writes escapes the first theorem; `core_calls_not_exempt`: no exemption for `add_with_context`, `execute_opt_command`, WAL `add` |
| (the model's steps are the code's steps) | `model_phases_match_source`: per call the operations of the model's phases are the generated sequence (calls expanded, adjacent repetitions identified); `agg_phases_named` / `wal_phases_named`: the annotated phases ARE `execPhases`; `agg_phase_frame` / `wal_phase_frame`: a phase annotated without a write does not change the key-value scope, one without a cache write not the cache |
| (the assumption is necessary) | `check_outside_section_loses_init`: duplicate check in a section of its own – a 2-thread schedule, every section well bracketed, both `add`s acknowledged, one init command lost; `split_sequential_is_add`: sequentially the split variant is indistinguishable; `one_section_refuses_second_init`, `serial_adds_one_ok`, `concurrent_adds_one_ok`: the code's shape acknowledges exactly one |
| (what the reviewed exemption costs) | `drop_cache_after_section_strays`: `drop_aggregate` removes the cache entry after the section – a command in between writes into the deleted scope and a re-created entity replays it |

Dynamic side (stream `aggstore`, both modes): every call prints the sections it ran
(`sec=s:has.store`); the driver compares them with the generated table (`sectionsFit`,
`FAIL model sections`) and evaluates `singleSection` on them (`FAIL oracle single_section`);
`raceadd` (n threads add one new handle, many rounds) is judged by `exactly_one_init`.
-/
import KrillModel.ES.Sections
import KrillModel.ES.WalLemmas
import KrillModel.ES.Reg
import KrillModel.Props.C07
namespace KM.Props.C07Src
open KM.ES KM.Sys KM.ES.Sections KM.Generated.StoreSections

/-! ## The source has the shape the theorems assume -/

/-- Every method of the stores that is one call on one entity
(`add_with_context`, `execute_opt_command` – i.e. `command`, `get_latest`, `save_snapshot` –,
`drop_aggregate`, WAL `add`, `execute_opt_command`, `remove`) performs every storage read and
every storage write – the reviewed exemptions of `Sections.exempt` apart – inside ONE
`execute(Some(scope), …)` closure: primitive operations only, all in the same section, that
section on the scope lock and not nested. -/
theorem store_methods_single_section :
    ∀ m ∈ storeMethods, mutating m.name = true → oneSection (checkedOps m) = true := by
  decide +kernel

/-- No exemption for the calls C07 quantifies over. -/
theorem core_calls_not_exempt :
    exempt .agg_add_with_context = [] ∧ exempt .agg_execute_opt_command = [] ∧
    exempt .wal_add = [] ∧ exempt .wal_execute_opt_command = [] := by
  decide +kernel

/-- Every method with storage operations is what `Sections.role` says it is: an entity call with
one section, a delegate (exactly one call of another method, nothing else), read-only through
everything it calls, a walk that only calls, a cache helper, or a `KeyValueStore` helper with
one section.  So a storage write is either in an entity call – covered by
`store_methods_single_section` – or in a helper that is one section by itself. -/
theorem store_methods_roles : ∀ m ∈ storeMethods, roleOk m = true := by
  decide +kernel

/-- A method that itself writes (key-value store or cache) is an entity call or a helper. -/
theorem writers_are_entity_calls_or_helpers :
    ∀ m ∈ storeMethods, (checkedOps m).any (fun o => writes o.op) = true →
      role m.name = .entityCall ∨ role m.name = .cacheHelper ∨ role m.name = .kvHelper := by
  decide +kernel

theorem oneSection_spec {ops : List SectionOp} (h : oneSection ops = true) :
    ∃ i, ∀ o ∈ ops, o.sec = .inside i .scope 1 ∧ isCall o.op = false := by
  cases ops with
  | nil => cases h
  | cons o rest =>
    simp only [oneSection, Bool.and_eq_true, List.all_eq_true, Bool.not_eq_true', beq_iff_eq] at h
    obtain ⟨⟨h1, h2⟩, h3⟩ := h
    split at h1
    · rename_i i hs
      refine ⟨i, fun p hp => ?_⟩
      rcases List.mem_cons.mp hp with rfl | hp
      · exact ⟨hs, h2⟩
      · exact ⟨(h3 p hp).1.trans hs, (h3 p hp).2⟩
    · cases h1

/-- Not vacuous: the shape of the seeded change – `self.has(..)?` first, then the section with
the write – is refused, and so is a write after the section. -/
example : oneSection [⟨.call .agg_has, .outside, false⟩, ⟨.store, .inside 0 .scope 1, false⟩,
    ⟨.cache_update, .inside 0 .scope 1, false⟩] = false := by decide
example : oneSection [⟨.has, .inside 0 .scope 1, false⟩, ⟨.store, .inside 1 .scope 1, false⟩] = false := by
  decide +kernel
example : oneSection [⟨.has, .inside 0 .global 1, false⟩, ⟨.store, .inside 0 .global 1, false⟩] = false := by
  decide +kernel
example : oneSection [⟨.has, .inside 0 .scope 1, false⟩, ⟨.store, .inside 0 .scope 1, false⟩] = true := by
  decide +kernel

/-! ## The model's phases are the code's operations -/

/-- For every call the model has a step list for, the operations
of the model's steps – `phAdd`; `phLoad, phCatchUp, phDecide, phStore, phCache, phSnapshot,
phFinish`; the WAL phases; `dropAggregate`, `Wal.add`, `Wal.remove` – are, in order, the
operations the translator found in the method, up to the documented abstraction: calls of
`KeyValueStore` helpers replaced by the helper's operations, the history-cache mutex left out,
an operation directly following the same operation dropped (the two `kv.store` of the error
and the success branch are the one `phStore`; a loop is one round). -/
theorem model_phases_match_source :
    ∀ m ∈ storeMethods, ∀ l, modelOps m.name = some l → collapse l = collapse (flatOps m) := by
  have h : ∀ m ∈ storeMethods,
      (modelOps m.name).all (fun l => collapse l == collapse (flatOps m)) = true := by decide
  intro m hm l hl
  have := h m hm
  rw [hl] at this
  exact beq_iff_eq.mp this

/-- Every entity call has a model step list (the theorem above is not vacuous for any). -/
theorem entity_calls_are_modelled :
    ∀ m ∈ storeMethods, mutating m.name = true → (modelOps m.name).isSome = true := by
  decide +kernel

/-- The annotated phase names are the phases the interleaving model runs. -/
theorem agg_phases_named {A : Agg} (i : Nat) (cmd : Option (Sent A)) (snap wfail : Bool) :
    execPhases i cmd snap wfail = aggPhaseNames.map (aggPhaseFn i cmd snap wfail) := rfl

theorem wal_phases_named {T : Wal.WalT} (i : Nat) (cmd : Option T.Cmd) (snap wfail : Bool) :
    Wal.execPhases i cmd snap wfail = walPhaseNames.map (walPhaseFn i cmd snap wfail) := rfl

/-- The annotation is sound for the model: a phase annotated without a key-value write leaves
the key-value scope alone, a phase annotated without a cache write leaves the cache alone. -/
theorem agg_phase_frame {A : Agg} (i : Nat) (cmd : Option (Sent A)) (snap wfail : Bool)
    (ph : Phase) (p : Ent A × Local A) :
    ((aggPhaseOps ph).any kvWrite = false → (aggPhaseFn i cmd snap wfail ph p).1.kv = p.1.kv) ∧
    ((aggPhaseOps ph).any cacheWrite = false →
      (aggPhaseFn i cmd snap wfail ph p).1.cache = p.1.cache) := by
  cases ph
  case load => exact ⟨fun _ => congrArg Ent.kv (phLoad_fst i p), fun _ => congrArg Ent.cache (phLoad_fst i p)⟩
  case catchUp =>
    exact ⟨fun _ => congrArg Ent.kv (phCatchUp_fst p), fun _ => congrArg Ent.cache (phCatchUp_fst p)⟩
  case decide =>
    exact ⟨fun _ => congrArg Ent.kv (phDecide_fst cmd p), fun _ => congrArg Ent.cache (phDecide_fst cmd p)⟩
  case store => exact ⟨fun h => absurd h (by decide), fun _ => phStore_cache wfail p⟩
  case process => exact ⟨fun h => absurd h (by decide), fun _ => phProcess_cache cmd wfail p⟩
  case cache => exact ⟨fun _ => phCache_kv i p, fun h => absurd h (by decide)⟩
  case snapshot => exact ⟨fun h => absurd h (by decide), fun _ => phSnapshot_cache snap wfail p⟩
  case finish =>
    exact ⟨fun _ => congrArg Ent.kv (phFinish_fst p), fun _ => congrArg Ent.cache (phFinish_fst p)⟩

theorem wal_phase_frame {T : Wal.WalT} (i : Nat) (cmd : Option T.Cmd) (snap wfail : Bool)
    (ph : Phase) (p : Wal.Ent T × Wal.Local T) :
    ((walPhaseOps ph).any kvWrite = false → (walPhaseFn i cmd snap wfail ph p).1.kv = p.1.kv) ∧
    ((walPhaseOps ph).any cacheWrite = false →
      (walPhaseFn i cmd snap wfail ph p).1.cache = p.1.cache) := by
  cases ph
  case load =>
    exact ⟨fun _ => congrArg Wal.Ent.kv (Wal.phLoad_fst i p), fun _ => congrArg Wal.Ent.cache (Wal.phLoad_fst i p)⟩
  case catchUp =>
    exact ⟨fun _ => congrArg Wal.Ent.kv (Wal.phCatchUp_fst p), fun _ => congrArg Wal.Ent.cache (Wal.phCatchUp_fst p)⟩
  case decide => exact ⟨fun _ => rfl, fun _ => rfl⟩
  case store => exact ⟨fun _ => rfl, fun _ => rfl⟩
  case process => exact ⟨fun h => absurd h (by decide), fun _ => Wal.phProcess_cache cmd wfail p⟩
  case cache => exact ⟨fun _ => Wal.phCache_kv i p, fun h => absurd h (by decide)⟩
  case snapshot => exact ⟨fun h => absurd h (by decide), fun _ => Wal.phSnapshot_cache snap wfail p⟩
  case finish =>
    exact ⟨fun _ => congrArg Wal.Ent.kv (Wal.phFinish_fst p), fun _ => congrArg Wal.Ent.cache (Wal.phFinish_fst p)⟩

/-! ## The assumption is necessary: the duplicate check in a section of its own -/

/-- `phAdd` is the duplicate check followed by the rest. -/
theorem phAdd_eq {A : Agg} (i : Nat) (actor : String) (ic : A.InitCmd) (wfail : Bool) (e : Ent A) :
    phAdd i actor ic wfail (e, .start) =
      if e.kv.hasCmd 0 then (e, .done .duplicate) else phAddUnchecked i actor ic wfail (e, .start) := by
  unfold phAdd phAddUnchecked
  cases e.kv.hasCmd 0 <;> rfl

/-- Run back to back – nobody in between – the check section
followed by the write section does to the entity and returns to the caller exactly what the
one-section `add` does: no sequential test can tell the two apart. -/
theorem split_sequential_is_add {A : Agg} (s : SplitS A) (caller : Nat) (c : AddCall A) :
    let r := phWrite caller c (phCheck caller (s, Local.start))
    (r.1.ent, r.2.out) = add s.ent c.i c.actor c.ic c.wfail := by
  simp only [phWrite, phCheck, add, phAdd_eq, alookup_ainsert, if_true]
  cases s.ent.kv.hasCmd 0 <;> simp

/-- Two threads create the same, not yet existing handle (entity 0) through the split variant. -/
def twoCreators : Sys (splitMachine (Reg.regAgg 1)) :=
  Sys.init (fun _ => { ent := Ent.empty })
    [[(0, .check 0), (0, .write 0 ⟨0, "t0", "n0", false⟩)],
     [(0, .check 1), (0, .write 1 ⟨0, "t1", "n1", false⟩)]]

/-- Both duplicate checks first (each a complete, well-bracketed section: acquire, run,
release), then both writes (again complete sections). -/
def bothCheckFirst : List Nat := [0, 0, 0, 1, 1, 1, 0, 0, 0, 1, 1, 1]

/-- What the callers were told (`some (version, name)` = created), the actors of the stored
commands by key, and what a fresh store loads. -/
def splitSummary (sys : Sys (splitMachine (Reg.regAgg 1))) :
    List (List (Option (Nat × String))) × List (Nat × String) × Option (Nat × String) :=
  (sys.threads.map fun th => th.outs.filterMap fun o =>
      o.map fun o => match o with | .ok v => some (v.version, v.st.name) | _ => none,
   (sys.ents 0).ent.kv.cmds.map fun p => (p.1, p.2.actor),
   match loadFresh (sys.ents 0).ent with | .ok v => some (v.version, v.st.name) | _ => none)

/-- With the duplicate check of `add` in a critical
section of its own – every section taken on the scope lock and well bracketed, the lock
excluding (`run true`) – the schedule `bothCheckFirst` lets both threads create the handle: both
are told `ok` (an instance named `n0`, an instance named `n1`), the store holds ONE
`command-0` – `t1`'s; `t0`'s acknowledged init command is lost and a fresh store loads `n1`.
Version 0 was handed out twice.  Hence `store_methods_single_section` is an assumption the
C07 theorems need, not a convenience. -/
theorem check_outside_section_loses_init :
    splitSummary (run true twoCreators bothCheckFirst) =
      ([[some (1, "n0")], [some (1, "n1")]], [(0, "t1")], some (1, "n1")) ∧
    (∀ th ∈ (run true twoCreators bothCheckFirst).threads, th.cur.isNone ∧ th.todo = []) := by
  decide +kernel

/-- The same two creators through the code's one-section `add`. -/
def twoCreatorsOneSection : Sys (addMachine (Reg.regAgg 1)) :=
  Sys.init (fun _ => Ent.empty) [[(0, ⟨0, "t0", "n0", false⟩)], [(0, ⟨0, "t1", "n1", false⟩)]]

/-- With check and write in one section the second creator is refused, whatever the two threads
do in between (here: thread 1 tries to start while thread 0 is inside). -/
theorem one_section_refuses_second_init :
    let sys := run true twoCreatorsOneSection [0, 1, 0, 1, 0, 1, 1, 1]
    (sys.threads.map fun th => th.outs.map fun o =>
      match o with | .ok v => "ok:" ++ v.st.name | .duplicate => "duplicate" | _ => "?") =
      [["ok:n0"], ["duplicate"]] ∧
    (sys.ents 0).kv.cmds.map (fun p => (p.1, p.2.actor)) = [(0, "t0")] := by
  decide +kernel

section OneOk
variable {A : Agg}

def isOk : Out A → Bool
  | .ok _ => true
  | _ => false

/-- Number of `add` calls that were acknowledged. -/
def okCount (outs : List (Nat × (addMachine A).Out)) : Nat :=
  (outs.filter fun o => isOk (A := A) o.2).length

theorem okCount_append (l : List (Nat × (addMachine A).Out)) (t : Nat) (o : (addMachine A).Out) :
    okCount (l ++ [(t, o)]) = okCount l + (if isOk (A := A) o then 1 else 0) := by
  simp only [okCount, List.filter_append, List.length_append]
  cases h : isOk (A := A) o <;> simp [List.filter, h]

/-- An `add` is acknowledged exactly when it makes the handle exist. -/
theorem add_step (e : Ent A) (c : AddCall A) :
    let r := (addMachine A).runOp c e
    r.1.kv.hasCmd 0 = (e.kv.hasCmd 0 || isOk r.2) ∧ (e.kv.hasCmd 0 = true → isOk r.2 = false) := by
  simp only [Machine.runOp, Machine.runFrom, addMachine, List.drop_zero, List.foldl_cons,
    List.foldl_nil, phAdd_eq]
  cases hh : e.kv.hasCmd 0 with
  | true => simp [hh, Local.out, isOk]
  | false =>
    simp only [Bool.false_eq_true, if_false, phAddUnchecked]
    cases A.processInit c.ic with
    | error err => simp [hh, Local.out, isOk]
    | ok ev =>
      cases c.wfail with
      | true => simp [hh, Local.out, isOk]
      | false => simp [Local.out, isOk, Scope.hasCmd]

/-- `add` calls for ONE handle, one after the other in any order, from a
state in which the handle does not exist: the number of acknowledged calls is 1 if the handle
exists afterwards and 0 otherwise – never two. -/
theorem serial_adds_one_ok (ents0 : Nat → Ent A) (h0 : (ents0 0).kv.hasCmd 0 = false)
    (order : List (Acq (addMachine A))) (hent : ∀ a ∈ order, a.ent = 0) :
    okCount (serial ents0 order).outs = if ((serial ents0 order).ents 0).kv.hasCmd 0 then 1 else 0 := by
  refine List.foldlRecOn (motive := fun st : SerialSt (addMachine A) =>
    okCount st.outs = if (st.ents 0).kv.hasCmd 0 then 1 else 0) order serialStep
    (by simp [okCount, h0]) fun st h a hmem => ?_
  have ha : a.ent = 0 := hent a hmem
  obtain ⟨h1, h2⟩ := add_step (st.ents 0) a.op
  show okCount (st.outs ++ [(a.tid, ((addMachine A).runOp a.op (st.ents a.ent)).2)]) =
    if ((upd st.ents a.ent ((addMachine A).runOp a.op (st.ents a.ent)).1) 0).kv.hasCmd 0 then 1 else 0
  rw [okCount_append, h, ha]
  simp only [upd, if_true]
  rw [h1]
  cases hh : (st.ents 0).kv.hasCmd 0 with
  | true => rw [h2 hh]; rfl
  | false => cases isOk ((addMachine A).runOp a.op (st.ents 0)).2 <;> rfl

/-- Any number of threads sending `add` for one new handle through
the code's one-section `add`, any schedule, at quiescence: every thread holds the results of
the serial execution in lock order, and in that execution at most one call was acknowledged –
exactly one iff the handle now exists.  (`hent`: the calls are calls on entity 0 – the
acquisition log only holds program entries, `serialisable` item 4.) -/
theorem concurrent_adds_one_ok (ents0 : Nat → Ent A) (h0 : (ents0 0).kv.hasCmd 0 = false)
    (progs : List (List (Nat × AddCall A))) (sched : List Nat)
    (hq : ∀ (t : Nat) (th : Thread (addMachine A)),
      (run true (Sys.init ents0 progs) sched).threads[t]? = some th → th.cur = none ∧ th.todo = [])
    (hent : ∀ a ∈ (run true (Sys.init (M := addMachine A) ents0 progs) sched).acq, a.ent = 0) :
    let sys := run true (Sys.init (M := addMachine A) ents0 progs) sched
    let ser := serial ents0 sys.acq
    (∀ (t : Nat) (th : Thread (addMachine A)), sys.threads[t]? = some th → th.outs = ser.outsOf t) ∧
    okCount ser.outs = (if (sys.ents 0).kv.hasCmd 0 then 1 else 0) := by
  intro sys ser
  obtain ⟨h1, h2⟩ := C07.quiescent_equals_serial (M := addMachine A) ents0 progs sched hq
  refine ⟨fun t th ht => (h2 t th ht).1, ?_⟩
  rw [h1 0]
  exact serial_adds_one_ok ents0 h0 _ hent

/-- The hypotheses are satisfiable (four creators, a schedule that runs them to the end). -/
example :
    let progs : List (List (Nat × AddCall (Reg.regAgg 1))) :=
      [[(0, ⟨0, "t0", "n0", false⟩)], [(0, ⟨0, "t1", "n1", false⟩)],
       [(0, ⟨0, "t2", "n2", false⟩)], [(0, ⟨0, "t3", "n0", false⟩)]]
    let sys := run true (Sys.init (M := addMachine (Reg.regAgg 1)) (fun _ => Ent.empty) progs)
      [2, 0, 1, 2, 3, 2, 0, 0, 0, 1, 1, 1, 3, 3, 3]
    (∀ th ∈ sys.threads, th.cur.isNone ∧ th.todo = []) ∧ (∀ a ∈ sys.acq, a.ent = 0) ∧
    okCount (serial (fun _ => Ent.empty) sys.acq).outs = 1 := by
  decide +kernel

end OneOk

/-! ## What the reviewed exemption of `drop_aggregate` costs -/

/-- Thread 0 deletes the entity (`dropKv` in the section, `dropCache` after it), thread 1 sends a
command through the same store object, thread 0 then creates the handle again and reads it. -/
def dropRace : Sys (dropMachine (Reg.regAgg 1)) :=
  Sys.init
    (fun _ => (add (Ent.empty : Ent (Reg.regAgg 1)) 0 "init" "n0" false).1)
    [[(0, .dropKv), (0, .dropCache 0)], [(0, .call (.cmd 0 ⟨"late", .add 2⟩ false))]]

/-- `drop_aggregate` clears the cache after the scope lock
is released (`Sections.exempt`).  If a command of another thread gets the lock in between, it
finds the deleted entity in the cache, is acknowledged (version 2, count 2) and stores
`command-1` into the emptied scope: the scope now holds `command-1` without `command-0` – an
entity that "does not exist" (`has` = false) with an audit record.  When the handle is created
again, the new entity's first read replays the stray command of the deleted one (count 2
instead of 0).  With the cache cleared inside the section (`dropKv; dropCache` back to back) the
command is refused as `unknown`.  Model-level witness; not replayed on the code (there is no
hook point between the release of the lock and `cache_remove`); the `conc` stream serialises
`drop_aggregate` with the other calls on the entity. -/
theorem drop_cache_after_section_strays :
    let sys := run true dropRace [0, 0, 0, 1, 1, 1, 1, 1, 1, 1, 1, 1, 0, 0, 0]
    let e := sys.ents 0
    (sys.threads.map fun th => th.outs.filterMap fun o => o.map fun o =>
        match o with | .ok v => some (v.version, v.st.count) | _ => none) = [[], [some (2, 2)]] ∧
    e.kv.cmds.map (fun p => (p.1, p.2.actor)) = [(1, "late")] ∧ has e = false ∧
    (let e' := (add e 0 "again" "n1" false).1
     (match (getLatest e' 0).2 with | .ok v => some (v.version, v.st.count) | _ => none) = some (2, 2)) ∧
    (let sys' := run true dropRace [0, 0, 0, 0, 0, 0, 1, 1, 1, 1, 1, 1, 1, 1, 1]
     (sys'.threads.map fun th => th.outs.filterMap fun o => o.map fun o =>
        match o with | .unknown => "unknown" | _ => "other") = [[], ["unknown"]] ∧
     (sys'.ents 0).kv.cmds = []) := by
  decide +kernel

/-! ## The dynamic check's predicates on examples -/

/-- What the unchanged `add` shows fits the table and is one section; the two sections of the
seeded variant fit neither. -/
example : sectionsFit .agg_add [⟨"s", ["has", "store"]⟩] = true ∧
    sectionsFit .agg_add [⟨"s", ["has"]⟩] = true ∧
    sectionsFit .agg_add [⟨"s", ["has"]⟩, ⟨"s", ["store"]⟩] = false ∧
    sectionsFit .agg_add [⟨"o", ["has"]⟩, ⟨"s", ["store"]⟩] = false ∧
    singleSection [⟨"s", ["has"]⟩, ⟨"s", ["store"]⟩] = false ∧
    singleSection [⟨"g", []⟩, ⟨"s", ["delete_scope"]⟩] = true := by
  decide +kernel

/-- A history query runs one section per command it reads; a WAL removal the store-wide section
of `has_scope` and the section that deletes. -/
example : sectionsFit .agg_command_history [⟨"s", ["get"]⟩, ⟨"s", ["get"]⟩, ⟨"s", ["get"]⟩] = true ∧
    sectionsFit .wal_remove [⟨"g", []⟩, ⟨"s", ["delete_scope"]⟩] = true ∧
    sectionsFit .wal_remove [⟨"g", []⟩] = true ∧
    sectionsFit .agg_drop_aggregate [⟨"s", ["delete_scope"]⟩, ⟨"s", ["get"]⟩] = false := by
  decide +kernel

end KM.Props.C07Src
