/-
C20 (source tie) — the hand-written model of the provider chain `Authorizer::authenticate_request`
(`KM.Http.authenticate`, Http/Auth.lean) equals the definition that the translator `pure_fns`
regenerates from `/repo/src/daemon/http/auth/authorizer.rs` on every run (`Generated/PureFnsC20.lean`,
`KM.Gen.C20.Authorizer.authenticate_request`).

`authenticates_iff`, `refused_everywhere`, `wrong_credentials_refused` (Props/C20.lean, Props/C13.lean)
are about `KM.Http.authenticate`: legacy admin-token provider first (if there is one), then the primary
provider unless the legacy one *succeeded* (its error does not stop the chain), then the Unix-socket
peer unless an earlier provider succeeded; success = `Ok(Some(_))`, `Ok(None)` = anonymous, `Err` =
error identity.  With `gen_authenticate_request_eq_model` that order and every fall-through arm are
tied to the Rust statements: reordering the providers, stopping the chain at an error, letting the
socket peer override a presented credential, treating `Ok(None)` of the last provider as success –
each such edit changes the generated definition and this file stops checking.

Instantiation: `ρ` (the returned `(AuthInfo, Option<Token>)`) ↦ `AuthRes`; a provider result
`Result<Option<ρ>, Error>` ↦ `toExcept`; the legacy provider exists iff the primary provider is not
the admin-token provider itself (`Authorizer::new`, modelled by `legacyProvider`).  The session-cache
state the primary provider returns is outside the generated body (`authenticate_state` says when it is
consulted at all).
-/
import KrillModel.Generated.PureFnsC20
import KrillModel.Http.AuthLemmas
namespace KM.Props.C20Src
open KM.Http

/-- A provider's `Result<Option<(AuthInfo, Option<Token>)>, Error>`. -/
def toExcept : AuthRes → Except Unit (Option AuthRes)
  | .ok id r => .ok (some (.ok id r))
  | .none => .ok Option.none
  | .err => .error ()

/-- `self.legacy_provider`: `Some` iff the configured primary provider is not the admin-token
provider (authorizer.rs `Authorizer::new`). -/
def legacyOpt (cfg : Config) : Option Unit :=
  match cfg.authType with
  | .configFile => some ()
  | .adminToken => Option.none

/-- The generated chain with the model's providers plugged in. -/
abbrev genAuthenticate (cfg : Config) (st : SessState) (h : Header) (t : Transport) : AuthRes :=
  KM.Gen.C20.Authorizer.authenticate_request (ρ := AuthRes) (ε := Unit) (π := Unit)
    (legacyOpt cfg) (fun _ => toExcept (adminProvider cfg h))
    (toExcept (primaryProvider cfg st h).1) (toExcept (unixProvider cfg t))
    AuthRes.none (fun _ => AuthRes.err)

/-- The chain over abstract provider results, as the model writes it. -/
def chain (r1 r2 r3 : AuthRes) : AuthRes :=
  let a := if r1.isOk then r1 else r2
  if a.isOk then a else r3

/-- The generated body over arbitrary provider results (legacy provider present). -/
theorem gen_chain_some (r1 r2 r3 : AuthRes) :
    KM.Gen.C20.Authorizer.authenticate_request (ρ := AuthRes) (ε := Unit) (π := Unit)
      (some ()) (fun _ => toExcept r1) (toExcept r2) (toExcept r3) AuthRes.none (fun _ => AuthRes.err)
      = chain r1 r2 r3 := by
  cases r1 <;> cases r2 <;> cases r3 <;> rfl

/-- … and without a legacy provider: the chain starts with `Ok(None)`. -/
theorem gen_chain_none (r1 : Unit → Except Unit (Option AuthRes)) (r2 r3 : AuthRes) :
    KM.Gen.C20.Authorizer.authenticate_request (ρ := AuthRes) (ε := Unit) (π := Unit)
      Option.none r1 (toExcept r2) (toExcept r3) AuthRes.none (fun _ => AuthRes.err)
      = chain AuthRes.none r2 r3 := by
  cases r2 <;> cases r3 <;> rfl

/-- `Authorizer::authenticate_request` as translated from the source = the model the C20 theorems
are about, for every configuration, session state, header and transport. -/
theorem gen_authenticate_request_eq_model (cfg : Config) (st : SessState) (h : Header) (t : Transport) :
    genAuthenticate cfg st h t = (authenticate cfg st h t).1 := by
  rw [authenticate_eq]
  show _ = chain (legacyProvider cfg h) (primaryProvider cfg st h).1 (unixProvider cfg t)
  unfold genAuthenticate legacyOpt legacyProvider
  cases cfg.authType with
  | configFile => exact gen_chain_some _ _ _
  | adminToken => exact gen_chain_none _ _ _

/-- When the model consults the primary provider at all (its session-cache effect): exactly when the
legacy provider did not succeed – the `_ =>` arm of the second `match`. -/
theorem authenticate_state (cfg : Config) (st : SessState) (h : Header) (t : Transport) :
    (authenticate cfg st h t).2 =
      if (legacyProvider cfg h).isOk then st else (primaryProvider cfg st h).2 := by
  rw [authenticate_eq]

/-- Non-vacuity / what the order means: an ERROR of the legacy provider does not stop the chain, a
success does; a socket peer never overrides a successful earlier provider. -/
example (id : String) (r r' : Role) :
    chain .err (.ok id r) .none = .ok id r ∧ chain (.ok id r) .err (.ok "peer" r') = .ok id r ∧
      chain .err .err (.ok "peer" r') = .ok "peer" r' ∧ chain .none .none .none = .none := by
  simp [chain, AuthRes.isOk]

end KM.Props.C20Src
