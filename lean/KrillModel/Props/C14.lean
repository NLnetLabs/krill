/-
C14 — Manifests, CRLs and signed objects are refreshed in time with rising numbers.

Theorems over `Ca/Objects.lean` (key object sets, `re_issue`, `republish_all`) and the renewal part
of `Ca/RoaObjects.lean`.  All statements are for every state, every timing configuration, every
instant and every history.
-/
import KrillModel.Ca.ObjLemmas
import KrillModel.Ca.RoaLemmas
namespace KM.Props.C14
open KM.Ca.Pub

/-- A re-issue bumps the number by exactly one. -/
theorem number_plus_one (s : KeyObjectSet) (t : Timing) (i : IssueIn) :
    (s.reissue t i).revision.number = s.revision.number + 1 := rfl

/-- Manifest and CRL are built from the same revision: numbers and validity windows agree with each
other and with the stored revision – after creation and after every re-issue. -/
theorem mft_crl_numbers_agree (s : KeyObjectSet) (t : Timing) (i : IssueIn) :
    NumbersAgree (s.reissue t i) ∧ NumbersAgree (KeyObjectSet.create s.base s.crlName s.mftName t i) :=
  ⟨numbersAgree_reissue s t i, numbersAgree_create _ _ _ t i⟩

/-- … and they keep agreeing along every history of a CA's object store (commands with arbitrary
events, republish runs), for every key set in every key state. -/
theorem mft_crl_numbers_agree_always (t : Timing) (o : CaObjects) (ops : List CaOp)
    (h : ∀ s ∈ allSets o, GoodSet s) : ∀ s ∈ allSets (caRun t o ops), NumbersAgree s :=
  fun s hs => (good_caRun t ops o h s hs).numbersAgree

example : ∀ s ∈ allSets ([] : CaObjects), GoodSet s := by simp [allSets]

/-- The window of a freshly issued manifest/CRL contains the instant of issue
(`next_hours ≥ 1`; krill's configuration check demands `≥ 2`). -/
theorem window_contains_now (s : KeyObjectSet) (t : Timing) (i : IssueIn) (h : t.nextHours ≥ 1) :
    let s' := s.reissue t i
    s'.revision.thisUpdate ≤ i.now ∧ i.now < s'.revision.nextUpdate ∧
    s'.manifest.thisUpdate ≤ i.now ∧ i.now < s'.manifest.nextUpdate ∧
    s'.crl.thisUpdate ≤ i.now ∧ i.now < s'.crl.nextUpdate := by
  have h1 : fiveMinutesAgo i.now ≤ i.now := Nat.sub_le _ _
  have h2 : i.now < publishNext t i := by
    unfold publishNext
    omega
  exact ⟨h1, h2, h1, h2, h1, h2⟩

example : (1 : Nat) ≤ ({} : Timing).nextHours := by decide

/-- Without the hypothesis the window can be empty: `next_hours = 0`, no jitter. -/
theorem window_needs_next_hours :
    ∃ (s : KeyObjectSet) (i : IssueIn),
      ¬ (i.now < (s.reissue { nextHours := 0, jitterHours := 0, hoursBefore := 0 } i).revision.nextUpdate) :=
  ⟨default, { now := 1000 }, by decide⟩

/-- A re-issue changes no payload: the published objects are the same. -/
theorem reissue_keeps_payloads (s : KeyObjectSet) (t : Timing) (i : IssueIn) :
    (s.reissue t i).published = s.published := rfl

/-- … for a whole republish run over every class and key state. -/
theorem republish_keeps_payloads (o : CaObjects) (force : Bool) (now : Nat) (t : Timing) (ins : IssueInputs) :
    (allSets (reissueIfNeeded o force now t ins).1).map (·.published) = (allSets o).map (·.published) := by
  simp only [reissueIfNeeded, reIssue, allSets, List.map_flatMap, List.flatMap_map]
  congr 1
  funext e
  split
  · exact class_reissue_published t _ _ e.2
  · rfl

/-- Every class in which some key set (current, staging or old) is within the margin is re-issued
– all of its sets – and the run reports the CA, so that the scheduler queues the repository sync
(scheduler.rs:476-492 schedules `SyncRepo` for every reported CA).

The trust anchor's own manifest and CRL are *not* covered: `republish_all` walks the CA store
only; the TA is refreshed by a proxy↔signer exchange (task `RenewTestbedTa` in testbed mode). -/
theorem due_is_reissued (o : CaObjects) (now : Nat) (t : Timing) (ins : IssueInputs)
    (rcn : Nat) (c : ClassObjects) (hc : (rcn, c) ∈ o) (s : KeyObjectSet) (hs : s ∈ c.sets)
    (hdue : s.requiresReissuance now t.hoursBefore = true) :
    (rcn, c.reissue t (ins rcn).1 (ins rcn).2) ∈ (reissueIfNeeded o false now t ins).1 ∧
    (reissueIfNeeded o false now t ins).2 = true ∧
    (∀ s' ∈ (c.reissue t (ins rcn).1 (ins rcn).2).sets, ∃ s₀ ∈ c.sets, ∃ i,
        s' = s₀.reissue t i ∧ s'.revision.number = s₀.revision.number + 1) := by
  have hcd : (false || c.requiresReissuance now t.hoursBefore) = true :=
    (class_due_iff now t.hoursBefore c).mpr ⟨s, hs, hdue⟩
  exact ⟨List.mem_map.mpr ⟨(rcn, c), hc, if_pos hcd⟩, List.any_eq_true.mpr ⟨(rcn, c), hc, hcd⟩,
    class_reissue_sets t _ _ c⟩

example : ∃ (s : KeyObjectSet), s.requiresReissuance 100 8 = true := ⟨default, by decide⟩

/-- A run that finds nothing due changes nothing and reports nothing. -/
theorem nothing_due_nothing_changes (o : CaObjects) (now : Nat) (t : Timing) (ins : IssueInputs)
    (h : ∀ e ∈ o, ∀ s ∈ e.2.sets, s.requiresReissuance now t.hoursBefore = false) :
    reissueIfNeeded o false now t ins = (o, false) := by
  have h2 : (reIssue o false now t ins).2 = false :=
    List.any_eq_false.mpr fun e he hc =>
      have ⟨s, hs, hd⟩ := (class_due_iff now t.hoursBefore e.2).mp hc
      Bool.false_ne_true ((h e he s hs).symm.trans hd)
  exact Prod.ext (reIssue_false_id o false now t ins h2) h2

example : ∃ (s : KeyObjectSet), s.requiresReissuance 100 8 = false :=
  ⟨{ (default : KeyObjectSet) with revision := ⟨1, 0, 1000000⟩ }, by decide⟩

/-- Over every history of a key set the number is the initial number plus the number of
re-issues: it never decreases, every re-issue adds exactly one, nothing else touches it. -/
theorem numbers_strictly_increase (t : Timing) (s : KeyObjectSet) (ops : List SetOp) :
    (s.run t ops).revision.number = s.revision.number + (ops.filter SetOp.isReissue).length := by
  induction ops generalizing s with
  | nil => rfl
  | cons op ops ih =>
    rw [KeyObjectSet.run, List.foldl_cons, ← KeyObjectSet.run, ih, step_number, List.filter_cons]
    cases op.isReissue
    · rfl
    · exact Nat.add_right_comm _ 1 _

/-- The manifest only changes in a re-issue: a different manifest means a higher number. -/
theorem manifest_changes_only_with_number (t : Timing) (s : KeyObjectSet) (op : SetOp) :
    (s.step t op).manifest ≠ s.manifest → (s.step t op).revision.number = s.revision.number + 1 := by
  cases op with
  | update u => exact fun h => absurd (congrArg (·.2.1) (update_signed s u)) h
  | updateCerts c => exact fun h => absurd (congrArg (·.2.1) (updateCerts_signed s c)) h
  | reissue i => exact fun _ => rfl
  | retire now => exact fun h => absurd rfl h

/-! ### The trust anchor's manifest number

The daemon always passes `None` for the override; `krillta`'s `--ta-mft-number-override` is an explicit
operator input, and is exactly what can break monotonicity. -/

theorem ta_number_plus_one (o : TaObjects) (a b : Nat) :
    (o.republish a b none).revision.number = o.revision.number + 1 := rfl

theorem ta_override_breaks_monotonicity :
    ∃ (o : TaObjects) (n : Nat), (o.republish 0 0 (some n)).revision.number < o.revision.number :=
  ⟨{ revision := ⟨5, 0, 0⟩ }, 1, by decide⟩

/-- `create_renewal`: exactly the objects that expire before the threshold (all, if forced) are
renewed; the set of payloads – object by object – is unchanged. -/
theorem renew_due_objects (r : Roas) (hr : r.WF) (force : Bool) (thr : Nat)
    (mintS : Payload → ObjMeta) (mintA : AggKey → ObjMeta) :
    let r' := r.apply (r.createRenewal force thr mintS mintA)
    (∀ p info, (p, info) ∈ r.simple →
      ((force = true ∨ info.obj.expires < thr) → (p, ⟨[p], mintS p⟩) ∈ r'.simple) ∧
      (¬ (force = true ∨ info.obj.expires < thr) → (p, info) ∈ r'.simple)) ∧
    (∀ k info, (k, info) ∈ r.agg →
      ((force = true ∨ info.obj.expires < thr) → (k, ⟨info.auths, mintA k⟩) ∈ r'.agg) ∧
      (¬ (force = true ∨ info.obj.expires < thr) → (k, info) ∈ r'.agg)) ∧
    (∀ p, p ∈ r'.payloads ↔ p ∈ r.payloads) ∧ r'.WF :=
  renewal_exact r hr force thr mintS mintA

example : (({} : Roas)).WF := wf_empty

/-! ### Every change of the object store queues a repository sync

`cert_auth_pre_save_events` ends with `re_issue(force_reissue)`: a set that is due is re-issued even
when none of the command's events changes objects.  Since the fix of finding F-C14-2 (/repo
9258d910) the listener reports that and `CertAuth::pre_save_events` queues `SyncRepo`. -/

/-- If a command queues no repository sync, it has not changed the object store at all (so: every
re-issue, forced or due, and every object change is followed by a sync). -/
theorem every_change_queues_sync (o : CaObjects) (evs : List ObjEvent) (now : Nat) (t : Timing)
    (ins : IssueInputs) (o' : CaObjects) (h : preSaveSync o evs now t ins = some (o', false)) : o' = o := by
  obtain ⟨⟨o1, f⟩, hev, hr⟩ := Option.map_eq_some_iff.mp h
  obtain ⟨h1, h23⟩ := Prod.mk.inj hr
  obtain ⟨h2, h3⟩ := Bool.or_eq_false_iff.mp h23
  rw [← h1, reIssue_false_id o1 f now t ins h3, applyEvents_nosync_id t evs o o1 f h2 hev]

example : preSaveSync [(0, .current default)] [.other] 100 {} (fun _ => (default, default)) =
    some ([(0, .current ((default : KeyObjectSet).reissue {} default))], true) := by decide +kernel

/-- The behaviour before the fix (replayed on the code at the time, finding F-C14-2): a command
whose events queue no sync re-issued a due manifest – the new manifest stayed unpublished. -/
theorem pinned_command_reissue_without_sync :
    ∃ (o : CaObjects) (evs : List ObjEvent) (now : Nat) (t : Timing) (ins : IssueInputs) (o' : CaObjects),
      pinnedPreSaveSync o evs now t ins = some (o', false) ∧ o' ≠ o :=
  ⟨[(0, .current default)], [.other], 100, {}, fun _ => (default, default),
    [(0, .current ((default : KeyObjectSet).reissue {} default))], by decide +kernel, by decide +kernel⟩

/-- Whenever nothing is due, only forcing events change the object store. -/
theorem not_due_only_forcing_events_change (o : CaObjects) (evs : List ObjEvent) (now : Nat) (t : Timing)
    (ins : IssueInputs) (o₁ : CaObjects)
    (hev : applyEvents t o evs = some (o₁, false))
    (h : ∀ e ∈ o₁, ∀ s ∈ e.2.sets, s.requiresReissuance now t.hoursBefore = false) :
    preSave o evs now t ins = some o₁ := by
  unfold preSave
  rw [hev]
  exact congrArg (fun r => some r.1) (nothing_due_nothing_changes o₁ now t ins h)

end KM.Props.C14
