/-
C15 (source tie) — the hand-written model of the trust-anchor proxy's two gate-keeping commands
(`KM.Ta.processSignerResponse`, the `makeSignerRequest` arm of `KM.Ta.process`, Ta/Proxy.lean) equals
the definitions that the translator `pure_fns` regenerates from `/repo/src/server/taproxy.rs` on every
run (`Generated/PureFnsC15.lean`: `KM.Gen.C15.TrustAnchorProxy.process_signer_response`,
`…process_make_signer_request`).  Likewise `process_give_child_response`, and, under the second heading, the two guards
in front of the signing in the signer's `process_signer_request` (`/repo/src/tasigner/signer.rs`).

`response_accepted_iff` (a response is accepted iff a request is open ∧ its nonce is that request's ∧
it is validly signed by the associated signer; otherwise nothing changes) and `one_open_request`
(Props/C15.lean) are about these two functions.  With the theorems below the order and the content of
the guards are tied to the Rust statements: accepting without an open request, comparing the nonce
after the signature (or not at all), validating against another key than the associated signer's,
accepting when validation fails, allowing a second open request – each such edit changes the generated
definition and this file stops checking.

Instantiation: nonces ↦ `Nat`, the associated signer ↦ `SignerInfo`, `response.validate(&signer.id)` ↦
`Signed.validFor m s.idKey` (as `Except`), the three errors ↦ the model's `Err`, the accepted event
list ↦ `[.signerResponseReceived m.clear]`.
-/
import KrillModel.Generated.PureFnsC15
import KrillModel.Ta.Lemmas
namespace KM.Props.C15Src
open KM.Ta

/-- `response.validate(&signer.id)?` with the model's validity predicate. -/
def validateAs (m : Signed RespBody) (s : SignerInfo) : Except Err Unit :=
  if m.validFor s.idKey then .ok () else .error .invalidSignature

/-- The generated body with the model's proxy state and message plugged in. -/
abbrev genSignerResponse (p : Proxy) (m : Signed RespBody) : Except Err (List Ev) :=
  KM.Gen.C15.TrustAnchorProxy.process_signer_response (ν := Nonce) (σ := SignerInfo) (ε := Err) (α := List Ev)
    p.openNonce p.signer m.clear.nonce (validateAs m) .hasNoRequest .nonceMismatch .noSigner
    [.signerResponseReceived m.clear]

/-- `TrustAnchorProxy::process_signer_response` as translated from the source = the model, for every
proxy state and every (honest, replayed, stale, cross-wired, modified) message. -/
theorem gen_process_signer_response_eq_model (p : Proxy) (m : Signed RespBody) :
    genSignerResponse p m = processSignerResponse p m := by
  unfold genSignerResponse KM.Gen.C15.TrustAnchorProxy.process_signer_response processSignerResponse
  cases p.openNonce with
  | none => rfl
  | some n =>
    by_cases hn : m.clear.nonce = n
    · simp only [hn, ne_eq, not_true_eq_false, if_false]
      cases p.signer with
      | none => rfl
      | some s =>
        simp only [validateAs]
        cases m.validFor s.idKey <;> rfl
    · simp only [ne_eq, hn, not_false_eq_true, if_true]

/-- `TrustAnchorProxy::process_make_signer_request` as translated = the `makeSignerRequest` arm. -/
theorem gen_process_make_signer_request_eq_model (p : Proxy) (n : Nonce) :
    KM.Gen.C15.TrustAnchorProxy.process_make_signer_request (ν := Nonce) (ε := Err) (α := List Ev)
      p.openNonce .hasRequest [.signerRequestMade n] = process p (.makeSignerRequest n) := by
  unfold KM.Gen.C15.TrustAnchorProxy.process_make_signer_request process
  cases p.openNonce <;> rfl

/-- `TrustAnchorProxy::process_give_child_response` as translated = the `giveChildResponse` arm: a response is
handed over only while the proxy holds one for that child and key – otherwise the command is REFUSED, which is what
makes a second, overlapping delivery fail ("delivered to that child exactly once", `exactly_once`). -/
theorem gen_process_give_child_response_eq_model (p : Proxy) (c : Child) (k : Key) :
    KM.Gen.C15.TrustAnchorProxy.process_give_child_response (C := Unit) (ε := Err) (α := List Ev)
      (if p.known c then .ok () else .error .childUnknown) (fun _ => ahas p.openResp (c, k))
      [.childResponseGiven c k] .noResponse = process p (.giveChildResponse c k) := by
  unfold KM.Gen.C15.TrustAnchorProxy.process_give_child_response process
  cases hk : p.known c
  · simp [hk]
  · cases ho : ahas p.openResp (c, k) <;> simp [hk, ho]

/-- Hence the generated body accepts exactly under the three conditions of the property. -/
theorem gen_accepts_iff (p : Proxy) (m : Signed RespBody) :
    (∃ evs, genSignerResponse p m = .ok evs) ↔
      ∃ s, p.openNonce = some m.clear.nonce ∧ p.signer = some s ∧ m.validFor s.idKey = true := by
  rw [gen_process_signer_response_eq_model]
  constructor
  · rintro ⟨evs, h⟩
    obtain ⟨i, h1, h2, h3, _⟩ := processSignerResponse_ok_iff.mp h
    exact ⟨i, h1, h2, h3⟩
  · rintro ⟨i, h1, h2, h3⟩
    exact ⟨_, processSignerResponse_ok_iff.mpr ⟨i, h1, h2, h3, rfl⟩⟩

/-! non-vacuity: an honest response is accepted; a replay after completion, a stale nonce and a
foreign signature are refused with the three different errors -/
def sig0 : SignerInfo := ⟨7, 1, ⟨1, [], []⟩⟩
def honest : Signed RespBody := ⟨7, ⟨42, ⟨2, [], []⟩, []⟩, ⟨42, ⟨2, [], []⟩, []⟩, true⟩
example : genSignerResponse { idKey := 3, signer := some sig0, openNonce := some 42 } honest
    = .ok [.signerResponseReceived honest.clear] := by decide
example : genSignerResponse { idKey := 3, signer := some sig0, openNonce := none } honest
    = .error .hasNoRequest := by decide
example : genSignerResponse { idKey := 3, signer := some sig0, openNonce := some 43 } honest
    = .error .nonceMismatch := by decide
example : genSignerResponse { idKey := 3, signer := some sig0, openNonce := some 42 } { honest with signer := 8 }
    = .error .invalidSignature := by decide

/-! ## The signer's two guards (`TrustAnchorSigner::process_signer_request`)

The statements in front of the signing - the request validates under the associated proxy's identity; a manifest-number
override must EXCEED the signer's current manifest / CRL number - are regenerated as
`KM.Gen.C15.TrustAnchorSigner.process_signer_request` (everything from `let mut objects = self.objects.clone();` on is the
parameter `rest`).  With the model's parts plugged in this is the model's `processSignerRequest` (`ta_numbers_increase_partial`
and `request_processed_iff_signed_by_proxy` in Props/C15.lean are about it): `<` instead of `<=`, a comparison with another
number than the signer's own current one (seed C15-r6: the number of the last exchange, 1 when there has been none), the
override check before the validation - each such edit changes the generated definition or its name map and this file stops
checking. -/

/-- The signing itself, as the model has it (the continuation after the two guards). -/
def signerRest (s : Signer) (m : Signed ReqBody) (override : Option Nat) : Except SErr (Signer × Signed RespBody) :=
  match signAll m.clear.resources { objects := s.objects, serial := s.nextSerial } m.clear.entries with
  | .error e => .error e
  | .ok a =>
    let objects := a.objects.republish override
    let rb : RespBody := { nonce := m.clear.nonce, objects := objects, entries := a.out }
    .ok ({ s with objects := objects, exchanges := s.exchanges ++ [(m.clear, rb)],
                  nextSerial := a.serial },
         { signer := s.idKey, body := rb, clear := rb, fresh := true })

theorem gen_process_signer_request_eq_model (s : Signer) (m : Signed ReqBody) (override : Option Nat) :
    KM.Gen.C15.TrustAnchorSigner.process_signer_request
        (if m.validFor s.proxyKey then Except.ok () else Except.error SErr.invalidSignature)
        s.objects.number (fun _ _ => SErr.overrideTooLow) (signerRest s m override) override =
      processSignerRequest s m override := by
  have hm : processSignerRequest s m override =
      if !(m.validFor s.proxyKey) then .error .invalidSignature
      else if !(override.all fun v => decide (s.objects.number < v)) then .error .overrideTooLow
      else signerRest s m override := rfl
  rw [hm]
  unfold KM.Gen.C15.TrustAnchorSigner.process_signer_request
  cases m.validFor s.proxyKey with
  | false => rfl
  | true =>
    cases override with
    | none => rfl
    | some f =>
      -- the source tests `forced ≤ current`, the model the negation of `current < forced`
      simp only [Option.all_some, Bool.not_eq_true', decide_eq_false_iff_not, Nat.not_lt]
      rfl

/-- An accepted override is strictly above the signer's current number, whatever that number came from (an earlier
exchange, an override, or the number the signer was INITIALISED with). -/
theorem accepted_override_exceeds_current (s : Signer) (m : Signed ReqBody) (f : Nat)
    (r : Signer × Signed RespBody) (h : processSignerRequest s m (some f) = .ok r) : s.objects.number < f := by
  obtain ⟨-, hovr, -⟩ := processSignerRequest_ok_iff (s' := r.1) (r := r.2).mp h
  exact hovr f rfl

/-- Non-vacuity: a signer initialised at manifest number 42 whose FIRST request (no exchange yet) carries an override -
7 and 42 are refused, 43 is accepted and becomes the number (the scenario of corpus `proto-ta/first-override-after-init-number`;
seed C15-r6 accepted 7). -/
example :
    let s : Signer := { idKey := 4, proxyKey := 2, taKey := 1, objects := { number := 42 } }
    let m : Signed ReqBody := { signer := 2, body := { nonce := 3 }, clear := { nonce := 3 } }
    processSignerRequest s m (some 7) = .error .overrideTooLow ∧
    processSignerRequest s m (some 42) = .error .overrideTooLow ∧
    (processSignerRequest s m (some 43)).toOption.map (·.1.objects.number) = some 43 ∧
    s.exchanges = [] := by decide

end KM.Props.C15Src
