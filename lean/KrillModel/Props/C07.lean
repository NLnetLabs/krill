/-
C07 — Commands are atomic, serialised per entity and completely audited.
Property theorems, with the few helper lemmas that only they use; the lemma files are
`KrillModel.ES.Lemmas` / `KrillModel.Sys.Lemmas`.

`Sys/Interleave.lean`: threads issue calls; each call is the list of phases of
`execute_opt_command` bracketed by acquiring / releasing the scope lock of its entity; the
scheduler (`sched`, any list of thread ids) picks who makes the next micro-step.
-/
import KrillModel.ES.Lemmas
import KrillModel.ES.ObsLemmas
import KrillModel.Sys.Lemmas
import KrillModel.Sys.AggSerial
import KrillModel.Sys.EffectsLemmas
import KrillModel.ES.HistLemmas
import KrillModel.ES.Reg
/-
Clause → theorem (text of C07 in /verif/properties.jsonl):
* "applied one at a time in a single total order" / "every interleaving … same and different
  entities": `serialisable`, `quiescent_equals_serial` (any machine), `agg_serialisable`,
  `serialisable_with_listeners` (listeners writing shared stores under the scope lock);
  necessity of the lock: `lock_necessary`; the dynamic assumption: `wellBracketed_exclusive`.
* "each state-changing or rejected command receives exactly one consecutive version number":
  `command_owns_one_version`, `accepted_owns_one_version`, `rejected_only_audit`,
  `view_wellFormed(_reachable)` (keys `command-0…n-1`, record `k` has version `k`).
* "none is lost or applied twice": `serialisable` item 4, `audit_log_in_lock_order`.
* "every reader sees a state that is a prefix of that order": `read_is_prefix_state`,
  `agg_serialisable` (results = serial results), `history_read_linearisable`.
* "A rejected command changes nothing observable except for one audit record carrying the
  error": `rejected_only_audit(_obs)`.
* "a command without effect leaves no trace": `noop_no_trace(_obs)`; also
  `presave_failure_no_trace(_obs)`, `failed_write_no_trace`.
* "the history API lists every recorded command in order with its actor": `history_lists_all`
  (with `drop_aggregate`), `history_lists_all_no_drop`, `history_lists_all_obs`,
  `history_read_linearisable`; counter-models: `history_stale_after_drop` (pinned tree),
  `history_needs_dropSafe`, `history_read_straddling_recreation`.
-/
namespace KM.Props.C07
open KM.ES KM.Sys

/-! ## Serialisability (any machine, any number of threads and entities, any schedule) -/

section Generic
variable {M : Machine}

/-- Whatever the schedule, the interleaved execution of lock-bracketed
calls is the serial execution of the same calls in lock-acquisition order (`sys.acq`):

1. two threads are never inside calls on the same entity (mutual exclusion);
2. every entity nobody is inside of is in exactly the state the serial execution leaves it in;
   an entity somebody is inside of gets there once that call is run to its end;
3. every thread has received exactly the results of the serial execution (its call in flight,
   if any, will receive the serial result);
4. no call is lost and none is executed twice: for every thread the calls it started (in
   `acq`) followed by the calls still to do are its program. -/
theorem serialisable (ents0 : Nat → M.S) (progs : List (List (Nat × M.Op))) (sched : List Nat) :
    let sys := run true (Sys.init ents0 progs) sched
    let ser := serial ents0 sys.acq
    (∀ (t t' : Nat) (th th' : Thread M) (r r' : Running M),
        sys.threads[t]? = some th → sys.threads[t']? = some th' →
        th.cur = some r → th'.cur = some r' → r.ent = r'.ent → t = t') ∧
    (∀ e, sys.locked e = false → sys.ents e = ser.ents e) ∧
    (∀ (t : Nat) (th : Thread M) (r : Running M), sys.threads[t]? = some th → th.cur = some r →
        (M.runFrom r.op r.pc (sys.ents r.ent, r.loc)).1 = ser.ents r.ent) ∧
    (∀ (t : Nat) (th : Thread M), sys.threads[t]? = some th →
        th.completeOuts sys.ents = ser.outsOf t ∧ (th.cur = none → th.outs = ser.outsOf t)) ∧
    (∀ (t : Nat) (th : Thread M), sys.threads[t]? = some th →
        sys.startedBy t ++ (if th.cur.isSome then th.todo.drop 1 else th.todo) = (progs[t]?).getD []) := by
  intro sys ser
  have h : SerInv ents0 progs sys := run_inv (serInv_init ents0 progs) sched
  refine ⟨h.excl, ?_, fun t th r ht => (h.thread t th ht).held r, ?_, fun t th ht => (h.thread t th ht).prog⟩
  · intro e hl
    apply h.free e
    intro t th r h1 h2 h3
    have : sys.locked e = true := (locked_iff sys e).mpr ⟨t, th, r, h1, h2, h3⟩
    rw [hl] at this; cases this
  · intro t th ht
    have := (h.thread t th ht).outs
    refine ⟨this, ?_⟩
    intro hc
    simpa [Thread.completeOuts, hc] using this

/-- At quiescence (every thread finished) the whole system is in the serial state, every
thread holds the serial results, and the acquisition order is an interleaving of the
programs: each program is exactly the subsequence of `acq` of its thread. -/
theorem quiescent_equals_serial (ents0 : Nat → M.S) (progs : List (List (Nat × M.Op)))
    (sched : List Nat)
    (hq : ∀ (t : Nat) (th : Thread M), (run true (Sys.init ents0 progs) sched).threads[t]? = some th →
      th.cur = none ∧ th.todo = []) :
    let sys := run true (Sys.init ents0 progs) sched
    (∀ e, sys.ents e = (serial ents0 sys.acq).ents e) ∧
    (∀ (t : Nat) (th : Thread M), sys.threads[t]? = some th →
      th.outs = (serial ents0 sys.acq).outsOf t ∧ sys.startedBy t = (progs[t]?).getD []) := by
  intro sys
  obtain ⟨_, h2, _, h4, h5⟩ := serialisable ents0 progs sched
  constructor
  · intro e
    apply h2 e
    cases hl : (run true (Sys.init ents0 progs) sched).locked e with
    | false => rfl
    | true =>
      obtain ⟨t, th, r, h1, hc, _⟩ := (locked_iff _ e).mp hl
      rw [(hq t th h1).1] at hc; cases hc
  · intro t th ht
    obtain ⟨hc, htodo⟩ := hq t th ht
    refine ⟨(h4 t th ht).2 hc, ?_⟩
    have := h5 t th ht
    simpa [hc, htodo] using this

end Generic

/-! ## The aggregate store under concurrency -/

section AggStore
variable {A : Agg}

/-- Threads sending commands, reads and snapshot requests to the same and
to different entities through any store objects, under any schedule: every entity nobody is
inside of stores exactly the audit log that the *serial* execution of the calls in
lock-acquisition order produces, one call after the other on the log alone (`specSerial`),
and every finished thread has received the results of that serial execution.

With `Inv` (`ES/Spec.lean`) this says: the command keys are `command-0 … command-(n-1)` with
record `k` carrying version `k` (consecutive versions, `Inv.cmds`/`Inv.vers`), and with
`specStep`/`specCommand`: every accepted or rejected command appended exactly one record under
the next key, carrying its actor (none lost, none twice), a command without effect or with a
failing pre-save listener appended nothing, and every read returned `finalOf` of the log at
its place in the order – a prefix of the final order (`read_is_prefix_state`). -/
theorem agg_serialisable (hiv : A.initVersion ≤ 1) (ents0 : Nat → Ent A) (L0 : Nat → Log A)
    (h0 : ∀ e, Inv (ents0 e) (L0 e)) (progs : List (List (Nat × AggCall A))) (sched : List Nat) :
    let sys := run true (Sys.init (M := aggMachine A) ents0 progs) sched
    let sp := specSerial L0 sys.acq
    (∀ e, sys.locked e = false → Inv (sys.ents e) (sp.1 e)) ∧
    (∀ (t : Nat) (th : Thread (aggMachine A)), sys.threads[t]? = some th → th.cur = none →
      th.outs = (sp.2.filter (·.1 == t)).map (·.2)) := by
  intro sys sp
  obtain ⟨_, h2, _, h4, _⟩ := serialisable (M := aggMachine A) ents0 progs sched
  obtain ⟨r1, r2⟩ := serial_refines hiv ents0 L0 h0 sys.acq
  constructor
  · intro e hl
    rw [h2 e hl]; exact r1 e
  · intro t th ht hc
    rw [(h4 t th ht).2 hc]
    unfold SerialSt.outsOf
    rw [r2]
    rfl

/-- Under any schedule, for every entity nobody is inside of: the
stored audit log is the initial log followed by records `new` such that the `(actor, details)`
stamps of `new` are – in order – a sub-sequence of the commands sent to that entity *in
lock-acquisition order*.  So every stored record belongs to exactly one command call, no call
is recorded twice, and the records are in lock order (which calls are recorded – the accepted
and the rejected ones – is `command_owns_one_version`). -/
theorem audit_log_in_lock_order (hiv : A.initVersion ≤ 1) (ents0 : Nat → Ent A) (L0 : Nat → Log A)
    (h0 : ∀ e, Inv (ents0 e) (L0 e)) (progs : List (List (Nat × AggCall A))) (sched : List Nat) :
    let sys := run true (Sys.init (M := aggMachine A) ents0 progs) sched
    ∀ e, sys.locked e = false → ∃ new : List (Stored A),
      Inv (sys.ents e) (L0 e ++ new) ∧
      (new.map stampOf).Sublist (commandStamps (callsOn sys.acq e)) := by
  intro sys e hl
  have h1 := (agg_serialisable hiv ents0 L0 h0 progs sched).1 e hl
  rw [specSerial_ent] at h1
  obtain ⟨new, hn, hs⟩ := specRun_calls_sublist (callsOn sys.acq e) (L0 e)
  exact ⟨new, by rw [← hn]; exact h1, hs⟩

/-- A read returns the replay of the log as it is at the read's place in the order. -/
theorem read_is_prefix_state (L : Log A) (i : Nat) :
    (specStep L (.get i)).2 = some (match finalOf L with | some w => .ok w | none => .unknown) ∧
    (specStep L (.get i)).1 = L :=
  ⟨congrArg Prod.snd (specStep_get L i), congrArg Prod.fst (specStep_get L i)⟩

/-- What one command does to the audit log (definition of `specCommand`, spelled out):
rejected → exactly one error record under the next version with the actor; accepted → exactly
one success record; no-op, vetoed or panicking → nothing. -/
theorem command_owns_one_version (L : Log A) (w : Ver A) (c : Sent A) :
    (∃ e, A.process w.st c.details = .error e ∧
        specCommand L w c = (L ++ [⟨c.actor, L.length, some c.details, .error e⟩], .err e)) ∨
    (∃ evs s', evs ≠ [] ∧ A.process w.st c.details = .ok evs ∧ applyEvents A w.st evs = some s' ∧
        A.preSave s' evs = none ∧
        specCommand L w c =
          (L ++ [⟨c.actor, L.length, some c.details, .success evs⟩], .ok ⟨w.version + 1, s'⟩)) ∨
    ((specCommand L w c).1 = L) :=
  (specCommand_cases L w c).imp_right (Or.imp_right And.left)

/-! ### listeners that write other stores while the scope lock is held -/

section Listeners
variable {E : EMachine}

/-- Calls on several entities whose phases also write to a store
shared by all entities while the entity's scope lock is held (krill: the pre-save listener
writes the CA's objects, the post-save listener the task queue).  The shared store receives the
writes of different entities interleaved in time, yet under any schedule, for every entity
nobody is inside of: (1) its state is the serial state in lock-acquisition order; (2) its
writes in the shared store (`writesOf`) are exactly the writes of the serial execution of its
calls, in lock order, each once – no write of an accepted command is missing, duplicated or
out of order; (3) every finished thread holds the serial results. -/
theorem serialisable_with_listeners (ents : Nat → E.S) (progs : List (List (Nat × E.Op)))
    (sched : List Nat) :
    let g := grun (GSys.init (E := E) ents progs) sched
    let ser := serial (M := E.toMachine) (fun e => (ents e, [])) g.sys.acq
    (∀ e, g.sys.locked e = false →
      g.sys.ents e = ser.ents e ∧ g.writesOf e = (ser.ents e).2) ∧
    (∀ (t : Nat) (th : Thread E.toMachine), g.sys.threads[t]? = some th → th.cur = none →
      th.outs = ser.outsOf t) := by
  intro g ser
  have hsys : g.sys = run true (Sys.init (M := E.toMachine) (fun e => (ents e, [])) progs) sched :=
    run_sys _ sched
  obtain ⟨_, h2, _, h4, _⟩ :=
    serialisable (M := E.toMachine) (fun e => (ents e, [])) progs sched
  rw [← hsys] at h2 h4
  have hw := grun_writes (GSys.init (E := E) ents progs) sched fun _ => rfl
  exact ⟨fun e hl => ⟨h2 e hl, by rw [hw e, h2 e hl]⟩, fun t th ht hc => (h4 t th ht).2 hc⟩

/-- Non-vacuity: two threads, two entities; every call adds to its entity and writes
`(old value, amount)` to the shared store.  In this schedule the writes of entity 0 and 1
interleave in the shared store and thread 1 has to wait for entity 0; per entity the writes are
in lock order and chain (`(0,1), (1,3), (4,5)`: each sees the value the previous one left). -/
@[reducible] def tickMachine : EMachine where
  S := Nat
  Op := Nat
  Loc := Unit
  Out := Nat
  Eff := Nat × Nat
  start := fun _ => ()
  phases := fun n => [fun p => ((p.1 + n, ()), [(p.1, n)])]
  finish := fun n _ => n

example :
    let g := grun (GSys.init (E := tickMachine) (fun _ => 0)
      [[(0, 1), (0, 3)], [(1, 10), (0, 5)]]) [0, 1, 0, 1, 0, 1, 0, 1, 1, 0, 1, 0, 1, 1, 1]
    g.shared = [(0, (0, 1)), (1, (0, 10)), (0, (1, 3)), (0, (4, 5))] ∧
    g.writesOf 0 = [(0, 1), (1, 3), (4, 5)] ∧ g.writesOf 1 = [(0, 10)] ∧
    (g.sys.ents 0).1 = 9 ∧ (g.sys.ents 1).1 = 10 ∧
    g.sys.threads.map (·.outs) = ([[1, 3], [10, 5]] : List (List Nat)) := by
  refine ⟨rfl, rfl, rfl, rfl, rfl, rfl⟩

end Listeners

/-! ### the lock is necessary -/

/-- Two threads, one command each, on the same existing entity. -/
def twoWriters : Sys (aggMachine (Reg.regAgg 1)) :=
  Sys.init
    (fun _ => (add (Ent.empty : Ent (Reg.regAgg 1)) 0 "init" "n0" false).1)
    [[(0, .cmd 0 ⟨"t0", .add 1⟩ false)], [(0, .cmd 0 ⟨"t1", .add 2⟩ false)]]

/-- The schedule that interleaves the two calls phase by phase. -/
def racy : List Nat := [0, 1, 0, 1, 0, 1, 0, 1, 0, 1, 0, 1, 0, 1, 0, 1, 0, 1]

def summary (sys : Sys (aggMachine (Reg.regAgg 1))) :
    List (List (Option (Nat × Nat))) × List (Nat × String) × Option (Nat × Nat) :=
  (sys.threads.map fun th => th.outs.map fun o =>
      match o with | .ok v => some (v.version, v.st.count) | _ => none,
   (sys.ents 0).kv.cmds.map fun p => (p.1, p.2.actor),
   match loadFresh (sys.ents 0) with | .ok v => some (v.version, v.st.count) | _ => none)

/-- Without the bracket (or with a lock that does not exclude: write
weakened to read, a fresh lock object per call) the schedule `racy` loses an update: both
threads are told their command was applied as version 2 (counts 1 and 2), but `command-1.json`
holds only `t1`'s command and the state rebuilt from the log has count 2 – `t0`'s acknowledged
command is gone.  With the lock `racy ++ racy` gives versions 2 and 3, two command keys and
count 3. -/
theorem lock_necessary :
    summary (run false twoWriters racy) =
      ([[some (2, 1)], [some (2, 2)]], [(1, "t1"), (0, "init")], some (2, 2)) ∧
    summary (run true twoWriters (racy ++ racy)) =
      ([[some (2, 1)], [some (3, 3)]], [(2, "t1"), (1, "t0"), (0, "init")], some (3, 3)) := by
  constructor <;> rfl

end AggStore

/-! ## Audit: rejected, no-op and vetoed commands; history -/

section Audit
variable {A : Agg}

/-- A rejected command returns its error, adds exactly one audit
record (next version, actor, the error) under the next key and changes nothing else in the
store; the state replayed afterwards is the old state with the version bumped. -/
theorem rejected_only_audit (hiv : A.initVersion ≤ 1) {e : Ent A} {L : Log A} (h : Inv e L)
    {w : Ver A} (hw : finalOf L = some w) (i : Nat) (c : Sent A) {err : A.Err}
    (hp : A.process w.st c.details = .error err) :
    let r := command e i c
    let rec_ : Stored A := ⟨c.actor, L.length, some c.details, .error err⟩
    r.2 = .err err ∧
    r.1.kv = e.kv.putCmd L.length rec_ ∧
    Inv r.1 (L ++ [rec_]) ∧
    loadFresh r.1 = .ok ⟨w.version + 1, w.st⟩ := by
  intro r rec_
  have hs : specStep L (.cmd i c false) = (L ++ [rec_], some (.err err)) := by
    simp [specStep_cmd hw, specCommand, hp, rec_]
  have hc := execOpt_cmd hiv h hw i c false
  rw [hs] at hc
  refine ⟨Option.some.inj hc.out, hc.kv_put rec_ rfl, hc.inv, ?_⟩
  have hfin : finalOf (L ++ [rec_]) = some ⟨w.version + 1, w.st⟩ := finalOf_append hiv hw rec_
  have := getLatest_spec hiv hc.inv.clearCaches 0
  rwa [hfin] at this

/-- An accepted command returns the updated aggregate with the
next version and adds exactly one record (the next key, actor, the events); nothing else
in the store changes. -/
theorem accepted_owns_one_version (hiv : A.initVersion ≤ 1) {e : Ent A} {L : Log A} (h : Inv e L)
    {w : Ver A} (hw : finalOf L = some w) (i : Nat) (c : Sent A) {ev : A.Ev} {evs : List A.Ev}
    {s' : A.State} (hp : A.process w.st c.details = .ok (ev :: evs))
    (ha : applyEvents A w.st (ev :: evs) = some s') (hs : A.preSave s' (ev :: evs) = none) :
    let r := command e i c
    let rec_ : Stored A := ⟨c.actor, L.length, some c.details, .success (ev :: evs)⟩
    r.2 = .ok ⟨w.version + 1, s'⟩ ∧
    r.1.kv = e.kv.putCmd L.length rec_ ∧
    Inv r.1 (L ++ [rec_]) := by
  intro r rec_
  have hsp : specStep L (.cmd i c false) = (L ++ [rec_], some (.ok ⟨w.version + 1, s'⟩)) := by
    simp [specStep_cmd hw, specCommand, hp, ha, hs, rec_]
  have hc := execOpt_cmd hiv h hw i c false
  rw [hsp] at hc
  exact ⟨Option.some.inj hc.out, hc.kv_put rec_ rfl, hc.inv⟩

/-- A command without effect returns the current state and leaves the
key-value scope exactly as it was: no command key, no version. -/
theorem noop_no_trace (hiv : A.initVersion ≤ 1) {e : Ent A} {L : Log A} (h : Inv e L)
    {w : Ver A} (hw : finalOf L = some w) (i : Nat) (c : Sent A)
    (hp : A.process w.st c.details = .ok []) :
    let r := command e i c
    r.2 = .ok w ∧ r.1.kv = e.kv ∧ Inv r.1 L := by
  intro r
  have hs : specStep L (.cmd i c false) = (L, some (.ok w)) := by
    simp [specStep_cmd hw, specCommand, hp]
  have hc := execOpt_cmd hiv h hw i c false
  rw [hs] at hc
  exact ⟨Option.some.inj hc.out, hc.kv_same rfl, hc.inv⟩

/-- If the pre-save listener fails, the caller gets that error
and the entity – key-value scope *and* caches – is exactly as before: nothing stored, the
cached state untouched. -/
theorem presave_failure_no_trace (hiv : A.initVersion ≤ 1) {e : Ent A} {L : Log A} (h : Inv e L)
    {w : Ver A} (hw : finalOf L = some w) (i : Nat) (c : Sent A) {ev : A.Ev} {evs : List A.Ev}
    {s' : A.State} {err : A.Err}
    (hp : A.process w.st c.details = .ok (ev :: evs))
    (ha : applyEvents A w.st (ev :: evs) = some s') (hs : A.preSave s' (ev :: evs) = some err) :
    command e i c = (e, .err err) := by
  have hsp : specStep L (.cmd i c false) = (L, some (.err err)) := by
    simp [specStep_cmd hw, specCommand, hp, ha, hs]
  have hc := execOpt_cmd hiv h hw i c false
  rw [hsp] at hc
  exact Prod.ext (hc.veto_same err rfl rfl) (Option.some.inj hc.out)

/-- A failed write (I/O error) of the command record: error to the caller, nothing stored,
caches untouched – in particular the cache is *not* ahead of the store. -/
theorem failed_write_no_trace (hiv : A.initVersion ≤ 1) {e : Ent A} {L : Log A} (h : Inv e L)
    (hne : L ≠ []) (i : Nat) (c : Sent A) :
    (command e i c true).1.kv = e.kv ∧ Inv (command e i c true).1 L := by
  obtain ⟨w, hw⟩ := h.total hne
  have hc := execOpt_cmd hiv h hw i c true
  exact ⟨hc.kv_same (specStep_cmd_wfail L i c), specStep_cmd_wfail L i c ▸ hc.inv⟩

/-- A history query that runs concurrently with commands:
`command_history` holds the history-cache mutex for the whole query but takes the scope lock anew
for every `command-N` it reads, so commands of other threads are serialised between its reads
(`between k`).  Whatever slips in between, the records the query collects (it stops at the first
missing key, read number `m`) are exactly the complete history of the log as it was at that last
read – a state inside the query's own time span, after every command that completed before the
query started: the query is linearisable with the commands, its linearisation point being its
last read.  (Commands only append, `specRun_prefix`; for `drop_aggregate` see below.) -/
theorem history_read_linearisable (L : Log A) (between : Nat → List (Op A)) (m : Nat)
    (hsome : ∀ k, k < m → (readAt L between k).isSome = true)
    (hnone : readAt L between m = none) :
    (List.range m).filterMap (fun k => (readAt L between k).map Stored.toRecord) =
      recordsUpTo (logAt L between m) (logAt L between m).length ∧
    L <+: logAt L between m :=
  ⟨history_read_spec L between m hsome hnone, logAt_prefix L between (Nat.zero_le m)⟩

/-- Non-vacuity: a query on a log with one command; a second command (by `"late"`) is serialised
between its first and second read and a third after its last read – the query returns the
two-command history that was current at its last read. -/
example :
    let L : Log (Reg.regAgg 1) := specRun [] [.add 0 "a" "n0" false, .cmd 0 ⟨"first", .add 1⟩ false]
    let between : Nat → List (Op (Reg.regAgg 1)) := fun k =>
      if k = 0 then [.cmd 0 ⟨"late", .add 2⟩ false] else if k = 2 then [.cmd 0 ⟨"after", .add 1⟩ false] else []
    (readAt L between 0).isSome = true ∧ (readAt L between 1).isSome = true ∧
    readAt L between 2 = none ∧
    ((List.range 2).filterMap fun k => (readAt L between k).map (·.actor)) = ["first", "late"] := by
  decide +kernel

/-- `drop_aggregate` and history queries: the scope is deleted under the scope lock, the
history-cache entry is removed afterwards under the history-cache mutex (lock order history
cache → scope, never the reverse: `Locks/Model.lean`, C18).  Because a query holds that mutex
from its first to its last read, the removal happens entirely before or entirely after a query:
no query ever runs on a half-cleared cache, and after the removal every query starts from
`command-1` again – sequentially that is `history_lists_all` below (`DropSafe` histories).
What the mutex does *not* give: a query whose reads straddle a deletion **and** re-creation of
the handle sees keys of two different entities.  Model-level witness (not replayed on the code:
it needs delete + create + two commands inside one history query; the mixed list is handed to
that one caller only, the cache entry it leaves is removed by the pending `drop_aggregate`). -/
theorem history_read_straddling_recreation :
    let old : Log (Reg.regAgg 1) := specRunH []
      [.op (.add 0 "a" "n0" false), .op (.cmd 0 ⟨"old1", .add 1⟩ false), .op (.cmd 0 ⟨"old2", .add 1⟩ false)]
    let new : Log (Reg.regAgg 1) := specRunH old
      [.drop 0, .op (.add 0 "a" "n0" false), .op (.cmd 0 ⟨"new1", .add 1⟩ false),
       .op (.cmd 0 ⟨"new2", .add 1⟩ false), .op (.cmd 0 ⟨"new3", .add 1⟩ false)]
    -- read 0 on the old entity, reads 1.. on the new one
    ([old[1]?, new[2]?, new[3]?].filterMap fun r => r.map (·.actor)) = ["old1", "new2", "new3"] ∧
    new[4]? = none := by
  decide +kernel

/-- After every history – creation, accepted / rejected / no-op / vetoed
commands, failed writes, snapshots, store objects re-created, history queries at any earlier
point, *and* `drop_aggregate` followed by re-creation of the same handle (delete a CA, create
a CA of that name) – `command_history` through any store object, with or without history cache,
lists exactly the commands stored for the *current* entity from version 1 on, in order, each
with its version, actor, details and result.  (`DropSafe`: a drop happens while no other store
object remembers the entity – `drop_aggregate` can only clear the caches of the store object it
is called on; see `history_needs_dropSafe`.) -/
theorem history_lists_all (hiv : A.initVersion ≤ 1) (ops : List (HOp A))
    (hs : DropSafe (Ent.empty : Ent A) ops) (i : Nat) (cached : Bool) :
    (commandHistory (runH (Ent.empty : Ent A) ops) i cached {}).2.commands =
      ((specRunH ([] : Log A) ops).drop 1).map Stored.toRecord :=
  (commandHistory_spec (runH_refines hiv inv_empty ops hs) i cached).1

/-- The same for histories without `drop_aggregate` (no side condition). -/
theorem history_lists_all_no_drop (hiv : A.initVersion ≤ 1) (ops : List (Op A)) (i : Nat) (cached : Bool) :
    (commandHistory (run (Ent.empty : Ent A) ops) i cached {}).2.commands =
      ((specRun ([] : Log A) ops).drop 1).map Stored.toRecord :=
  (commandHistory_spec (run_refines hiv inv_empty ops) i cached).1

/-! ### non-vacuity of the hypotheses of the audit theorems -/

/-- A reachable entity of the register aggregate (created, one accepted command, count 2, a
snapshot, a second store object) together with its log and replayed state; on it a rejected
command (`fail`), a command without effect (`add 0`) and a vetoed one (`guarded 1`: the
updated count 3 is a multiple of 3) all exist – the hypotheses of `rejected_only_audit`,
`noop_no_trace`, `presave_failure_no_trace` and `accepted_owns_one_version` are satisfiable. -/
example :
    let ops : List (Op (Reg.regAgg 1)) :=
      [.add 0 "u" "n0" false, .cmd 0 ⟨"u", .add 2⟩ false, .snap 1 false]
    let e := run (Ent.empty : Ent (Reg.regAgg 1)) ops
    let L := specRun ([] : Log (Reg.regAgg 1)) ops
    Inv e L ∧
    (∃ w, finalOf L = some w ∧ w.version = 2 ∧
      (Reg.regAgg 1).process w.st Reg.Cmd.fail = .error Reg.Err.rejected ∧
      (Reg.regAgg 1).process w.st (Reg.Cmd.add 0) = .ok [] ∧
      (Reg.regAgg 1).process w.st (Reg.Cmd.guarded 1) = .ok [Reg.Ev.guardedAdd 1] ∧
      (∃ s', applyEvents (Reg.regAgg 1) w.st [Reg.Ev.guardedAdd 1] = some s' ∧
        (Reg.regAgg 1).preSave s' [Reg.Ev.guardedAdd 1] = some Reg.Err.veto) ∧
      (Reg.regAgg 1).process w.st (Reg.Cmd.add 3) = .ok [Reg.Ev.added 3] ∧
      (∃ s', applyEvents (Reg.regAgg 1) w.st [Reg.Ev.added 3] = some s' ∧
        (Reg.regAgg 1).preSave s' [Reg.Ev.added 3] = none)) := by
  refine ⟨run_refines (by decide) inv_empty _, ⟨⟨2, ⟨2, "n0"⟩⟩, rfl, rfl, rfl, rfl, rfl, ⟨_, rfl, rfl⟩, rfl, ⟨_, rfl, rfl⟩⟩⟩

/-- The initial entities of `twoWriters` satisfy the hypothesis of `agg_serialisable`. -/
example : ∀ e : Nat, Inv (twoWriters.ents e)
    (specRun ([] : Log (Reg.regAgg 1)) [.add 0 "init" "n0" false]) := by
  intro e
  exact run_refines (A := Reg.regAgg 1) (by decide) inv_empty [.add 0 "init" "n0" false]

/-- Non-vacuity of `DropSafe` and the delete / re-create scenario itself: the history through
the store object with history cache shows the new entity's command only. -/
example :
    let ops : List (HOp (Reg.regAgg 1)) :=
      [.op (.add 0 "a" "n0" false), .op (.cmd 0 ⟨"old", .add 1⟩ false), .op (.hist 0 true),
       .drop 0, .op (.add 0 "a" "n0" false), .op (.cmd 0 ⟨"new", .add 2⟩ false)]
    DropSafe (Ent.empty : Ent (Reg.regAgg 1)) ops ∧
    ((commandHistory (runH (Ent.empty : Ent (Reg.regAgg 1)) ops) 0 true {}).2.commands.map (·.actor))
      = ["new"] := by
  refine ⟨⟨trivial, trivial, trivial, ?_, trivial, trivial, trivial⟩, rfl⟩
  intro j hj
  constructor
  · show alookup ([(0, ⟨1, ⟨0, "n0"⟩⟩)] : List (Nat × Ver (Reg.regAgg 1))) j = none
    simp [alookup_cons, Ne.symm hj]
  · show alookup ((0, _) :: ([] : List (Nat × List (Record (Reg.regAgg 1))))) j = none
    simp [alookup_cons, Ne.symm hj]

/-- Counter-model (what the pinned tree did before fix 04272ff6, finding F-C07-1, replayed on the
implementation by `corpus/aggstore/history-after-drop.ops`): with a `drop_aggregate` that leaves
the history-cache entry alone, the cached history after delete + re-create shows the deleted
entity's command by `"old"` and misses the new entity's command by `"new"`, which an uncached
store object lists. -/
theorem history_stale_after_drop :
    let e1 := run (Ent.empty : Ent (Reg.regAgg 1))
      [.add 0 "a" "n0" false, .cmd 0 ⟨"old", .add 1⟩ false, .hist 0 true]
    let e2 := run (dropAggregatePinned e1 0) [.add 0 "a" "n0" false, .cmd 0 ⟨"new", .add 2⟩ false]
    ((commandHistory e2 0 true {}).2.commands.map (·.actor)) = ["old"] ∧
    ((commandHistory e2 1 false {}).2.commands.map (·.actor)) = ["new"] := by
  decide +kernel

/-- `DropSafe` is needed: a *second* store object with a history cache is out of reach of
`drop_aggregate` (modelled quirk; krill has one long-lived store object per namespace). -/
theorem history_needs_dropSafe :
    let ops : List (HOp (Reg.regAgg 1)) :=
      [.op (.add 0 "a" "n0" false), .op (.cmd 0 ⟨"old", .add 1⟩ false), .op (.hist 2 true),
       .drop 0, .op (.add 0 "a" "n0" false), .op (.cmd 0 ⟨"new", .add 2⟩ false)]
    ((commandHistory (runH (Ent.empty : Ent (Reg.regAgg 1)) ops) 2 true {}).2.commands.map (·.actor))
      = ["old"] := by
  decide +kernel

end Audit

/-! ## The oracle's predicates hold of the model

The driver evaluates the Boolean predicates of `ES/Obs.lean` on what the *implementation* shows
(stored keys, stored records, snapshot, results).  The theorems below prove the same predicates
of the model's observation `oView` / `oRet`, for every renderer `R`: a `FAIL oracle …` verdict is
therefore something no run of the model can produce. -/

section Observed
open KM.ES.Obs
variable {A : Agg}

/-- `versions_consecutive` / `one_key_per_command`: in every reachable state the stored keys are
`command-0 … command-(n-1)` (+ `snapshot.json`), record `k` carries version `k`, the first and
only the first is the init command. -/
theorem view_wellFormed {e : Ent A} {L : Log A} (h : Inv e L) (R : Render A) :
    (oView R e.kv).wellFormed = true := by
  unfold OView.wellFormed
  rw [Bool.and_eq_true]
  constructor
  · rw [oView_cmds h R]
    refine wfFrom_mapIdx L (oCmd R) 0 fun j c hc => ⟨(Nat.zero_add j).symm, ?_, ?_⟩
    · simpa [oCmd] using h.vers j c hc
    · have : (oCmd R j c).effect.isInit = c.effect.isInit := by unfold oCmd; cases c.effect <;> rfl
      rw [this]
      cases j with
      | zero => simpa using h.head c hc
      | succ j => simpa using h.tail (j + 1) c (Nat.succ_pos j) hc
  · have hk : (oView R e.kv).keys = expectedKeys L.length e.kv.snapshot.isSome := oKeys_eq h
    have hl := length_oView_cmds h R
    have hs : (oView R e.kv).snap.isSome = e.kv.snapshot.isSome := by
      simp [oView, oSnap]
    rw [hk, hl, hs]; simp

theorem view_wellFormed_reachable (hiv : A.initVersion ≤ 1) (ops : List (Op A)) (R : Render A) :
    (oView R (run (Ent.empty : Ent A) ops).kv).wellFormed = true :=
  view_wellFormed (run_refines hiv inv_empty ops) R

/-- `rejected_only_audit` on observations. -/
theorem rejected_only_audit_obs (hiv : A.initVersion ≤ 1) {e : Ent A} {L : Log A} (h : Inv e L)
    {w : Ver A} (hw : finalOf L = some w) (i : Nat) (c : Sent A) {err : A.Err}
    (hp : A.process w.st c.details = .error err) (R : Render A) :
    rejectedOnlyAudit (oView R e.kv) (oView R (command e i c).1.kv) c.actor
      (oRet R (command e i c).2) = true := by
  obtain ⟨h1, h2, h3, _⟩ := rejected_only_audit hiv h hw i c hp
  rw [h1]
  simp only [oRet, rejectedOnlyAudit]
  exact appendedOne_of_append (sc := ⟨c.actor, L.length, some c.details, .error err⟩) h h3 R
    (by rw [h2]; rfl) rfl true (R.err err) (by simp [oCmd])

/-- `versions_consecutive` / `one_key_per_command` for an accepted command, on observations. -/
theorem accepted_owns_one_version_obs (hiv : A.initVersion ≤ 1) {e : Ent A} {L : Log A}
    (h : Inv e L) {w : Ver A} (hw : finalOf L = some w) (i : Nat) (c : Sent A) {ev : A.Ev}
    {evs : List A.Ev} {s' : A.State} (hp : A.process w.st c.details = .ok (ev :: evs))
    (ha : applyEvents A w.st (ev :: evs) = some s') (hs : A.preSave s' (ev :: evs) = none)
    (R : Render A) :
    acceptedOrNoop (oView R e.kv) (oView R (command e i c).1.kv) c.actor (w.version + 1) = true := by
  obtain ⟨_, h2, h3⟩ := accepted_owns_one_version hiv h hw i c hp ha hs
  have hv := finalOf_version hiv hw
  have hl := length_oView_cmds h R
  have hl' : (oView R (command e i c).1.kv).cmds.length = L.length + 1 := by
    rw [length_oView_cmds h3 R, List.length_append]; rfl
  have happ := appendedOne_of_append (sc := ⟨c.actor, L.length, some c.details, .success (ev :: evs)⟩)
    h h3 R (by rw [h2]; rfl) rfl false "" (by simp [oCmd])
  unfold acceptedOrNoop
  rw [hl, hl']
  simp [hv]
  exact happ

/-- `noop_no_trace` on observations. -/
theorem noop_no_trace_obs (hiv : A.initVersion ≤ 1) {e : Ent A} {L : Log A} (h : Inv e L)
    {w : Ver A} (hw : finalOf L = some w) (i : Nat) (c : Sent A)
    (hp : A.process w.st c.details = .ok []) (R : Render A) :
    acceptedOrNoop (oView R e.kv) (oView R (command e i c).1.kv) c.actor w.version = true := by
  obtain ⟨_, h2, _⟩ := noop_no_trace hiv h hw i c hp
  have hv := finalOf_version hiv hw
  have hl := length_oView_cmds h R
  unfold acceptedOrNoop
  rw [h2]
  simp [noTrace, hl, hv]

/-- `presave_failure_no_trace` on observations. -/
theorem presave_failure_no_trace_obs (hiv : A.initVersion ≤ 1) {e : Ent A} {L : Log A}
    (h : Inv e L) {w : Ver A} (hw : finalOf L = some w) (i : Nat) (c : Sent A) {ev : A.Ev}
    {evs : List A.Ev} {s' : A.State} {err : A.Err}
    (hp : A.process w.st c.details = .ok (ev :: evs))
    (ha : applyEvents A w.st (ev :: evs) = some s') (hs : A.preSave s' (ev :: evs) = some err)
    (R : Render A) :
    noTrace (oView R e.kv) (oView R (command e i c).1.kv) = true := by
  rw [presave_failure_no_trace hiv h hw i c hp ha hs]
  simp [noTrace]

/-- `history_lists_all` on observations (unpaged query). -/
theorem history_lists_all_obs {e : Ent A} {L : Log A} (h : Inv e L) (i : Nat) (cached : Bool)
    (R : Render A) :
    let hist := (commandHistory e i cached {}).2
    historyListsAll (oView R e.kv) 0 none none hist.total (hist.commands.map (oRec R)) = true := by
  intro hist
  have hcmds : hist.commands = (L.drop 1).map Stored.toRecord := (commandHistory_spec h i cached).1
  have htot : hist.total = hist.commands.length := by
    simp only [hist, commandHistory]
    cases cached <;> simp [(historyFor_all _).1, (historyFor_all _).2]
  unfold historyListsAll
  rw [oView_cmds h R, List.map_drop, map_mapIdx_of_eq (oRecOfCmd_oCmd R), htot, hcmds]
  simp only [List.filter_eq_self.mpr fun _ _ => rfl, List.drop_zero, List.map_map, List.map_drop,
    Function.comp_def]
  rw [List.take_of_length_le (by simp)]
  simp

end Observed

/-! ## The lock log of the implementation -/

/-- The dynamic assumption behind `serialisable`, checked on the implementation's event log:
a well-bracketed log has no event of another thread between an acquisition and its
release (mutual exclusion, item 1 of `serialisable`). -/
theorem wellBracketed_exclusive (pre : List (Nat × LockEv)) (t u : Nat) (ev : LockEv)
    (mid post : List (Nat × LockEv))
    (h : wellBracketed (pre ++ (t, .acq) :: mid ++ (u, ev) :: post) = true)
    (hmid : ∀ x ∈ mid, x.2 ≠ .rel) : u = t := by
  -- while `t` holds the lock and nobody releases, every event is `t`'s
  have held : ∀ mid : List (Nat × LockEv), (∀ x ∈ mid, x.2 ≠ .rel) →
      wellBracketedFrom (some t) (mid ++ (u, ev) :: post) = true → u = t := by
    intro mid
    induction mid with
    | nil =>
      intro _ h
      rcases wellBracketedFrom_cons h with ⟨h1, _⟩ | ⟨h1, _⟩ | ⟨h1, _⟩ <;> cases h1 <;> rfl
    | cons x xs ih =>
      obtain ⟨a, b⟩ := x
      intro hx h
      rcases wellBracketedFrom_cons h with ⟨h1, _⟩ | ⟨h1, _, h2⟩ | ⟨_, hb, _⟩
      · cases h1
      · cases h1; exact ih (fun y hy => hx y (List.mem_cons_of_mem _ hy)) h2
      · exact absurd hb (hx _ List.mem_cons_self)
  obtain ⟨o, ho⟩ := wellBracketedFrom_append pre (o := none) (by rwa [List.append_assoc] at h)
  rcases wellBracketedFrom_cons ho with ⟨_, _, ho⟩ | ⟨_, hb, _⟩ | ⟨_, hb, _⟩
  · exact held mid hmid ho
  · cases hb
  · cases hb

example : wellBracketed [(1, .acq), (1, .op), (1, .rel), (2, .acq), (2, .op), (2, .op), (2, .rel)] = true := by
  decide +kernel
example : wellBracketed [(1, .acq), (2, .acq), (1, .op), (1, .rel), (2, .rel)] = false := by decide

end KM.Props.C07
