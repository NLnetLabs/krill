/-
C08 — A crash or failed write at any instant is recoverable without loss or divergence.
Property theorems over `KM.Fault` (generic in the aggregate and the listeners); at the end the file-system
mutations of the repository writer (`KM.Fault.Fs`).
-/
import KrillModel.Fault.Lemmas
import KrillModel.Fault.FsOrder
namespace KM.Props.C08
open KM.Fault
variable {S C Ev Er O T : Type} [DecidableEq T]

/-- The log after any cut is the old log or the old log plus the one new record – never
anything in between (every entity loads: the state is the replay of a well-formed log). -/
theorem cut_log_prefix (sys : Sys S C Ev Er O T) (w : World C Ev Er O T) (c : C) (k : Nat) :
    (crashAt sys w c k).log = w.log ∨ (crashAt sys w c k).log = (exec sys w c).log := by
  cases hl : logged sys w c k
  · exact .inl (crashAt_log_of_not_logged sys w c k hl)
  · exact .inr (by rw [crashAt_of_logged sys w c k hl])

/-- **Every entity loads and the state is all-or-nothing.**  After a cut at any `k` the
reloaded state is the state before the command or the state after it. -/
theorem crash_state_all_or_nothing (sys : Sys S C Ev Er O T) (w : World C Ev Er O T) (c : C)
    (k : Nat) :
    state sys (crashAt sys w c k) = state sys w ∨
    state sys (crashAt sys w c k) = state sys (exec sys w c) :=
  (cut_log_prefix sys w c k).imp (state_congr sys _ _) (state_congr sys _ _)

/-- **An acknowledged command is never lost**: once all mutations are through (the call
returned), the persistent world is that of the fault-free execution. -/
theorem acked_never_lost (sys : Sys S C Ev Er O T) (w : World C Ev Er O T) (c : C) (k : Nat)
    (h : (execMuts sys w c).length ≤ k) : crashAt sys w c k = exec sys w c := by
  unfold crashAt exec
  rw [List.take_of_length_le h]

/-- **Audit log and state agree at every cut**: the state reflects the command exactly when
its record is in the log. -/
theorem log_state_atomic (sys : Sys S C Ev Er O T) (w : World C Ev Er O T) (c : C) (k : Nat) :
    (logged sys w c k = true → state sys (crashAt sys w c k) = state sys (exec sys w c)) ∧
    (logged sys w c k = false → state sys (crashAt sys w c k) = state sys w) :=
  ⟨fun hl => by rw [crashAt_of_logged sys w c k hl],
    fun hl => state_congr sys _ _ (crashAt_log_of_not_logged sys w c k hl)⟩

/-- **The published-object set and the task queue are never behind the log**: if the
command's record is in the log after the cut, the whole persistent world is that of the
fault-free execution. -/
theorem objects_never_behind (sys : Sys S C Ev Er O T) (w : World C Ev Er O T) (c : C) (k : Nat)
    (hl : logged sys w c k = true) : crashAt sys w c k = exec sys w c :=
  crashAt_of_logged sys w c k hl

/-- Rejected commands and commands without effect are fully atomic: at every cut the whole
world is the old one or the new one. -/
theorem rejected_and_noop_atomic (sys : Sys S C Ev Er O T) (w : World C Ev Er O T) (c : C)
    (k : Nat)
    (h : (∃ e, sys.process (state sys w) c = .error e) ∨ sys.process (state sys w) c = .ok []) :
    crashAt sys w c k = w ∨ crashAt sys w c k = exec sys w c := by
  apply crashAt_of_pre_nil
  unfold pre
  rcases h with ⟨e, hp⟩ | hp <;> simp [hp]

/-- A command whose events touch neither the published-object
set nor the task queue is atomic in all three stores at every cut.  (The full statement –
for *every* command – is false of this code: `objects_ahead_of_log` below, finding F-C08-1.) -/
theorem atomic_per_command_partial (sys : Sys S C Ev Er O T) (w : World C Ev Er O T) (c : C)
    (k : Nat)
    (hobj : ∀ evs, sys.objUpd w.objects (state sys w) evs = none)
    (htask : ∀ evs, sys.tasks (state sys w) evs = []) :
    crashAt sys w c k = w ∨ crashAt sys w c k = exec sys w c := by
  apply crashAt_of_pre_nil
  unfold pre
  split
  · simp [listen, hobj, htask]  -- accepted with events: neither listener asks for anything
  · rfl

/-! ### The non-atomic window (finding F-C08-1) and convergence after re-submission -/

/-- A tiny concrete system: the state counts events, the object set mirrors the count. -/
def demo : Sys Nat Unit Unit Unit Nat Nat where
  init := 0
  process := fun _ _ => .ok [()]
  apply := fun s _ => s + 1
  objUpd := fun _ s evs => some (s + evs.length)
  tasks := fun s _ => [s]

/-- The full all-or-nothing statement over audit log, state *and* published-object set is
false: cut after the object-set write and before the command write. -/
theorem objects_ahead_of_log :
    let w : World Unit Unit Unit Nat Nat := ⟨[], 0, []⟩
    logged demo w () 1 = false ∧ state demo (crashAt demo w () 1) = state demo w ∧
    (crashAt demo w () 1).objects ≠ w.objects ∧
    (crashAt demo w () 1).objects = (exec demo w ()).objects := by
  decide +kernel

/-- **Re-submission converges.**  If the object-set listener is idempotent for the command's
events (writing the set twice gives the same set) and its "does not touch the set" verdict
does not depend on the current set, then after a cut at any point before the command was
logged, submitting the same request again yields the log, state and object set of the
fault-free run, and the same set of pending tasks. -/
theorem resubmit_converges (sys : Sys S C Ev Er O T) (w : World C Ev Er O T) (c : C) (k : Nat)
    (hl : logged sys w c k = false)
    (hidem : ∀ o s evs o', sys.objUpd o s evs = some o' → sys.objUpd o' s evs = some o')
    (hnone : ∀ o s evs, sys.objUpd o s evs = none → ∀ o2, sys.objUpd o2 s evs = none) :
    let w' := exec sys (crashAt sys w c k) c
    w'.log = (exec sys w c).log ∧ state sys w' = state sys (exec sys w c) ∧
    w'.objects = (exec sys w c).objects ∧
    ∀ t, t ∈ w'.tasks ↔ t ∈ (exec sys w c).tasks := by
  intro w'
  have hw1 := crashAt_of_not_logged sys w c k hl
  have hlog1 := crashAt_log_of_not_logged sys w c k hl
  have hst : state sys (crashAt sys w c k) = state sys w := state_congr sys _ _ hlog1
  -- the listeners ask for the same mutations as in the fault-free run: the object set after the
  -- cut is the old one or the one the listener asked for, and the listener is idempotent (`hnone` is not called
  -- on: where the listener asks for no write, the cut leaves the old set)
  have hpre : pre sys (crashAt sys w c k) c = pre sys w c := by
    unfold pre
    rw [hst]
    split
    · rename_i e evs hp
      have hobj : (crashAt sys w c k).objects = w.objects ∨
          sys.objUpd w.objects (state sys w) (e :: evs) = some (crashAt sys w c k).objects := by
        rw [hw1, objects_applyMuts, pre_ok hp]
        cases hlo : Fold.lastSome Mut.obj? ((listen sys w.objects (state sys w) (e :: evs)).take k) with
        | none => exact .inl rfl
        | some o =>
          exact .inr (mem_listen_setObjects (List.mem_of_mem_take (setObjects_mem_of_lastSome hlo)))
      unfold listen
      congr 3
      rcases hobj with h | h
      · rw [h]
      · rw [hidem _ _ _ _ h, h]
    · rfl
  -- so the re-submission replays a prefix of the listener mutations and then all mutations
  have hw' : w' = applyMuts w ((pre sys w c).take k ++ execMuts sys w c) := by
    show exec sys (crashAt sys w c k) c = _
    rw [exec, execMuts_eq, hpre, rec?_congr sys _ w c hlog1, ← execMuts_eq, hw1, ← applyMuts_append]
  have hnl : ∀ m ∈ (pre sys w c).take k, m.toRec = none :=
    fun m hm => pre_noLog sys w c m (List.mem_of_mem_take hm)
  have hlog : w'.log = (exec sys w c).log := by
    rw [hw', exec, log_applyMuts, log_applyMuts, List.filterMap_append,
      List.filterMap_eq_nil_iff.mpr hnl, List.nil_append]
  refine ⟨hlog, state_congr sys _ _ hlog, ?_, fun t => ?_⟩
  · rw [hw', exec, objects_applyMuts, objects_applyMuts, Fold.lastSome_append]
    cases h : Fold.lastSome Mut.obj? (execMuts sys w c) with
    | some o => rfl
    | none =>
      rw [lastSome_obj?_execMuts] at h
      show (Fold.lastSome Mut.obj? ((pre sys w c).take k)).getD w.objects = w.objects
      rw [Fold.lastSome_take_of_none h]; rfl
  · rw [hw', exec, mem_tasks_applyMuts, mem_tasks_applyMuts, List.mem_append]
    have hsub : Mut.addTask t ∈ (pre sys w c).take k → Mut.addTask t ∈ execMuts sys w c := by
      intro h
      rw [execMuts_eq]
      exact List.mem_append_left _ (List.mem_of_mem_take h)
    exact ⟨fun h => h.imp_right fun h => h.elim hsub id, fun h => h.imp_right .inr⟩

/-- Non-vacuity of `resubmit_converges`: the demo system meets its hypotheses at a cut in the
non-atomic window. -/
example :
    logged demo (⟨[], 0, []⟩ : World Unit Unit Unit Nat Nat) () 1 = false ∧
    (∀ o s evs o', demo.objUpd o s evs = some o' → demo.objUpd o' s evs = some o') ∧
    (∀ o s evs, demo.objUpd o s evs = none → ∀ o2, demo.objUpd o2 s evs = none) := by
  refine ⟨by decide, ?_, ?_⟩
  · intro o s evs o' h; simpa [demo] using h
  · intro o s evs h; simp [demo] at h

/-! ### Whole histories: any number of requests, each completed or cut anywhere -/

/-- **A history with faults is, for audit log and state, a fault-free history of exactly the
requests that reached the log.**  For every sequence of requests, each run to completion or
cut at any mutation (crash + restart, or one failed write), the log – and therefore the
reloaded state of the entity – equals that of running, without any fault, just the requests
whose record was written; a cut request is completely present or completely absent, and
what other requests did to the published-object set or the task queue in between has no
influence on it. -/
theorem hist_log_eq_clean (sys : Sys S C Ev Er O T) (h : List (C × Option Nat))
    (w w2 : World C Ev Er O T) (hw : w.log = w2.log) :
    (runHist sys w h).log = (runClean sys w2 (survivors sys w h)).log := by
  induction h generalizing w w2 with
  | nil => simpa [runHist, survivors, runClean] using hw
  | cons x h ih =>
    obtain ⟨c, ok⟩ := x
    cases ok with
    | none =>
      simp only [runHist, survivors, runClean, List.foldl_cons]
      exact ih _ _ (exec_log_congr sys w w2 c hw)
    | some k =>
      simp only [runHist, survivors]
      cases hl : logged sys w c k with
      | true =>
        simp only [if_true, runClean, List.foldl_cons]
        apply ih
        rw [crashAt_of_logged sys w c k hl]
        exact exec_log_congr sys w w2 c hw
      | false =>
        simp only [Bool.false_eq_true, if_false]
        apply ih
        rw [crashAt_log_of_not_logged sys w c k hl]
        exact hw

/-- The state every instance loads after such a history. -/
theorem hist_state_eq_clean (sys : Sys S C Ev Er O T) (h : List (C × Option Nat))
    (w : World C Ev Er O T) :
    state sys (runHist sys w h) = state sys (runClean sys w (survivors sys w h)) :=
  state_congr sys _ _ (hist_log_eq_clean sys h w w rfl)

/-- Acknowledged requests are never lost, at history level: every request that ran to
completion is among the survivors, in order. -/
theorem hist_acked_survive (sys : Sys S C Ev Er O T) (h : List (C × Option Nat))
    (w : World C Ev Er O T) :
    (h.filterMap fun x => if x.2.isNone then some x.1 else none).Sublist (survivors sys w h) := by
  induction h generalizing w with
  | nil => simp [survivors]
  | cons x h ih =>
    obtain ⟨c, ok⟩ := x
    cases ok with
    | none => simpa [survivors] using ih _
    | some k =>
      simp only [survivors, List.filterMap_cons, Option.isNone_some, Bool.false_eq_true, if_false]
      split
      · exact List.Sublist.cons _ (ih _)
      · exact ih _

/-- Non-vacuity: in the demo system a history with a cut in the objects-ahead window and a
later completed request has exactly the completed one in its log. -/
example :
    let w : World Unit Unit Unit Nat Nat := ⟨[], 0, []⟩
    survivors demo w [((), some 1), ((), none), ((), some 3)] = [(), ()] ∧
    (runHist demo w [((), some 1), ((), none), ((), some 3)]).log.length = 2 := by
  decide +kernel

/-! ### File-system mutations of the repository writer ("the published tree is still
relying-party valid" at every cut between two file-system mutations) -/

open KM.Fault.Fs in
/-- One mutation following the discipline keeps the tree valid. -/
theorem fs_step_valid (d : Disk) (m : Mut) (hv : d.valid) (hok : stepOk d m = true) :
    (apply d m).valid := by
  cases m with
  | write g => simp [apply, Disk.valid] at *; exact Or.inr hv
  | commit g => simpa [apply, Disk.valid, stepOk] using hok  -- `stepOk`: the generation is present
  | cleanup g =>
    simp [apply, Disk.valid, stepOk] at *
    exact ⟨hv, fun h => hok h.symm⟩
  | other => simpa [apply] using hv

open KM.Fault.Fs in
/-- **Every cut is valid**: for every mutation sequence that follows the discipline (any
number of updates, any retention), the tree a relying party finds after a crash at any
cut `k` names a generation that is present. -/
theorem fs_every_cut_valid (d : Disk) (ms : List Mut) (hv : d.valid) (hok : runOk d ms = true) :
    ∀ k, (after d ms k).valid := by
  induction ms generalizing d with
  | nil => intro k; simpa [after] using hv
  | cons m ms ih =>
    intro k
    simp [runOk] at hok
    cases k with
    | zero => simpa [after] using hv
    | succ k =>
      have := ih (apply d m) (fs_step_valid d m hv hok.1) hok.2 k
      simpa [after, List.take, List.foldl] using this

open KM.Fault.Fs in
/-- `firstBad` finds a breach exactly when the run does not follow the discipline. -/
theorem fs_firstBad_none_iff (d : Disk) (ms : List Mut) (i : Nat) :
    firstBad d ms i = none ↔ runOk d ms = true := by
  induction ms generalizing d i with
  | nil => simp [firstBad, runOk]
  | cons m ms ih =>
    simp only [firstBad, runOk]
    cases h : stepOk d m <;> simp [ih]

open KM.Fault.Fs in
/-- The writer's order on the unchanged tree (write, commit, then clean up) follows the
discipline; hypotheses are satisfiable. -/
example : runOk ⟨9, [9, 8]⟩ [.write 10, .other, .commit 10, .cleanup 8, .cleanup 9, .other] = true ∧
    (⟨9, [9, 8]⟩ : Disk).valid := by decide

open KM.Fault.Fs in
/-- Cleaning up before the commit breaks it, and a crash right after the clean-up leaves a
notification naming a snapshot that is gone. -/
theorem fs_cleanup_before_commit_invalid :
    runOk ⟨9, [9]⟩ [.write 10, .cleanup 9, .commit 10] = false ∧
    ¬ (after ⟨9, [9]⟩ [.write 10, .cleanup 9, .commit 10] 2).valid := by decide

end KM.Props.C08
