/-
C01 — Published tree is relying-party valid and says exactly what was configured.

Theorems over `Ca/RoaObjects.lean` (derivation of ROA/ASPA/router-certificate objects from the
configuration), `Ca/ClassModel.lean` (a resource class: ROA objects and key set together), `Ca/Objects.lean`
(manifests, repository synchronisation), `Sys/Rp.lean` (an abstract relying party) and `Sys/Tree.lean` (a
hierarchy of CAs as a rose tree).
-/
import KrillModel.Ca.RoaLemmas
import KrillModel.Ca.ObjLemmas
import KrillModel.Ca.ObjLemmasSync
import KrillModel.Sys.RpLemmas
import KrillModel.Ca.ClassLemmas
import KrillModel.Sys.TreeLemmas
import KrillModel.Sys.PointLemmas
namespace KM.Props.C01
open KM.Ca.Pub KM.Sys.Rp

/-- For every reachable `Roas` state, every route set, every received certificate (cover
predicate) and every pair of thresholds: after `create_updates` has been applied, the payloads of
the ROA objects are exactly the configured routes the certificate covers – in every mode (simple,
start aggregating, stop aggregating, aggregate) – each payload sits in exactly one object, and the
state is again well-formed. -/
theorem roas_payloads_exact (r : Roas) (hr : r.WF) (cov : Payload → Bool) (routes : List Payload)
    (hroutes : routes.Nodup) (deagg agg : Nat) (mintS : Payload → ObjMeta) (mintA : AggKey → ObjMeta) :
    let r' := r.apply (r.createUpdates cov routes deagg agg mintS mintA)
    (∀ p, p ∈ r'.payloads ↔ (p ∈ routes ∧ cov p = true)) ∧ r'.payloads.Nodup ∧ r'.WF :=
  createUpdates_exact r hr cov routes hroutes deagg agg mintS mintA

/-- Non-vacuity: the initial state is well-formed, so by the theorem (and `renew_due_objects` of
C14 for renewals) every state reached by any sequence of re-derivations is. -/
example : (({} : Roas)).WF := wf_empty

/-- A well-formed state in aggregation mode, with thresholds that make the next step stop
aggregating. -/
example : ∃ r : Roas, r.WF ∧ r.mode 1 2 2 = .stopAggregating := by
  refine ⟨{ agg := [(⟨1, none⟩, ⟨[⟨1, false, 0, 24, 24⟩], default⟩)] }, ?_, by decide⟩
  exact { simpleKeys := by simp [keys], aggKeys := by simp [keys], simpleAuth := by simp,
          aggGroup := by simp, aggAsn := by simp, aggNodup := by simp, aggNonempty := by simp,
          exclusive := Or.inl rfl }

/-- The mode decision (both thresholds, hysteresis, `total = 0` never switches). -/
theorem mode_characterisation (r : Roas) (total deagg agg : Nat) :
    r.mode total deagg agg =
      if r.isAggregating then (if 0 < total ∧ total < deagg then .stopAggregating else .aggregate)
      else (if total > agg ∧ 0 < total then .startAggregating else .simple) :=
  mode_eq r total deagg agg

/-- ASPA objects: after `create_updates` there is exactly one object per configured customer AS
the certificate holds, carrying exactly the configured definition – nothing else. -/
theorem aspas_exact (objs : AspaObjects) (hasAsn : Nat → Bool) (defs : List AspaDefn)
    (mint : AspaDefn → ObjMeta) (hw : AspaWF objs) (hd : (defs.map (·.customer)).Nodup) :
    let objs' := aspaApply objs (aspaCreateUpdates objs hasAsn defs mint)
    AspaWF objs' ∧ ∀ d, (∃ e ∈ objs', e.2.defn = d) ↔ (d ∈ defs ∧ hasAsn d.customer = true) :=
  ⟨aspaWF_createUpdates hw hd, aspaDefs_createUpdates hw hd⟩

example : AspaWF [] := ⟨by simp [keys], by simp⟩

/-- Router certificates: after `create_updates` there is exactly one certificate per configured
(AS, key) whose AS the certificate holds. -/
theorem bgpsec_exact (certs : RouterCerts) (hasAsn : Nat → Bool) (defs : List RouterKey)
    (mint : RouterKey → ObjMeta) (hk : (keys certs).Nodup) (hd : defs.Nodup) :
    let certs' := routerApply certs (routerCreateUpdates certs hasAsn defs mint)
    (keys certs').Nodup ∧ ∀ k, k ∈ keys certs' ↔ (k ∈ defs ∧ hasAsn k.asn = true) := by
  intro certs'
  have hc : certs' = eraseAll (putAll certs ((defs.filter fun k => !has certs k && hasAsn k.asn).map fun k => (k, mint k)))
      ((keys certs).filter fun k => !(decide (k ∈ defs)) || !hasAsn k.asn) := rfl
  rw [hc]
  constructor
  · exact nodup_keys_eraseAll (nodup_keys_putAll hk (by rw [keys_map_mk]; exact hd.filter _)) _
  · intro k
    refine (mem_keys_reconcile (want := defs.filter fun k => hasAsn k.asn) (fun k => ?_) (fun k => ?_) k).trans
      List.mem_filter
    · rw [keys_map_mk, List.mem_filter, List.mem_filter, Bool.and_eq_true, Bool.not_eq_true', ← Bool.not_eq_true,
        has_iff]
      exact ⟨fun ⟨h1, h2, h3⟩ => ⟨⟨h1, h3⟩, h2⟩, fun ⟨⟨h1, h3⟩, h2⟩ => ⟨h1, h2, h3⟩⟩
    · rw [List.mem_filter, List.mem_filter, ← Bool.not_and, Bool.not_eq_true', ← Bool.not_eq_true, Bool.and_eq_true,
        decide_eq_true_eq]

/-- A manifest built at creation or re-issue lists the CRL and exactly the published objects. -/
theorem manifest_lists_exactly (s : KeyObjectSet) (t : Timing) (i : IssueIn) (k : NewKey) :
    ListsExactly (s.reissue t i) ∧ ListsExactly (k.create t) :=
  ⟨(good_reissue s t i).listsExactly, (good_create k t).listsExactly⟩

/-- … and this holds for every key set of every class after every command (whatever its events)
and every republish run: changes of the object set always come with a re-issue. -/
theorem manifest_lists_exactly_always (t : Timing) (o : CaObjects) (ops : List CaOp)
    (h : ∀ s ∈ allSets o, GoodSet s) : ∀ s ∈ allSets (caRun t o ops), ListsExactly s :=
  fun s hs => (good_caRun t ops o h s hs).listsExactly

/-- With distinct names the listing is literally "CRL, then every published object". -/
theorem manifest_entries (s : KeyObjectSet) (hg : GoodSet s) (hfresh : s.crlName ∉ keys s.published) :
    s.manifest.entries = (s.crlName, s.crl.hash) :: s.published.map fun e => (e.1, e.2.hash) :=
  entries_eq s hg hfresh

/-- `ca_repo_sync`: applying the delta computed from the server's list reply to ANY server content
of the publisher yields exactly the map of `all_publish_elements` (a later duplicate URI wins, as
in the code's `collect::<HashMap>`). -/
theorem sync_repo_exact (server : List (Uri × Nat)) (hn : (keys server).Nodup) (o : CaObjects) :
    (keys (syncRepo server o)).Nodup ∧
    ∀ u, get? (syncRepo server o) u = get? (elementMap (allPublishElements o)) u :=
  syncRepo_exact server (allPublishElements o) hn

/-- Nothing to do ⇒ empty delta is *not* claimed; what is claimed is idempotence: a second sync
leaves the content as it is. -/
theorem sync_repo_idempotent (server : List (Uri × Nat)) (hn : (keys server).Nodup) (o : CaObjects) (u : Uri) :
    get? (syncRepo (syncRepo server o) o) u = get? (syncRepo server o) u := by
  obtain ⟨h1, h2⟩ := sync_repo_exact server hn o
  rw [(sync_repo_exact _ h1 o).2 u, h2 u]

/-- Along every history of a resource class (re-derivations for any routes / certificate /
thresholds, renewals, republish runs) starting from a fresh class, the key object set publishes
exactly the ROA objects the class believes it issued (by name, serial, expiry, hash), the ROA
state is well-formed and the key set is well-formed (manifest lists exactly, CRL lists the
revocations, numbers agree). -/
theorem objects_mirror (nm : Naming) (hnm : nm.Ok) (t : Timing) (k : NewKey) (ops : List ClassOp)
    (hops : ∀ op ∈ ops, op.ok) :
    let c := (ClassState.init k t).run nm t ops
    c.roas.WF ∧ (keys c.set.published).Nodup ∧ (∀ e, e ∈ c.set.published ↔ e ∈ roaView nm c.roas) ∧
    GoodSet c.set := by
  intro c
  obtain ⟨h1, ⟨h2, h3⟩, h4⟩ := classInv_run nm hnm t ops (ClassState.init k t) hops (classInv_init nm k t)
  exact ⟨h1, h2, h3, h4⟩

/-- Non-vacuity: names that identify objects exist. -/
example : exampleNaming.Ok := exampleNaming_ok

/-! ### One CA level, composed

Full statement (DESIGN `quiescent_valid`): for every history of API operations over a hierarchy of
CAs, once the tasks are drained, `TreeValid` holds from the trust anchor and the validated
payloads are exactly `⋃ configured(ca) ∩ covered-by-current-cert(ca)`.

Proved here: one CA level, one key, ROAs.  After *any* history of the class (re-derivations,
renewals, republish runs from a fresh class) ending – possibly followed by renewals/republish runs
– with a re-derivation for `routes` under the CA's certificate, and after a repository
synchronisation from ANY previous server content, a relying party that decodes the files
faithfully, inside the manifest's window, with no current object expired or revoked, accepts the
publication point and extracts exactly the configured-and-covered payloads.

Missing for the full statement: "no current object is on the CRL / expired" as an invariant over
histories (needs freshness of serial numbers; checked dynamically by the oracle `RpTreeValid`) and
key rolls (two key sets per class; C04).  Child certificates, the recursion over the hierarchy and
ASPA and router objects are composed further down (`one_level_all`, `quiescent_valid_tree`), from
hypotheses on each node instead of a history; `quiescent_valid_tree` says which of those are
theorems and which are judged dynamically through the relying-party walk. -/
theorem quiescent_valid_partial (nm : Naming) (hnm : nm.Ok) (t : Timing) (k : NewKey)
    (ops₁ ops₂ : List ClassOp) (hops₁ : ∀ op ∈ ops₁, op.ok) (hnd : ∀ op ∈ ops₂, op.isDerive = false)
    (routes : List Payload) (hroutes : routes.Nodup) (deagg agg : Nat)
    (mintS : Payload → ObjMeta) (mintA : AggKey → ObjMeta) (i : IssueIn)
    (ca : Cert) (rcn : Nat) (server : List (Uri × Nat)) (hsrv : (keys server).Nodup)
    (cat : Catalog) (now : Nat) :
    let c := (((ClassState.init k t).run nm t ops₁).step nm t
      (.derive ca.resources.coversPfx routes deagg agg mintS mintA i)).run nm t ops₂
    let files := filesAfterSync server rcn c.set
    Decodes cat ca.subject c.roas c.set →
    c.set.mftName = ca.mftName → c.set.crlName = ca.crlName → ca.mftName ≠ ca.crlName →
    ca.mftName ∉ keys c.set.published → ca.crlName ∉ keys c.set.published →
    (c.set.revision.thisUpdate ≤ now ∧ now < c.set.revision.nextUpdate) →
    (∀ x ∈ infos c.roas, now < x.obj.expires) → (∀ x ∈ infos c.roas, x.obj.serial ∉ c.set.crl.revoked) →
    PointValid cat files ca now = true ∧
    PayloadsExact (pointVrps cat files ca) (routes.filter ca.resources.coversPfx) = true := by
  intro c files hdec hm hc hne hmf hcf hwin hexp hrev
  obtain ⟨ready, hpay⟩ := ready_of_history nm hnm t k ops₁ ops₂ hops₁ hnd routes hroutes deagg agg mintS mintA i
    ca rcn server hsrv now hm hc hne hmf hcf hwin hexp hrev
  refine ⟨point_valid_all hdec.toAll ready.toAll, sameMembers_iff.mpr fun p => ?_⟩
  rw [point_vrps_all hdec.toAll ready.toAll, ← payloads_eq_infos, hpay p, List.mem_filter]

/-- A concrete publication point of the shape the theorem speaks of (fresh manifest, CRL, one simple
ROA): the validator accepts it and extracts the payload.  The hypotheses of `quiescent_valid_partial`
(a class history, `filesAfterSync`) are not instantiated by it. -/
example :
    let ca : Cert := ⟨0, 1, .atoms [1], 10000, 5, 100, 101⟩
    let p : Payload := ⟨64513, false, (10 * 256 + 1) * 65536, 24, 24⟩
    let files : Files := [(100, 900), (101, 901), (7, 902)]
    let cat : Catalog := fun h =>
      if h = 900 then some (.mft ⟨1, 2, 0, 5000, [(101, 901), (7, 902)]⟩)
      else if h = 901 then some (.crl ⟨1, 2, 0, 5000, []⟩)
      else if h = 902 then some (.signed ⟨1, 77, 9000, .roa [p]⟩) else none
    PointValid cat files ca 1000 = true ∧ pointVrps cat files ca = [p] := by
  decide +kernel

/-! ### The hierarchy, composed (any depth, any branching)

`Sys/Tree.lean`: a hierarchy is a rose tree of `Node`s (certificate, files of the publication
point, configuration, children); `tree.repo` is the server content a relying party sees,
`tree.expectedVrps` / `expectedAspas` / `expectedRouterKeys` the specification
`⋃ configured(ca) ∩ covered-by-current-cert(ca)`.  `NodeOk cat now n` is the *local* condition on
one node, exactly what the one-level results give (point valid; payloads of the point = the
configured-and-covered ones; CA certificates found at the point = the children's certificates).
The theorems below lift the local condition to the relying party's top-down walk. -/

/-- If every node is locally fine and publication-point keys are pairwise distinct, the top-down
validation from the trust anchor succeeds (given fuel for the depth of the hierarchy). -/
theorem tree_valid (cat : Catalog) (now : Nat) (tree : Node) (fuel : Nat)
    (hok : ∀ n ∈ tree.nodes, NodeOk cat now n) (hd : tree.subjects.Nodup) (hfuel : tree.depth ≤ fuel) :
    TreeValid cat tree.repo now fuel tree.ca = true :=
  (treeValid_iff cat now tree hd (fun n hn => (hok n hn).childrenExact) fuel tree
    (Node.mem_nodes_self tree) hfuel).mpr (fun m hm => (hok m hm).valid)

/-- Sharp form: when the child certificates found are exactly the children's, the walk succeeds
*iff* every publication point of the hierarchy validates. -/
theorem tree_valid_iff (cat : Catalog) (now : Nat) (tree : Node) (fuel : Nat)
    (hch : ∀ n ∈ tree.nodes, ChildrenExact cat n) (hd : tree.subjects.Nodup) (hfuel : tree.depth ≤ fuel) :
    TreeValid cat tree.repo now fuel tree.ca = true ↔
      ∀ n ∈ tree.nodes, PointValid cat n.files n.ca now = true :=
  treeValid_iff cat now tree hd hch fuel tree (Node.mem_nodes_self tree) hfuel

/-- Converse direction (`TreeValid` is not trivially true): one publication point anywhere in the
hierarchy that does not validate – stale manifest or CRL, a listed-but-missing or
present-but-unlisted file, an unacceptable object – makes the walk from the trust anchor fail,
for every fuel, as soon as the certificates of the children are found at their parents' points. -/
theorem tree_invalid (cat : Catalog) (now : Nat) (tree : Node) (fuel : Nat) (hd : tree.subjects.Nodup)
    (hfound : ∀ n ∈ tree.nodes, ∀ ch ∈ n.children, ch.ca ∈ childCerts cat n.files n.ca)
    (bad : Node) (hmem : bad ∈ tree.nodes) (hbad : PointValid cat bad.files bad.ca now = false) :
    TreeValid cat tree.repo now fuel tree.ca = false :=
  treeValid_false cat now tree hd hfound bad hbad fuel tree (Node.mem_nodes_self tree) hmem

/-- The route-origin payloads the walk collects are exactly (as a set) the configured
authorisations covered by the configuring CA's current certificate, united over the hierarchy. -/
theorem tree_vrps_exact (cat : Catalog) (now : Nat) (tree : Node) (fuel : Nat)
    (hok : ∀ n ∈ tree.nodes, NodeOk cat now n) (hd : tree.subjects.Nodup) (hfuel : tree.depth ≤ fuel) :
    sameMembers (treeVrps cat tree.repo fuel tree.ca) tree.expectedVrps = true := by
  rw [sameMembers_iff, treeVrps_eq_walk]
  exact walk_exact (pointVrps cat) Node.ownVrps cat tree hd (fun n hn => (hok n hn).childrenExact)
    (fun n hn => sameMembers_iff.mp (hok n hn).vrps) fuel tree (Node.mem_nodes_self tree) hfuel

/-- … likewise the ASPA definitions … -/
theorem tree_aspas_exact (cat : Catalog) (now : Nat) (tree : Node) (fuel : Nat)
    (hok : ∀ n ∈ tree.nodes, NodeOk cat now n) (hd : tree.subjects.Nodup) (hfuel : tree.depth ≤ fuel) :
    sameMembers (treeAspas cat tree.repo fuel tree.ca) tree.expectedAspas = true := by
  rw [sameMembers_iff, treeAspas_eq_walk]
  exact walk_exact (pointAspas cat) Node.ownAspas cat tree hd (fun n hn => (hok n hn).childrenExact)
    (fun n hn => sameMembers_iff.mp (hok n hn).aspas) fuel tree (Node.mem_nodes_self tree) hfuel

/-- … and the router keys. -/
theorem tree_router_keys_exact (cat : Catalog) (now : Nat) (tree : Node) (fuel : Nat)
    (hok : ∀ n ∈ tree.nodes, NodeOk cat now n) (hd : tree.subjects.Nodup) (hfuel : tree.depth ≤ fuel) :
    sameMembers (treeRouterKeys cat tree.repo fuel tree.ca) tree.expectedRouterKeys = true := by
  rw [sameMembers_iff, treeRouterKeys_eq_walk]
  exact walk_exact (pointRouterKeys cat) Node.ownRouterKeys cat tree hd (fun n hn => (hok n hn).childrenExact)
    (fun n hn => sameMembers_iff.mp (hok n hn).routerKeys) fuel tree (Node.mem_nodes_self tree) hfuel

/-- Non-vacuity of the hypotheses of `tree_valid` … `tree_router_keys_exact`: the three-level
hierarchy `Example.tree` (trust anchor → CA → child CA; ROAs at two levels, one ASPA, two router
keys, one configured-but-uncovered route and ASPA) has three nodes, each locally fine, with distinct
keys and depth 3. -/
example : Example.tree.nodes.length = 3 ∧ (∀ n ∈ Example.tree.nodes, NodeOk Example.cat 1000 n) ∧
    Example.tree.subjects.Nodup ∧ Example.tree.depth ≤ 3 := by
  refine ⟨by decide +kernel, ?_, by decide +kernel, by decide +kernel⟩
  have h : Example.tree.nodes.all (nodeOk Example.cat 1000) = true := by decide +kernel
  intro n hn
  exact nodeOk_iff.mp (List.all_eq_true.mp h n hn)

/-- … and the walks, computed, are what the theorems say: valid, and exactly the expectation
(the uncovered route `p3` and the ASPA for the AS not held are configured but not expected and not
found). -/
example :
    TreeValid Example.cat Example.tree.repo 1000 3 Example.tree.ca = true ∧
    treeVrps Example.cat Example.tree.repo 3 Example.tree.ca = [Example.p2, Example.p1] ∧
    Example.tree.expectedVrps = [Example.p2, Example.p1] ∧
    treeAspas Example.cat Example.tree.repo 3 Example.tree.ca = [Example.aspa1] ∧
    Example.tree.expectedAspas = [Example.aspa1] ∧
    treeRouterKeys Example.cat Example.tree.repo 3 Example.tree.ca = [Example.rk2, Example.rk1] ∧
    Example.tree.expectedRouterKeys = [Example.rk2, Example.rk1] ∧
    -- too little fuel for the depth: not valid
    TreeValid Example.cat Example.tree.repo 1000 2 Example.tree.ca = false := by
  decide +kernel

/-- Negative example: one file present but unlisted at the grandchild's publication point
(`Example.badTree`) – the walk from the trust anchor fails; computed, and by `tree_invalid`. -/
example : TreeValid Example.cat Example.badTree.repo 1000 3 Example.badTree.ca = false := by decide +kernel

example (fuel : Nat) : TreeValid Example.cat Example.badTree.repo 1000 fuel Example.badTree.ca = false := by
  have hmid : Example.badMid ∈ Example.badTree.nodes :=
    Node.child_mem_nodes (n := Example.badTree) (List.Mem.head _)
  have hbad : Example.badChild ∈ Example.badTree.nodes :=
    Node.child_mem_of_mem (n := Example.badMid) hmid (List.Mem.head _)
  refine tree_invalid Example.cat 1000 Example.badTree fuel (by decide) ?_ Example.badChild hbad (by decide)
  have h : Example.badTree.nodes.all (fun n => n.children.all fun ch =>
      decide (ch.ca ∈ childCerts Example.cat n.files n.ca)) = true := by decide +kernel
  intro n hn ch hch
  exact of_decide_eq_true (List.all_eq_true.mp (List.all_eq_true.mp h n hn) ch hch)

/-! ### One CA level, all kinds of objects

`ReadyAll ca s files now sp` (`Sys/PointLemmas.lean`) generalises `Ready`: the key set `s`
publishes the objects described by `sp` – ROAs, ASPA objects, router certificates and child CA
certificates – with the side conditions a relying party checks (window, unexpired, unrevoked,
payload inside the key's certificate, child certificates issued by this key for resources inside
its certificate).  `DecodesAll` is faithful decoding of manifest, CRL and every object. -/

/-- A publication point holding ROAs, ASPA objects, router certificates and child CA certificates
validates, and what a relying party extracts from it – route origins, ASPA definitions, router
keys, CA certificates to descend into – is exactly what the objects carry. -/
theorem one_level_all (cat : Catalog) (ca : Cert) (s : KeyObjectSet) (files : Files) (now : Nat) (sp : PointSpec)
    (hd : DecodesAll cat ca.subject s sp) (h : ReadyAll ca s files now sp) :
    PointValid cat files ca now = true ∧
    (∀ p, p ∈ pointVrps cat files ca ↔ p ∈ sp.roas.flatMap (·.auths)) ∧
    (∀ d, d ∈ pointAspas cat files ca ↔ d ∈ sp.aspas.map (·.defn)) ∧
    (∀ k, k ∈ pointRouterKeys cat files ca ↔ k ∈ sp.routers.map (·.1)) ∧
    (∀ c, c ∈ childCerts cat files ca ↔ c ∈ sp.certs.map (·.2)) :=
  ⟨point_valid_all hd h, point_vrps_all hd h, point_aspas_all hd h, point_router_keys_all hd h,
   child_certs_all hd h⟩

/-- Non-vacuity: the key set of the middle CA of `Example.tree` – one ROA, one ASPA object, one
router certificate, one child certificate, one earlier serial on the CRL – meets the hypotheses. -/
example : DecodesAll Example.cat Example.mid.ca.subject Example.midSet Example.midSpec ∧
    ReadyAll Example.mid.ca Example.midSet Example.mid.files 1000 Example.midSpec :=
  ⟨Example.mid_decodes, Example.mid_ready⟩

/-- It is a generalisation: the ROA-only hypotheses `Decodes` / `Ready` are the special case without
other objects. -/
theorem ready_is_special_case (nm : Naming) (cat : Catalog) (ca : Cert) (r : Roas) (s : KeyObjectSet)
    (files : Files) (now : Nat) (hd : Decodes cat ca.subject r s) (h : Ready nm ca r s files now) :
    DecodesAll cat ca.subject s { roas := infos r } ∧ ReadyAll ca s files now { roas := infos r } :=
  ⟨hd.toAll, h.toAll⟩

/-- One level ⇒ the local condition of the hierarchy: if moreover the objects say exactly what is
configured and covered and the child certificates are the children's (`SpecExact`), the node is
`NodeOk`. -/
theorem node_ok_of_one_level (cat : Catalog) (now : Nat) (n : Node) (s : KeyObjectSet) (sp : PointSpec)
    (hd : DecodesAll cat n.ca.subject s sp) (h : ReadyAll n.ca s n.files now sp) (hx : SpecExact n sp) :
    NodeOk cat now n :=
  nodeOk_of_readyAll hd h hx

/-- `quiescent_valid_partial` as a statement about a node: a leaf CA with ROAs only, after any
history of its class ending in a re-derivation and a repository synchronisation, is `NodeOk`
(same hypotheses as `quiescent_valid_partial`; its two conclusions are the fields `valid` and
`vrps`). -/
theorem quiescent_leaf_node (nm : Naming) (hnm : nm.Ok) (t : Timing) (k : NewKey)
    (ops₁ ops₂ : List ClassOp) (hops₁ : ∀ op ∈ ops₁, op.ok) (hnd : ∀ op ∈ ops₂, op.isDerive = false)
    (routes : List Payload) (hroutes : routes.Nodup) (deagg agg : Nat)
    (mintS : Payload → ObjMeta) (mintA : AggKey → ObjMeta) (i : IssueIn)
    (ca : Cert) (rcn : Nat) (server : List (Uri × Nat)) (hsrv : (keys server).Nodup)
    (cat : Catalog) (now : Nat) :
    let c := (((ClassState.init k t).run nm t ops₁).step nm t
      (.derive ca.resources.coversPfx routes deagg agg mintS mintA i)).run nm t ops₂
    let files := filesAfterSync server rcn c.set
    Decodes cat ca.subject c.roas c.set →
    c.set.mftName = ca.mftName → c.set.crlName = ca.crlName → ca.mftName ≠ ca.crlName →
    ca.mftName ∉ keys c.set.published → ca.crlName ∉ keys c.set.published →
    (c.set.revision.thisUpdate ≤ now ∧ now < c.set.revision.nextUpdate) →
    (∀ x ∈ infos c.roas, now < x.obj.expires) → (∀ x ∈ infos c.roas, x.obj.serial ∉ c.set.crl.revoked) →
    NodeOk cat now (.mk ca files routes [] [] []) := by
  intro c files hdec hm hc hne hmf hcf hwin hexp hrev
  obtain ⟨ready, hpay⟩ := ready_of_history nm hnm t k ops₁ ops₂ hops₁ hnd routes hroutes deagg agg mintS mintA i
    ca rcn server hsrv now hm hc hne hmf hcf hwin hexp hrev
  exact nodeOk_of_ready hdec ready hpay

/-- **Composition over the hierarchy** (any depth, any branching).  Let `tree` describe the
hierarchy at a quiescent instant: per certified key its certificate, the files at its publication
point, the CA's configuration, and the keys certified below it.  Suppose every node's files are
those of a key set in a state that is `ReadyAll` for objects `sp` which say exactly what is
configured and covered (`SpecExact`).  Then a relying party that starts at the trust anchor
accepts every publication point (current manifest and CRL, listed ⇔ present, every object
acceptable), and the route origins, ASPA definitions and router keys it collects are exactly – as
sets – the configured authorisations covered by a current certificate of the configuring CA.

Which per-node hypotheses are conclusions of other theorems, per CA and for all histories:

* `ReadyAll.good` (manifest lists the CRL and exactly the published objects, CRL = revocations,
  numbers agree): `manifest_lists_exactly_always` / `objects_mirror` (GoodSet component).
* `ReadyAll.filesNodup`, `ReadyAll.files` (server content = the set's elements, from ANY previous
  server content): `sync_repo_exact`, in the form `filesAfterSync_spec`.
* `ReadyAll.sound` / `complete` for the ROA objects, `roaNonempty`, `roaCovered` and
  `SpecExact.roas`: `quiescent_valid_partial` (through `objects_mirror` and `roas_payloads_exact`;
  `quiescent_leaf_node` is that theorem re-stated as `NodeOk` for a ROA-only leaf).
* `SpecExact.aspas` and `aspaCovered`: `aspas_exact`.  `SpecExact.routers` and `routerCovered`:
  `bgpsec_exact`.
* `ReadyAll.certContained` (child certificates inside the key's own certificate): C02
  `never_overclaims` (with `shrink_in_same_command`, `activation_keeps_containment`).

Which remain assumptions, evaluated dynamically by the oracle on the implementation's own
repository content (`RpTreeValid`, `PayloadsExact`, `objects_mirror` in the `sysobjects` driver,
`NoOverclaimPublished` in the `syskeys` driver):

* no current object is expired or on the CRL (`ReadyAll.unexpired`, `unrevoked`) and `now` is
  inside the manifest window (`window`) – needs freshness of serial numbers and the re-issue
  schedule (C14) as an invariant over histories;
* faithful decoding and no hash collisions (`DecodesAll`);
* `ReadyAll.sound` / `complete` for ASPA objects, router certificates and child certificates
  (the key set mirrors the class for these kinds too – `objects_mirror` is proved for ROAs, one
  key), and `certIssuer`;
* `SpecExact.certs`: the certificates a parent publishes are exactly the current certificates of
  its children's keys – parent and child agree once the child has fetched its entitlement, i.e.
  when background work has caught up;
* pairwise distinct publication-point keys (`tree.subjects.Nodup`), manifest / CRL names not used
  by other objects (`mftFresh`, `crlFresh`, `namesDiffer`);
* during a key roll each of the two keys of a class is a node of its own (C04). -/
theorem quiescent_valid_tree (cat : Catalog) (now : Nat) (tree : Node) (fuel : Nat)
    (hd : tree.subjects.Nodup) (hfuel : tree.depth ≤ fuel)
    (hnode : ∀ n ∈ tree.nodes, ∃ (s : KeyObjectSet) (sp : PointSpec),
      DecodesAll cat n.ca.subject s sp ∧ ReadyAll n.ca s n.files now sp ∧ SpecExact n sp) :
    TreeValid cat tree.repo now fuel tree.ca = true ∧
    (∀ n ∈ tree.nodes, PointValid cat n.files n.ca now = true) ∧
    PayloadsExact (treeVrps cat tree.repo fuel tree.ca) tree.expectedVrps = true ∧
    sameMembers (treeAspas cat tree.repo fuel tree.ca) tree.expectedAspas = true ∧
    sameMembers (treeRouterKeys cat tree.repo fuel tree.ca) tree.expectedRouterKeys = true := by
  have hok : ∀ n ∈ tree.nodes, NodeOk cat now n := by
    intro n hn
    obtain ⟨s, sp, h1, h2, h3⟩ := hnode n hn
    exact nodeOk_of_readyAll h1 h2 h3
  exact ⟨tree_valid cat now tree fuel hok hd hfuel, fun n hn => (hok n hn).valid,
    tree_vrps_exact cat now tree fuel hok hd hfuel, tree_aspas_exact cat now tree fuel hok hd hfuel,
    tree_router_keys_exact cat now tree fuel hok hd hfuel⟩

/-- Non-vacuity of `quiescent_valid_tree`: the three-level hierarchy `Example.tree` with the key
sets `Example.taSet`, `midSet`, `childSet` meets all hypotheses (the conclusion for it is also
computed above). -/
example : Example.tree.subjects.Nodup ∧ Example.tree.depth ≤ 3 ∧
    ∀ n ∈ Example.tree.nodes, ∃ (s : KeyObjectSet) (sp : PointSpec),
      DecodesAll Example.cat n.ca.subject s sp ∧ ReadyAll n.ca s n.files 1000 sp ∧ SpecExact n sp :=
  ⟨by decide, by decide, Example.tree_nodes_ready⟩

end KM.Props.C01
