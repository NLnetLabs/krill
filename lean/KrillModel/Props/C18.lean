/-
C18 — Concurrent requests and background tasks never deadlock or lose work.

`ranked_no_deadlock`: any number of threads, any programs: if every thread only ever
requests locks ranked above all it holds (and holds nothing when done), no reachable state
is a deadlock.  The dynamic half of the check (stream `conc`) records every
`held → wanted` pair the real code produces and checks it against `KM.Locks.rank`.
`rw_ranked_no_deadlock` is the same for reader/writer locks; `krill_nesting_ranked` ranks krill's own lock classes;
`source_lock_sites_annotated` / `sitesOk_spec` tie the recorder's annotations to the lock sites found in the source.
"Each request answered as in some one-at-a-time execution / nothing lost" is C07's
`serialisable` per entity (the entity scope lock brackets each command); the `conc` stream
compares replies and final state with a one-at-a-time twin.
-/
import KrillModel.Locks.Model
import KrillModel.Generated.LockSites
namespace KM.Props.C18
open KM.Locks

/-- If a thread following the discipline is about to acquire `l`, everything it holds is
ranked below `l`. -/
theorem ok_next_acq {t : Thread} {l : Nat} {rest : List Act} (h : t.ok)
    (hp : t.prog = .acq l :: rest) : ∀ x ∈ t.held, x < l := by
  unfold Thread.ok at h
  rw [hp] at h
  exact h.1

/-- A finished thread that followed the discipline holds nothing. -/
theorem ok_finished_holds_nothing {t : Thread} (h : t.ok) (hf : t.finished) : t.held = [] := by
  unfold Thread.ok Thread.finished at *
  rw [hf] at h
  exact h

/-- The discipline is preserved by every step of a thread. -/
theorem ok_step {t t' : Thread} (h : t.ok) (hs : stepThread t = some t') : t'.ok := by
  obtain ⟨prog, held⟩ := t
  rcases prog with _ | ⟨_ | _ | _, rest⟩
  · cases hs  -- finished: no step
  · cases hs; exact h.2  -- acq
  · cases hs; exact h.2  -- rel
  · cases hs; exact h  -- step

/-- The discipline passes from a state to its successors, and so to every state reachable from it: a step of any
thread keeps every thread's program in order. -/
theorem discipline_preserved (s : State) (i : Nat) (t t' : Thread)
    (hok : ∀ (j : Nat) (tj : Thread), s[j]? = some tj → tj.ok) (hi : s[i]? = some t)
    (hs : stepThread t = some t') :
    ∀ (j : Nat) (tj : Thread), (s.set i t')[j]? = some tj → tj.ok := by
  intro j tj hj
  by_cases hji : j = i
  · subst hji
    rw [List.getElem?_set_self (List.getElem?_eq_some_iff.mp hi).1] at hj
    cases hj
    exact ok_step (hok j t hi) hs
  · rw [List.getElem?_set_ne (Ne.symm hji)] at hj
    exact hok j tj hj

/-- Some thread waits for lock `l`, which another thread holds. -/
def Awaited (s : State) (l : Nat) : Prop :=
  ∃ (i : Nat) (t : Thread) (rest : List Act), s[i]? = some t ∧ t.prog = .acq l :: rest ∧ heldByOther s i l

/-- When every unfinished thread is blocked and all follow the discipline, the holder of an awaited lock
waits itself, for a lock ranked higher. -/
theorem awaited_higher {s : State} (hok : ∀ (i : Nat) (t : Thread), s[i]? = some t → t.ok)
    (hall : ∀ (i : Nat) (t : Thread), s[i]? = some t → ¬ t.finished → blocked s i) {l : Nat}
    (h : Awaited s l) : ∃ l', l < l' ∧ Awaited s l' := by
  obtain ⟨_, _, _, _, _, j, _, tj, hj, hl⟩ := h  -- thread `j`, in state `tj`, holds `l`
  have hnf : ¬ tj.finished := fun hf => by
    rw [ok_finished_holds_nothing (hok j tj hj) hf] at hl
    cases hl
  obtain ⟨t, l', rest, ht, hp, hb⟩ := hall j tj hj hnf
  cases hj.symm.trans ht
  exact ⟨l', ok_next_acq (hok j tj hj) hp l hl, j, tj, rest, hj, hp, hb⟩

theorem le_sum_of_mem {x : Nat} {xs : List Nat} (h : x ∈ xs) : x ≤ xs.sum := by
  induction xs with
  | nil => cases h
  | cons y ys ih =>
    rw [List.sum_cons]
    rcases List.mem_cons.mp h with rfl | h
    · exact Nat.le_add_right _ _
    · exact Nat.le_trans (ih h) (Nat.le_add_left _ _)

/-- **No deadlock under the ranking discipline.**  For every state – any number of threads,
any programs – in which all threads follow the discipline, not every unfinished thread can
be blocked. -/
theorem ranked_no_deadlock (s : State) (hok : ∀ (i : Nat) (t : Thread), s[i]? = some t → t.ok) :
    ¬ Deadlock s := by
  rintro ⟨⟨i0, t0, hi0, hnf0⟩, hall⟩
  -- awaited locks climb without end (`awaited_higher`), yet each is the next request of a thread of `s`
  have climb : ∀ (n : Nat) {l : Nat}, Awaited s l → ∃ l', l + n ≤ l' ∧ Awaited s l' := by
    intro n
    induction n with
    | zero => exact fun h => ⟨_, Nat.le_refl _, h⟩
    | succ n ih =>
      intro l h
      obtain ⟨l1, h1, ha1⟩ := ih h
      obtain ⟨l2, h2, ha2⟩ := awaited_higher hok hall ha1
      exact ⟨l2, by omega, ha2⟩
  let next (t : Thread) : Nat := match t.prog with | .acq l :: _ => l | _ => 0
  have bound : ∀ {l : Nat}, Awaited s l → l ≤ (s.map next).sum := by
    rintro l ⟨i, t, rest, hi, hp, _⟩
    refine le_sum_of_mem (List.mem_map.mpr ⟨t, List.mem_of_getElem? hi, ?_⟩)
    simp only [next, hp]
  obtain ⟨t, l, rest, hi, hp, hb⟩ := hall i0 t0 hi0 hnf0
  obtain ⟨l', hle, ha⟩ := climb ((s.map next).sum + 1) ⟨i0, t, rest, hi, hp, hb⟩
  have := bound ha
  omega

/-! ### Reader/writer locks: the real blocking rules imply the mutex formulation -/

theorem erase_getElem?_eq_some {s : RW.State} {i : Nat} {t : Thread} :
    (s.map RW.erase)[i]? = some t ↔ ∃ ti, s[i]? = some ti ∧ RW.erase ti = t := by
  rw [List.getElem?_map, Option.map_eq_some_iff]

theorem erase_prog_acq {t : RW.Thread} {m : RW.Mode} {l : Nat} {rest : List RW.Act} (hp : t.prog = .acq m l :: rest) :
    (RW.erase t).prog = .acq l :: rest.map RW.eraseAct :=
  congrArg (List.map RW.eraseAct) hp

theorem erase_held {t : RW.Thread} {m : RW.Mode} {l : Nat} (h : (l, m) ∈ t.held) : l ∈ (RW.erase t).held :=
  List.mem_map.mpr ⟨(l, m), h, rfl⟩

/-- A thread blocked under reader/writer semantics (either policy) that does not already
hold the lock it asks for is blocked in the mutex formulation. -/
theorem rw_blocked_erase (s : RW.State) (i : Nat) (h : RW.blocked s i)
    (hnot : ∀ (t : RW.Thread) (m : RW.Mode) (l : Nat) (rest : List RW.Act), s[i]? = some t →
      t.prog = .acq m l :: rest → ¬ RW.holds s i l) :
    blocked (s.map RW.erase) i := by
  obtain ⟨t, m, l, rest, hi, hp, hcase⟩ := h
  have hnoti := hnot t m l rest hi hp
  -- some other thread holds `l`
  have hold : ∃ k, k ≠ i ∧ RW.holds s k l := by
    rcases hcase with ⟨j, hji, hj, _⟩ | ⟨_, j, _, _, k, _, hk⟩
    · exact ⟨j, hji, hj⟩
    · exact ⟨k, fun hki => hnoti (hki ▸ hk), hk⟩
  obtain ⟨k, hki, tk, mk, hk, hmem⟩ := hold
  exact ⟨RW.erase t, l, rest.map RW.eraseAct, erase_getElem?_eq_some.mpr ⟨t, hi, rfl⟩, erase_prog_acq hp,
    k, hki, RW.erase tk, erase_getElem?_eq_some.mpr ⟨tk, hk, rfl⟩, erase_held hmem⟩

/-- **No deadlock with reader/writer locks** under the same ranking discipline (stated on the
erased programs: the rank of a lock does not depend on the mode it is taken in). -/
theorem rw_ranked_no_deadlock (s : RW.State)
    (hok : ∀ (i : Nat) (t : RW.Thread), s[i]? = some t → (RW.erase t).ok) :
    ¬ RW.Deadlock s := by
  rintro ⟨⟨i0, t0, hi0, hne0⟩, hall⟩
  have hfin : ∀ {t : RW.Thread}, (RW.erase t).finished → t.prog = [] := fun h => List.map_eq_nil_iff.mp h
  refine ranked_no_deadlock (s.map RW.erase) (fun i t hi => ?_)
    ⟨⟨i0, RW.erase t0, erase_getElem?_eq_some.mpr ⟨t0, hi0, rfl⟩, fun h => hne0 (hfin h)⟩, fun i t hi hnf => ?_⟩
  · obtain ⟨ti, hsi, rfl⟩ := erase_getElem?_eq_some.mp hi
    exact hok i ti hsi
  · obtain ⟨ti, hsi, rfl⟩ := erase_getElem?_eq_some.mp hi
    refine rw_blocked_erase s i (hall i ti hsi fun h => hnf (congrArg (List.map RW.eraseAct) h)) ?_
    -- a thread following the discipline never asks for a lock it holds
    rintro t' m l rest ht' hp' ⟨t2, m2, ht2, hmem⟩
    cases hsi.symm.trans ht'
    cases hsi.symm.trans ht2
    exact Nat.lt_irrefl l (ok_next_acq (hok i ti hsi) (erase_prog_acq hp') l (erase_held hmem))

/-- Non-vacuity: two readers of the root lock and a store-wide writer, every program in rank
order; and the rules do block – a writer behind a reader. -/
example : (RW.erase ⟨[.acq .r 10, .acq .w 15, .rel 15, .rel 10], []⟩).ok ∧
    RW.blocked [⟨[.acq .w 10, .rel 10], []⟩, ⟨[.rel 10], [(10, .r)]⟩] 0 := by
  refine ⟨?_, _, .w, 10, [.rel 10], rfl, rfl, Or.inl ⟨1, Nat.succ_ne_zero 0, ⟨_, .r, rfl, .head _⟩, Or.inl rfl⟩⟩
  show okProg [] [.acq 10, .acq 15, .rel 15, .rel 10]
  simp only [okProg]
  decide

/-- Non-vacuity of the ranking: without the discipline two threads taking two locks in
opposite orders do deadlock. -/
theorem inversion_deadlocks :
    Deadlock [⟨[.acq 2, .rel 2, .rel 1], [1]⟩, ⟨[.acq 1, .rel 1, .rel 2], [2]⟩] := by
  refine ⟨⟨0, _, rfl, fun h => nomatch h⟩, fun i t hi _ => ?_⟩
  rcases i with _ | _ | i
  · cases hi
    exact ⟨_, 2, _, rfl, rfl, 1, Nat.succ_ne_zero 0, _, rfl, .head _⟩
  · cases hi
    exact ⟨_, 1, _, rfl, rfl, 0, (Nat.succ_ne_zero 0).symm, _, rfl, .head _⟩
  · cases hi

/-- krill's own nesting, as recorded on the unchanged tree, follows the ranking: a command
of a CA holds `cas/<ca>` while the pre-save listeners take the published-object store, the
task queue and the signer stores; the repository writer holds its update lock while the
rsync writer takes its own.  And what it must never do is refused. -/
theorem krill_nesting_ranked :
    edgeOk (.root .cas) (.scope .cas) = true ∧ edgeOk (.scope .cas) (.root .caObjects) = true ∧
    edgeOk (.scope .cas) (.root .tasks) = true ∧ edgeOk (.root .caObjects) (.root .keys) = true ∧
    edgeOk (.scope .cas) (.root .signers) = true ∧ edgeOk (.root .signers) (.scope .signers) = true ∧
    edgeOk (.root .tasks) (.scope .tasks) = true ∧ edgeOk .pubdUpdate .rsync = true ∧
    edgeOk .pubdUpdate (.root .pubdObjects) = true ∧
    edgeOk (.scope .taProxy) (.root .tasks) = true ∧ edgeOk (.scope .taSigner) (.root .keys) = true ∧
    edgeOk (.scope .cas) (.scope .cas) = false ∧ edgeOk (.root .tasks) (.scope .cas) = false ∧
    edgeOk (.root .caObjects) (.scope .cas) = false ∧ edgeOk .rsync .pubdUpdate = false ∧
    edgeOk (.scope .status) (.scope .cas) = false ∧
    -- the history cache is taken first and held over every entity-store read; the status cache
    -- over the status write; neither may be requested by a thread inside a store transaction
    edgeOk .historyCache (.root .cas) = true ∧ edgeOk .historyCache (.scope .cas) = true ∧
    edgeOk .historyCache (.scope .pubd) = true ∧
    edgeOk .statusCache (.root .status) = true ∧ edgeOk .statusCache (.scope .status) = true ∧
    edgeOk (.scope .cas) .historyCache = false ∧ edgeOk (.root .cas) .historyCache = false ∧
    edgeOk (.scope .cas) .statusCache = false ∧ edgeOk (.scope .status) .statusCache = false ∧
    -- signing happens inside CA commands and the published-object store; binding a pending
    -- signer or recording a key takes the signer store from inside the router
    edgeOk (.scope .cas) .signerPending = true ∧ edgeOk (.root .caObjects) .signerPending = true ∧
    edgeOk .signerPending .signerHandle = true ∧ edgeOk .signerPending (.root .signers) = true ∧
    edgeOk .signerHandle (.scope .signers) = true ∧ edgeOk (.scope .signers) .signerPending = false := by
  decide

/-- `edgeOk` compares ranks: an observed edge passes exactly when the held lock is ranked strictly below the wanted
one.  That is the shape of `okProg`'s premise (`∀ h ∈ held, h < l`) if the numbers of a lock program are read as the
ranks of krill's lock classes; no theorem ties the two numberings together. -/
theorem edgeOk_iff (a b : Lock) : edgeOk a b = true ↔ rank a < rank b := by
  simp [edgeOk]

/-- The lock sites of the source as the translator found them on this run. -/
def sourceSites : List Site :=
  KM.Generated.lockSites.map fun s => ⟨s.lock, s.held, s.annotated, s.exempt⟩

/-- Tie to the source: every site of a lock that is somewhere held over later statements is
seen by the lock-order recorder (regenerated from `/repo/src` on every run). -/
theorem source_lock_sites_annotated : sitesOk sourceSites = true := by
  decide +kernel

/-- What the rule buys: a site of a non-leaf lock that passes is annotated or exempt. -/
theorem sitesOk_spec (sites : List Site) (h : sitesOk sites = true) (s : Site) (hs : s ∈ sites)
    (t : Site) (ht : t ∈ sites) (hl : t.lock = s.lock) (hh : t.held = true) :
    s.annotated = true ∨ s.exempt = true := by
  have h1 := List.all_eq_true.mp h s hs
  unfold siteOk at h1
  have hn : nonLeaf sites s.lock = true := by
    unfold nonLeaf
    exact List.any_eq_true.mpr ⟨t, ht, by simp [hl, hh]⟩
  simp [hn] at h1
  exact h1

/-- The rule is not vacuous: a history-cache-like lock with one unannotated temporary site
beside a held one is refused. -/
example : sitesOk [⟨5, true, true, false⟩, ⟨5, false, false, false⟩] = false := by decide
example : sitesOk [⟨5, true, true, false⟩, ⟨5, false, true, false⟩, ⟨4, false, false, false⟩] = true := by decide

/-- Example: a CA command's lock program follows the discipline. -/
example : Thread.ok ⟨[.acq 10, .acq 15, .acq 20, .rel 20, .acq 30, .rel 30, .rel 15, .rel 10], []⟩ := by
  simp only [Thread.ok, okProg]
  decide

end KM.Props.C18
