/-
C10 (source tie) — the hand-written model of `CurrentObjects::verify_delta_applies`
(`KM.Pubd.verifyDelta`, Pubd/Content.lean) equals the definition that the translator `pure_fns`
regenerates from `/repo/src/server/pubd/rrdp.rs` on every run (`Generated/PureFnsC10.lean`,
`KM.Gen.C10.CurrentObjects.verify_delta_applies` with its three loops `.loop`, `.loop2`, `.loop3`).
The second half of the file does the same for `CurrentObjects::apply_delta` and `KM.Pubd.applyDelta`.

`publish_iff`, `publish_atomic`, `isolation` (Props/C10.lean) are about `verifyDelta`: a request is
accepted iff every published URI is inside the publisher's jail and new, every updated or
withdrawn URI is inside the jail and present with the stated hash; publishes are judged first, then
updates, then withdraws, and the first error wins.  With `gen_verify_delta_applies_eq_model` those
tests are tied to the Rust statements loop by loop: a dropped jail test in one of the three loops,
a dropped presence or hash test, `contains` replaced by `contains_key` for withdraws, the loops
re-ordered, an error that no longer ends the function – each such edit changes the generated
definition and this file stops checking.

Instantiation: the abstract element type ↦ the model's `Elem`; `jail.is_parent_of(&x.uri)` ↦
`inJail jail x.uri`; `self.0.contains_key(&CurrentObjectUri::from(&x.uri))` ↦ the model's look-up
under the canonical key; `self.contains(x.hash, &x.uri)` ↦ "the object under the canonical key has
that hash" (`CurrentObjects::contains`, rrdp.rs:1379-1384); the three lists ↦ the publishes, updates
and withdraws of the request in protocol order (`Delta.ordered`).
-/
import KrillModel.Generated.PureFnsC10
import KrillModel.Pubd.Content
namespace KM.Props.C10Src
open KM.Pubd

/-- `self.0.contains_key(&CurrentObjectUri::from(&x.uri))` -/
def present (objs : Objs) (e : Elem) : Bool := (objs.get? (key e.uri)).isSome

/-- `self.contains(x.hash, &x.uri)`; a publish element has no hash (the code never asks). -/
def matchesHash (objs : Objs) : Elem → Bool
  | .publish _ _ => false
  | .update u h _ => (objs.get? (key u)).map Content.hash == some h
  | .withdraw u h => (objs.get? (key u)).map Content.hash == some h

/-- `Result<(), PublicationDeltaError>` of the code ↦ the model's `Option DeltaErr`. -/
def toExcept : Option DeltaErr → Except DeltaErr Unit
  | none => .ok ()
  | some e => .error e

/-! ### the three loops over abstract elements -/
section generic
variable {E ε : Type} (ij pr mh : E → Bool) (eo ep en : E → ε) (ps us ws : List E)

/-- One round of the first loop. -/
def chkP (e : E) : Option ε := if !ij e then some (eo e) else if pr e then some (ep e) else none
/-- One round of the second and of the third loop. -/
def chkU (e : E) : Option ε := if !ij e then some (eo e) else if !mh e then some (en e) else none

def toExceptG : Option ε → Except ε Unit
  | none => .ok ()
  | some e => .error e

theorem loop3_gen (l : List E) :
    KM.Gen.C10.CurrentObjects.verify_delta_applies.loop3 ij pr mh eo ep en ps us ws l
      = toExceptG (l.findSome? (chkU ij mh eo en)) := by
  induction l with
  | nil => rfl
  | cons e t ih =>
    unfold KM.Gen.C10.CurrentObjects.verify_delta_applies.loop3
    simp only [List.findSome?_cons, chkU]
    cases ij e <;> cases mh e <;> simp [toExceptG, ih]

theorem loop2_gen (l : List E) :
    KM.Gen.C10.CurrentObjects.verify_delta_applies.loop2 ij pr mh eo ep en ps us ws l
      = toExceptG ((l ++ ws).findSome? (chkU ij mh eo en)) := by
  induction l with
  | nil =>
    unfold KM.Gen.C10.CurrentObjects.verify_delta_applies.loop2
      KM.Gen.C10.CurrentObjects.verify_delta_applies.after2
    exact loop3_gen ij pr mh eo ep en ps us ws ws
  | cons e t ih =>
    unfold KM.Gen.C10.CurrentObjects.verify_delta_applies.loop2
    simp only [List.cons_append, List.findSome?_cons, chkU]
    cases ij e <;> cases mh e <;> simp [toExceptG, ih]

theorem loop_gen (l : List E) :
    KM.Gen.C10.CurrentObjects.verify_delta_applies.loop ij pr mh eo ep en ps us ws l
      = toExceptG ((l.findSome? (chkP ij pr eo ep)).or ((us ++ ws).findSome? (chkU ij mh eo en))) := by
  induction l with
  | nil =>
    unfold KM.Gen.C10.CurrentObjects.verify_delta_applies.loop
      KM.Gen.C10.CurrentObjects.verify_delta_applies.after
    simpa using loop2_gen ij pr mh eo ep en ps us ws us
  | cons e t ih =>
    unfold KM.Gen.C10.CurrentObjects.verify_delta_applies.loop
    simp only [List.findSome?_cons, chkP]
    cases ij e <;> cases pr e <;> simp [toExceptG, ih]

end generic

/-- On publish elements the model's step is the first loop's round … -/
theorem checkElem_publish (objs : Objs) (jail : Uri) (e : Elem) (h : e.isPublish = true) :
    checkElem objs jail e =
      chkP (fun e => inJail jail e.uri) (present objs) (fun e => DeltaErr.outside e.uri)
        (fun e => DeltaErr.present e.uri) e := by
  cases e <;> simp [Elem.isPublish] at h
  rfl

/-- … on update and withdraw elements the round of the second / third loop. -/
theorem checkElem_other (objs : Objs) (jail : Uri) (e : Elem) (h : e.isPublish = false) :
    checkElem objs jail e =
      chkU (fun e => inJail jail e.uri) (matchesHash objs) (fun e => DeltaErr.outside e.uri)
        (fun e => DeltaErr.noMatch e.uri) e := by
  cases e <;> simp [Elem.isPublish] at h <;> rfl

theorem findSome_congr {α β} (f g : α → Option β) (l : List α) (h : ∀ x ∈ l, f x = g x) :
    l.findSome? f = l.findSome? g := by
  induction l with
  | nil => rfl
  | cons a t ih =>
    simp only [List.findSome?_cons, h a List.mem_cons_self]
    rw [ih (fun x hx => h x (List.mem_cons_of_mem _ hx))]

/-- The model's `findSome?` over the ordered request, split like the code's loops. -/
theorem model_split (objs : Objs) (jail : Uri) (d : Delta) :
    verifyDelta objs jail d =
      ((d.filter Elem.isPublish).findSome? (chkP (fun e => inJail jail e.uri) (present objs)
          (fun e => DeltaErr.outside e.uri) (fun e => DeltaErr.present e.uri))).or
        ((d.filter Elem.isUpdate ++ d.filter Elem.isWithdraw).findSome?
          (chkU (fun e => inJail jail e.uri) (matchesHash objs) (fun e => DeltaErr.outside e.uri)
            (fun e => DeltaErr.noMatch e.uri))) := by
  have hp : ∀ e ∈ d.filter Elem.isPublish, e.isPublish = true := fun e he => (List.mem_filter.mp he).2
  have hu : ∀ e ∈ d.filter Elem.isUpdate ++ d.filter Elem.isWithdraw, e.isPublish = false := by
    intro e he
    rcases List.mem_append.mp he with h | h <;> have := (List.mem_filter.mp h).2 <;>
      cases e <;> first | rfl | cases this
  unfold verifyDelta Delta.ordered
  rw [List.append_assoc, List.findSome?_append]
  rw [findSome_congr (checkElem objs jail) _ (d.filter Elem.isPublish)
        (fun e he => checkElem_publish objs jail e (hp e he)),
      findSome_congr (checkElem objs jail) _ (d.filter Elem.isUpdate ++ d.filter Elem.isWithdraw)
        (fun e he => checkElem_other objs jail e (hu e he))]

/-- `CurrentObjects::verify_delta_applies` as translated from the source = the model the C10 theorems
are about, for every current object set, jail and request. -/
theorem gen_verify_delta_applies_eq_model (objs : Objs) (jail : Uri) (d : Delta) :
    KM.Gen.C10.CurrentObjects.verify_delta_applies (E := Elem) (ε := DeltaErr)
      (fun e => inJail jail e.uri) (present objs) (matchesHash objs)
      (fun e => .outside e.uri) (fun e => .present e.uri) (fun e => .noMatch e.uri)
      (d.filter Elem.isPublish) (d.filter Elem.isUpdate) (d.filter Elem.isWithdraw)
      = toExcept (verifyDelta objs jail d) := by
  unfold KM.Gen.C10.CurrentObjects.verify_delta_applies
  rw [loop_gen, model_split]
  generalize List.findSome? _ (d.filter Elem.isPublish) = a
  generalize List.findSome? _ (d.filter Elem.isUpdate ++ d.filter Elem.isWithdraw) = b
  cases a <;> cases b <;> rfl

/-! non-vacuity on the generated body itself: an accepted update; an update whose hash does not
match; a publish outside the jail is reported although a withdraw listed BEFORE it is bad too
(publishes are judged first) -/
def jailCa : Uri := ⟨rsyncLower, ⟨"h", 0⟩, ⟨"m", 0⟩, ["ca"], true⟩
def uX : Uri := ⟨rsyncLower, ⟨"h", 0⟩, ⟨"m", 0⟩, ["ca", "x.cer"], false⟩
def uOut : Uri := ⟨rsyncLower, ⟨"h", 0⟩, ⟨"m", 0⟩, ["cb", "y.cer"], false⟩
def objs0 : Objs := [(key uX, ⟨1, 10⟩)]
def genOn (d : Delta) : Except DeltaErr Unit :=
  KM.Gen.C10.CurrentObjects.verify_delta_applies (E := Elem) (ε := DeltaErr)
    (fun e => inJail jailCa e.uri) (present objs0) (matchesHash objs0)
    (fun e => .outside e.uri) (fun e => .present e.uri) (fun e => .noMatch e.uri)
    (d.filter Elem.isPublish) (d.filter Elem.isUpdate) (d.filter Elem.isWithdraw)
def errOf : Except DeltaErr Unit → Option DeltaErr
  | .ok _ => none
  | .error e => some e
example : errOf (genOn [.update uX 1 ⟨2, 10⟩]) = none := by decide +kernel
example : errOf (genOn [.update uX 7 ⟨2, 10⟩]) = some (.noMatch uX) := by decide +kernel
example : errOf (genOn [.withdraw uX 7, .publish uOut ⟨3, 10⟩]) = some (.outside uOut) := by decide +kernel
example : errOf (genOn [.publish uX ⟨3, 10⟩]) = some (.present uX) := by decide +kernel

/-! ## `CurrentObjects::apply_delta`

The three loops of `apply_delta` (publishes and updates insert the element's content under the canonical
key of its URI, withdraws remove that key) are regenerated as `KM.Gen.C10.CurrentObjects.apply_delta`.
`publish_atomic`, `staging_refines`, `rrdp_update_preserves` (Props/C10.lean) are about the model's
`applyDelta`; with the theorem below an edit of an arm (an update that removes, a withdraw that is
skipped, another order of the three loops) changes the generated definition and this file stops
checking. -/

/-- What an element puts under its key (never evaluated for a withdraw). -/
def contentOf : Elem → Content
  | .publish _ c => c
  | .update _ _ c => c
  | .withdraw _ _ => ⟨0, 0⟩

def insEl (o : Objs) (e : Elem) : Objs := o.insert (key e.uri) (contentOf e)
def remEl (o : Objs) (e : Elem) : Objs := o.erase (key e.uri)

theorem ad_loop3 (l : List Elem) (hl : ∀ e ∈ l, e.isWithdraw = true) :
    ∀ (o0 o : Objs) (ps us ws : List Elem),
    KM.Gen.C10.CurrentObjects.apply_delta.loop3 insEl remEl o0 ps us ws o l = l.foldl applyElem o := by
  induction l with
  | nil => intro o0 o ps us ws; simp [KM.Gen.C10.CurrentObjects.apply_delta.loop3, KM.Gen.C10.CurrentObjects.apply_delta.after3]
  | cons e tl ih =>
      intro o0 o ps us ws
      have he := hl e (by simp)
      have htl : ∀ x ∈ tl, x.isWithdraw = true := fun x hx => hl x (by simp [hx])
      cases e <;> simp [Elem.isWithdraw] at he  -- only `withdraw` is left
      simp [KM.Gen.C10.CurrentObjects.apply_delta.loop3, ih htl, remEl, applyElem, Elem.uri]

theorem ad_loop2 (l : List Elem) (hl : ∀ e ∈ l, e.isUpdate = true) (ws : List Elem)
    (hw : ∀ e ∈ ws, e.isWithdraw = true) :
    ∀ (o0 o : Objs) (ps us : List Elem),
    KM.Gen.C10.CurrentObjects.apply_delta.loop2 insEl remEl o0 ps us ws o l =
      ws.foldl applyElem (l.foldl applyElem o) := by
  induction l with
  | nil =>
      intro o0 o ps us
      simp [KM.Gen.C10.CurrentObjects.apply_delta.loop2, KM.Gen.C10.CurrentObjects.apply_delta.after2, ad_loop3 ws hw]
  | cons e tl ih =>
      intro o0 o ps us
      have he := hl e (by simp)
      have htl : ∀ x ∈ tl, x.isUpdate = true := fun x hx => hl x (by simp [hx])
      cases e <;> simp [Elem.isUpdate] at he  -- only `update` is left
      simp [KM.Gen.C10.CurrentObjects.apply_delta.loop2, ih htl, insEl, contentOf, applyElem, Elem.uri]

theorem ad_loop (l : List Elem) (hl : ∀ e ∈ l, e.isPublish = true) (us ws : List Elem)
    (hu : ∀ e ∈ us, e.isUpdate = true) (hw : ∀ e ∈ ws, e.isWithdraw = true) :
    ∀ (o0 o : Objs) (ps : List Elem),
    KM.Gen.C10.CurrentObjects.apply_delta.loop insEl remEl o0 ps us ws o l =
      ws.foldl applyElem (us.foldl applyElem (l.foldl applyElem o)) := by
  induction l with
  | nil =>
      intro o0 o ps
      simp [KM.Gen.C10.CurrentObjects.apply_delta.loop, KM.Gen.C10.CurrentObjects.apply_delta.after, ad_loop2 us hu ws hw]
  | cons e tl ih =>
      intro o0 o ps
      have he := hl e (by simp)
      have htl : ∀ x ∈ tl, x.isPublish = true := fun x hx => hl x (by simp [hx])
      cases e <;> simp [Elem.isPublish] at he  -- only `publish` is left
      simp [KM.Gen.C10.CurrentObjects.apply_delta.loop, ih htl, insEl, contentOf, applyElem, Elem.uri]

/-- `CurrentObjects::apply_delta`: generated definition = model, for every object map and every delta. -/
theorem gen_apply_delta_eq_model (objs : Objs) (d : Delta) :
    KM.Gen.C10.CurrentObjects.apply_delta insEl remEl objs
        (d.filter Elem.isPublish) (d.filter Elem.isUpdate) (d.filter Elem.isWithdraw) =
      applyDelta objs d := by
  unfold KM.Gen.C10.CurrentObjects.apply_delta
  rw [ad_loop _ (fun e he => (List.mem_filter.mp he).2) _ _
        (fun e he => (List.mem_filter.mp he).2) (fun e he => (List.mem_filter.mp he).2)]
  simp [applyDelta, Delta.ordered, List.foldl_append]

end KM.Props.C10Src
