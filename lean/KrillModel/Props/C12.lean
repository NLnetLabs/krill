/-
C12 — Up-down (RFC 6492) and publication (RFC 8181) requests act only for the registered
identity key.

Model `KrillModel.Proto.Cms`, lemmas `KrillModel.Proto.Lemmas`: each entry point refuses before anything is
done or has found the message authentic (`rfc6492_cases`, `rfc8181_cases`), and then answers what
`processRequest` / `process8181` answer.  Every theorem holds for every decoder `decode : Bytes → Option Signed`
(every way byte strings map to signed messages – so in particular for every corruption of a
valid message: it either no longer decodes, or decodes to *some* signed message, and then the
theorems apply to that message), for every state of the parent CA / publication server (so
before and after any identity update on either side) and every message.
-/
import KrillModel.Proto.Lemmas
namespace KM.Props.C12
open KM.Proto

variable {Bytes : Type}

/-- An entry point that refuses before anything is done unless `A` holds changes the state, or replies, only if `A`. -/
theorem acts_only_if {σ μ : Type} {s : σ} {out : σ × Out μ} {A : Prop}
    (hc : (∃ why, out = (s, .refused why) ∧ why ≠ .processing) ∨ A)
    (h : out.1 ≠ s ∨ ∃ m, out.2 = .replied m) : A := by
  rcases hc with ⟨why, rfl, _⟩ | ha
  · rcases h with h | ⟨m, h⟩
    · exact absurd rfl h
    · cases h
  · exact ha

/-! ## Only the key registered for the named sender makes anything happen -/

/-- RFC 6492: if the parent CA changes in any way, or any reply comes back, then the bytes decode
to a message whose signature validates (key and validity) under the ID key registered – in this
very state – for the child named as its sender. -/
theorem acts_only_for_registered_key (decode : Bytes → Option (Signed Msg)) (ca : Ca) (bytes : Bytes)
    (h : (rfc6492 decode ca bytes).1 ≠ ca ∨ ∃ m, (rfc6492 decode ca bytes).2 = .replied m) :
    ∃ sg c, decode bytes = some sg ∧ lookup ca.children sg.body.sender = some c ∧
      sg.signer = c.idKey ∧ sg.fresh = true := by
  obtain ⟨sg, c, _, hd, hl, hs, hf, _⟩ := acts_only_if (rfc6492_cases decode ca bytes) h
  exact ⟨sg, c, hd, hl, hs, hf⟩

/-- RFC 8181: the same for the publication server; the publisher is the one named in the URL, the
key the one in its access record. -/
theorem acts_only_for_registered_key_8181 (decode : Bytes → Option (Signed PMsg)) (srv : Server)
    (publisher : Handle) (bytes : Bytes)
    (h : (rfc8181 decode srv publisher bytes).1 ≠ srv ∨
         ∃ m, (rfc8181 decode srv publisher bytes).2 = .replied m) :
    ∃ sg p, decode bytes = some sg ∧ lookup srv.publishers publisher = some p ∧
      sg.signer = p.idKey ∧ sg.fresh = true := by
  obtain ⟨sg, p, hd, hl, hs, hf, _⟩ := acts_only_if (rfc8181_cases decode srv publisher bytes) h
  exact ⟨sg, p, hd, hl, hs, hf⟩

/-! ## Everything else is refused, and nothing changes -/

/-- RFC 6492: a message that is not signed with the key registered for its claimed sender –
another child's key, a replaced identity, a random key, a sender that is not a child, bytes that
do not decode – is refused before anything is done: same state, no reply. -/
theorem refused_no_change (decode : Bytes → Option (Signed Msg)) (ca : Ca) (bytes : Bytes)
    (h : ¬ ∃ sg c, decode bytes = some sg ∧ lookup ca.children sg.body.sender = some c ∧
      sg.signer = c.idKey ∧ sg.fresh = true) :
    ∃ why, rfc6492 decode ca bytes = (ca, .refused why) ∧ why ≠ .processing :=
  (rfc6492_cases decode ca bytes).resolve_right fun ⟨sg, c, _, hd, hl, hs, hf, _⟩ => h ⟨sg, c, hd, hl, hs, hf⟩

theorem refused_no_change_8181 (decode : Bytes → Option (Signed PMsg)) (srv : Server)
    (publisher : Handle) (bytes : Bytes)
    (h : ¬ ∃ sg p, decode bytes = some sg ∧ lookup srv.publishers publisher = some p ∧
      sg.signer = p.idKey ∧ sg.fresh = true) :
    ∃ why, rfc8181 decode srv publisher bytes = (srv, .refused why) ∧ why ≠ .processing :=
  (rfc8181_cases decode srv publisher bytes).resolve_right fun ⟨sg, p, hd, hl, hs, hf, _⟩ => h ⟨sg, p, hd, hl, hs, hf⟩

/-- Corruption: what happens depends on the bytes only through what they decode to.  So a
corrupted copy `bytes'` of a message is treated exactly like the original if it still decodes to
the identical signed message (same sender, recipient, payload, still validating – e.g. a flipped
padding bit), and in every other case the theorems above apply to whatever it decodes to: refused
without change unless that is itself validly signed with the registered key of its sender. -/
theorem outcome_depends_on_decoding_only (decode : Bytes → Option (Signed Msg)) (ca : Ca)
    (bytes bytes' : Bytes) (h : decode bytes' = decode bytes) :
    rfc6492 decode ca bytes' = rfc6492 decode ca bytes := by
  unfold rfc6492; rw [h]

theorem outcome_depends_on_decoding_only_8181 (decode : Bytes → Option (Signed PMsg)) (srv : Server)
    (publisher : Handle) (bytes bytes' : Bytes) (h : decode bytes' = decode bytes) :
    rfc8181 decode srv publisher bytes' = rfc8181 decode srv publisher bytes := by
  unfold rfc8181; rw [h]

/-- A corrupted copy that is accepted although it does *not* decode to the original message is
nevertheless a message validly signed with the registered key of its own claimed sender – which a
corruption of a message signed under a one-off key cannot produce (symbolic cryptography). -/
theorem corrupted_accepted_only_if_authentic (decode : Bytes → Option (Signed Msg)) (ca : Ca)
    (bytes' : Bytes)
    (hacc : (rfc6492 decode ca bytes').1 ≠ ca ∨ ∃ m, (rfc6492 decode ca bytes').2 = .replied m) :
    ∃ sg c, decode bytes' = some sg ∧ lookup ca.children sg.body.sender = some c ∧
      sg.signer = c.idKey ∧ sg.fresh = true :=
  acts_only_for_registered_key decode ca bytes' hacc

/-- Identity updates: once the parent has registered a new ID key for a child, a message under
the replaced key is refused without change, whatever it asks for … -/
theorem replaced_identity_refused (decode : Bytes → Option (Signed Msg)) (ca : Ca) (bytes : Bytes)
    (sg : Signed Msg) (c : ChildRec) (newKey : Key)
    (hd : decode bytes = some sg) (hl : lookup ca.children sg.body.sender = some c)
    (hold : sg.signer ≠ newKey) :
    ∃ why, rfc6492 decode (ca.updateChildId sg.body.sender newKey) bytes =
      (ca.updateChildId sg.body.sender newKey, .refused why) ∧ why ≠ .processing :=
  rfc6492_foreign_key decode _ bytes sg _ hd (lookup_updateChildId ca _ c newKey hl) hold

/-- … and a message under the new key passes the identity check (what happens next is up to the
request). -/
theorem new_identity_accepted (decode : Bytes → Option (Signed Msg)) (ca : Ca) (bytes : Bytes)
    (sg : Signed Msg) (c : ChildRec) (hta : ca.handle ≠ "ta")
    (hd : decode bytes = some sg) (hl : lookup ca.children sg.body.sender = some c)
    (hfresh : sg.fresh = true) :
    ∀ why, rfc6492 decode (ca.updateChildId sg.body.sender sg.signer) bytes =
        (ca.updateChildId sg.body.sender sg.signer, .refused why) → why = .processing := by
  intro why h
  rw [rfc6492_authentic decode (ca.updateChildId sg.body.sender sg.signer) bytes sg _ hta hd
    (lookup_updateChildId ca _ c sg.signer hl) rfl hfresh] at h
  generalize processRequest _ _ _ _ = r at h
  obtain ⟨ca2, o⟩ := r
  cases o with
  | none => exact (Out.refused.inj (Prod.mk.inj h).2).symm
  | some p => cases (Prod.mk.inj h).2

/-! ## An accepted request acts for its sender only -/

/-- RFC 6492: whatever an accepted request does – **the automatic un-suspension of a suspended
sender included** – it does to the record of the child named as sender: every other child's
record, the CA's own identity and classes are untouched; a new or replaced certificate (one issued
on request, or re-issued because the sender came back from suspension) is issued to that child
with resources inside its *current* entitlement and inside the class; a certificate that
disappears is the one for the key named in the request, and for a revocation that key is one the
sender has in use; no suspended certificate appears, and one disappears only from the slot of the
key named in the request or of a key the suspended sender has in use. -/
theorem scope_of_accepted (decode : Bytes → Option (Signed Msg)) (ca : Ca) (bytes : Bytes)
    (sg : Signed Msg) (hd : decode bytes = some sg) :
    let ca' := (rfc6492 decode ca bytes).1
    ca'.handle = ca.handle ∧ ca'.idKey = ca.idKey ∧ ca'.classes = ca.classes ∧
    (∀ h, h ≠ sg.body.sender → lookup ca'.children h = lookup ca.children h) ∧
    (∀ ce ∈ ca'.certs, ce ∈ ca.certs ∨
      (ce.2.2.1 = sg.body.sender ∧
        ∃ c res, lookup ca.children sg.body.sender = some c ∧ subset ce.2.2.2.1 c.resources = true ∧
          lookup ca.classes ce.2.1 = some res ∧ subset ce.2.2.2.1 res = true)) ∧
    (∀ ce ∈ ca.certs, ce ∈ ca'.certs ∨
      (sg.body.payload.key? = some ce.1 ∧
        ∀ cls k, sg.body.payload = .revoke cls k →
          ∃ c, lookup ca.children sg.body.sender = some c ∧ c.inUse.any (·.1 == k) = true)) ∧
    (∀ s ∈ ca'.suspendedCerts, s ∈ ca.suspendedCerts) ∧
    (∀ s ∈ ca.suspendedCerts, s ∈ ca'.suspendedCerts ∨ sg.body.payload.key? = some s.key ∨
      ∃ c, lookup ca.children sg.body.sender = some c ∧ c.suspended = true ∧
        (c.inUse.any fun ku => ku.1 == s.key && ku.2 == s.cls) = true) := by
  rcases rfc6492_cases decode ca bytes with ⟨why, he, _⟩ | ⟨sg', c, _, hd', hl, _, _, he⟩
  · rw [he]
    exact ⟨rfl, rfl, rfl, fun _ _ => rfl, fun _ h => Or.inl h, fun _ h => Or.inl h, fun _ h => h,
      fun _ h => Or.inl h⟩
  · cases hd.symm.trans hd'
    have t := processRequest_touches ca sg.body.sender c sg.body.payload
    rw [he, answer_fst]
    exact ⟨t.handle, t.idKey, t.classes, t.others,
      fun ce hce => (t.issued ce hce).imp_right fun ⟨h1, h2, res, h3, h4⟩ => ⟨h1, c, res, hl, h2, h3, h4⟩,
      fun ce hce => (t.removed ce hce).imp_right fun ⟨h1, h2⟩ => ⟨h1, fun cls k hp => ⟨c, hl, h2 cls k hp⟩⟩,
      t.noSusp,
      fun s hs' => (t.slot s hs').imp_right fun h => h.imp_right fun ⟨h1, h2⟩ => ⟨c, hl, h1, h2⟩⟩

/-- RFC 6492, request kind by request kind – the only requests that are answered at all are list,
issue and revoke, and each acts for the sender of the validated message (`ca'` is the state
afterwards):
* **list**: the reply is the sender's entitlement: resources inside what the parent entitled it
  to, and only certificates the CA holds for the sender; a listed certificate that the CA did not
  hold before the request (re-issued by the un-suspension) carries only resources inside the
  sender's entitlement; for a sender that was not suspended nothing changes at all;
* **issue**: the reply carries a certificate for the key of the request, issued to the sender
  (it is in the CA's state under the sender's name afterwards), with resources inside the
  sender's entitlement and inside the class;
* **revoke**: the reply confirms the key of the request; either the class is unknown and nothing
  was done (beyond un-suspending the sender), or the key is one the sender has in use IN THE CLASS
  THE REQUEST NAMES (since fix 239f0a59; a key in use in another class is not answered), or (since
  fix 7be8c4c6) it is one the sender HAD in use and this CA revoked itself (marked revoked before
  the request, or dropped by the un-suspension of this very request) – then nothing is done
  either.  In every case the key is the sender's own. -/
theorem acts_for_sender_by_kind (decode : Bytes → Option (Signed Msg)) (ca : Ca) (bytes : Bytes)
    (m : Signed Msg) (h : (rfc6492 decode ca bytes).2 = .replied m) :
    ∃ sg c, decode bytes = some sg ∧ lookup ca.children sg.body.sender = some c ∧
      sg.signer = c.idKey ∧
      match sg.body.payload with
      | .list =>
        (c.suspended = false → (rfc6492 decode ca bytes).1 = ca) ∧
        ∃ cls, m.body.payload = .listResponse cls ∧
          ∀ e ∈ cls, subset e.2.1 c.resources = true ∧
            ∀ kc ∈ e.2.2, ∃ ce ∈ (rfc6492 decode ca bytes).1.certs,
              ce.1 = kc.1 ∧ ce.2.1 = e.1 ∧ ce.2.2.1 = sg.body.sender ∧ ce.2.2.2.1 = kc.2 ∧
              (ce ∈ ca.certs ∨ subset kc.2 c.resources = true)
      | .issue cls key limit _ =>
        ∃ grant res, m.body.payload = .issueResponse cls key grant ∧
          (key, cls, sg.body.sender, grant, limit) ∈ (rfc6492 decode ca bytes).1.certs ∧
          lookup ca.classes cls = some res ∧
          subset grant c.resources = true ∧ subset grant res = true
      | .revoke cls key =>
        m.body.payload = .revokeResponse cls key ∧
          ((lookup ca.classes cls = none ∧ (c.suspended = false → (rfc6492 decode ca bytes).1 = ca)) ∨
            c.inUse.any (fun ku => ku.1 == key && ku.2 == cls) = true ∨
            c.inUse.any (·.1 == key) = true ∧ c.suspended = true ∨
            (c.revoked.contains key = true ∧ (c.suspended = false → (rfc6492 decode ca bytes).1 = ca)))
      | _ => False := by
  obtain ⟨sg, c, _, hd, hl, hs, _, he⟩ := acts_only_if (rfc6492_cases decode ca bytes) (Or.inr ⟨m, h⟩)
  refine ⟨sg, c, hd, hl, hs, ?_⟩
  rw [he] at h ⊢
  obtain ⟨p, hp, rfl⟩ := answer_replied _ _ _ m h
  rw [answer_fst]
  have f5 := (processRequest_touches ca sg.body.sender c sg.body.payload).issued
  generalize hdp : processRequest ca sg.body.sender c sg.body.payload = r at hp f5
  obtain ⟨ca2, o⟩ := r
  obtain rfl : o = some p := hp
  -- the reply comes from `dispatch` on the state `X`, record `cX`, after the un-suspension: what `dispatch_spec` says of
  -- it there (`hrep`) is carried back to `ca`, `c` - same classes and resources (`hcl`, `hres`), keys in use among the
  -- old ones (`hin`), nothing changed for a sender that was not suspended (`hns`), keys newly revoked were in use (`hrevk`)
  obtain ⟨X, cX, hdis, hcl, hres, hin, hns, hrevk⟩ :=
    processRequest_replied ca sg.body.sender c sg.body.payload ca2 p hdp
  have hrep := (dispatch_spec X sg.body.sender cX sg.body.payload).2 p (by rw [hdis])
  simp only [hdis] at hrep
  cases hpl : sg.body.payload with
  | list =>
    rw [hpl] at hrep
    obtain ⟨e1, e2⟩ := hrep
    refine ⟨fun hx => e1.trans (hns hx).1, _, e2, fun e he => ?_⟩
    obtain ⟨a, b⟩ := list_only_own X sg.body.sender cX e he
    refine ⟨hres ▸ a, fun kc hkc => ?_⟩
    obtain ⟨ce, hce, x1, x2, x3, x4⟩ := b kc hkc
    have hce2 : ce ∈ ca2.certs := e1 ▸ hce
    exact ⟨ce, hce2, x1, x2, x3, x4, (f5 ce hce2).imp_right fun y => x4 ▸ y.2.1⟩
  | issue cls key limit csrOk =>
    rw [hpl] at hrep
    obtain ⟨grant, res, e1, e2, e3, e4, e5⟩ := hrep
    exact ⟨grant, res, e1, e2, hcl ▸ e3, hres ▸ e4, e5⟩
  | revoke cls key =>
    rw [hpl] at hrep
    obtain ⟨e1, e2⟩ := hrep
    refine ⟨e1, ?_⟩
    rcases e2 with ⟨a, b⟩ | b | ⟨a, b⟩
    · exact Or.inl ⟨hcl ▸ a, fun hx => b.trans (hns hx).1⟩
    · obtain ⟨ku, hku, hk⟩ := List.any_eq_true.mp b
      exact Or.inr (Or.inl (List.any_eq_true.mpr ⟨ku, hin ku hku, hk⟩))
    · refine Or.inr (Or.inr ?_)
      cases hs : c.suspended with
      | false =>
        obtain ⟨hX, hcc⟩ := hns hs
        exact Or.inr ⟨hcc ▸ a, fun _ => b.trans hX⟩
      | true =>
        rcases hrevk key (List.contains_iff_mem.mp a) with hk | ⟨ku, hku, hk⟩
        · exact Or.inr ⟨List.contains_iff_mem.mpr hk, fun hx => nomatch hx⟩
        · -- the key was dropped by the un-suspension of this very request
          exact Or.inl ⟨List.any_eq_true.mpr ⟨ku, hku, by simp [hk]⟩, rfl⟩
  | _ => rw [hpl] at hrep; exact hrep

/-- RFC 8181: an accepted request changes the files of the publisher named in the URL only, and
of those only files under the base URI in its access record; the reply to a list query is that
publisher's own file list. -/
theorem scope_of_accepted_8181 (decode : Bytes → Option (Signed PMsg)) (srv : Server)
    (publisher : Handle) (bytes : Bytes) :
    let srv' := (rfc8181 decode srv publisher bytes).1
    srv'.idKey = srv.idKey ∧
    (∀ h, h ≠ publisher → lookup srv'.publishers h = lookup srv.publishers h) ∧
    (∀ p, lookup srv.publishers publisher = some p →
      ∃ p', lookup srv'.publishers publisher = some p' ∧ p'.idKey = p.idKey ∧ p'.base = p.base ∧
        ∀ f, f.1.under p.base = false → (f ∈ p'.files ↔ f ∈ p.files)) ∧
    (∀ m fs, (rfc8181 decode srv publisher bytes).2 = .replied m → m.body = .listReply fs →
      ∃ p, lookup srv.publishers publisher = some p ∧ fs = p.files) := by
  rcases rfc8181_cases decode srv publisher bytes with ⟨why, he, _⟩ | ⟨sg, p, _, hl, _, _, he⟩
  · rw [he]
    exact ⟨rfl, fun _ _ => rfl, fun p hp => ⟨p, hp, rfl, rfl, fun _ _ => Iff.rfl⟩, fun m fs h => nomatch h⟩
  rw [he]
  have hlist : ∀ m fs, (process8181 srv publisher p sg.body).2 = .replied m → m.body = .listReply fs →
      ∃ p, lookup srv.publishers publisher = some p ∧ fs = p.files :=
    fun m fs hm hfs => ⟨p, hl, (process8181_reply hm).2 fs hfs⟩
  generalize hr : process8181 srv publisher p sg.body = r at hlist ⊢
  generalize sg.body = msg at hr
  cases process8181_is hr with
  | @applied els hnone =>
    dsimp only
    refine ⟨rfl, fun h hne => lookup_update_ne srv.publishers publisher h _ hne, fun p0 hp0 => ?_, hlist⟩
    cases hl.symm.trans hp0
    refine ⟨_, lookup_update_eq srv.publishers publisher _ p hl, rfl, rfl, fun f hfu => ?_⟩
    refine mem_foldl_applyElem els p.files f fun e he hfe => ?_
    have := (delta_accepted p els hnone e he).1
    rw [← hfe, hfu] at this
    cases this
  | _ => exact ⟨rfl, fun _ _ => rfl, fun p hp => ⟨p, hp, rfl, rfl, fun _ _ => Iff.rfl⟩, hlist⟩

/-- RFC 8181, request kind by request kind – only list and publish/update/withdraw queries are
answered:
* **list**: the reply is exactly the file list of the publisher named in the URL, nothing changes;
* **publish / update / withdraw**: either the whole delta is refused with an error reply and
  nothing changes, or every element is under the base URI of that publisher's access record, a
  plain publish does not overwrite an existing object, an update or withdraw names an object the
  publisher has (same URI, same hash) – and the publisher's new file set is the old one with
  exactly those elements applied. -/
theorem acts_for_publisher_by_kind_8181 (decode : Bytes → Option (Signed PMsg)) (srv : Server)
    (publisher : Handle) (bytes : Bytes) (m : Signed PMsg)
    (h : (rfc8181 decode srv publisher bytes).2 = .replied m) :
    ∃ sg p, decode bytes = some sg ∧ lookup srv.publishers publisher = some p ∧
      sg.signer = p.idKey ∧
      match sg.body with
      | .listQuery => m.body = .listReply p.files ∧ (rfc8181 decode srv publisher bytes).1 = srv
      | .delta els =>
        (∃ code, m.body = .errorReply code ∧ (rfc8181 decode srv publisher bytes).1 = srv) ∨
        (m.body = .success ∧
          (∀ e ∈ els, e.uri.under p.base = true ∧
            (∀ u hh, e = .publish u hh → hasUri p.files u = false) ∧
            (∀ u old new, e = .update u old new → hasFile p.files u old = true) ∧
            (∀ u old, e = .withdraw u old → hasFile p.files u old = true)) ∧
          lookup (rfc8181 decode srv publisher bytes).1.publishers publisher =
            some { p with files := els.foldl applyElem p.files })
      | _ => False := by
  obtain ⟨sg, p, hd, hl, hs, _, he⟩ := acts_only_if (rfc8181_cases decode srv publisher bytes) (Or.inr ⟨m, h⟩)
  refine ⟨sg, p, hd, hl, hs, ?_⟩
  rw [he] at h ⊢
  generalize hr : process8181 srv publisher p sg.body = r at h ⊢
  generalize sg.body = msg at hr ⊢
  cases process8181_is hr with
  | list => cases h; exact ⟨rfl, rfl⟩
  | rejected hf => cases h; exact Or.inl ⟨_, rfl, rfl⟩
  | applied hf =>
    cases h
    exact Or.inr ⟨rfl, delta_accepted p _ hf, lookup_update_eq srv.publishers publisher (fun _ => _) p hl⟩
  | noQuery => cases h

/-! ## The reply is signed with the server side's current identity key -/

/-- RFC 6492: any reply is signed with the ID key the CA has in this state (so with the new key
right after `ca_update_id`), is sent in the CA's name and addressed to the sender of the request. -/
theorem reply_signed_by_current_id (decode : Bytes → Option (Signed Msg)) (ca : Ca) (bytes : Bytes)
    (m : Signed Msg) (h : (rfc6492 decode ca bytes).2 = .replied m) :
    m.signer = ca.idKey ∧ m.body.sender = ca.handle ∧
    ∃ sg, decode bytes = some sg ∧ m.body.recipient = sg.body.sender := by
  obtain ⟨sg, c, _, hd, _, _, _, he⟩ := acts_only_if (rfc6492_cases decode ca bytes) (Or.inr ⟨m, h⟩)
  rw [he] at h
  obtain ⟨p, _, rfl⟩ := answer_replied _ _ _ m h
  exact ⟨rfl, rfl, sg, hd, rfl⟩

theorem reply_signed_by_current_id_after_update (decode : Bytes → Option (Signed Msg)) (ca : Ca)
    (k : Key) (bytes : Bytes) (m : Signed Msg)
    (h : (rfc6492 decode (ca.updateId k) bytes).2 = .replied m) : m.signer = k :=
  (reply_signed_by_current_id decode (ca.updateId k) bytes m h).1

theorem reply_signed_by_current_id_8181 (decode : Bytes → Option (Signed PMsg)) (srv : Server)
    (publisher : Handle) (bytes : Bytes) (m : Signed PMsg)
    (h : (rfc8181 decode srv publisher bytes).2 = .replied m) : m.signer = srv.idKey := by
  obtain ⟨sg, p, _, _, _, _, he⟩ := acts_only_if (rfc8181_cases decode srv publisher bytes) (Or.inr ⟨m, h⟩)
  rw [he] at h
  exact (process8181_reply h).1

/-! ## A suspended sender: what the automatic un-suspension brings back -/

/-- `ChildUnsuspend`, certificate by certificate.  Let `s` be the suspended certificate in the slot
of a key the child has in use (in a class that still exists).  After a successful un-suspension
* the slot is empty in the suspended certificates in every case;
* the certificate **comes back** – a new certificate for the same key, class and limit, issued to
  this child, with the resources `issue_cert` computes from the old certificate's resources, and
  the key stays in use – **iff** it is not about to expire **and its resources are inside the
  child's current entitlement**;
* otherwise it is **gone**: the key is no longer in use, it is marked revoked in the child's
  record, and no certificate was made for that slot. -/
theorem unsuspend_reissues_iff (ca : Ca) (child : Handle) (c : ChildRec) (ca1 : Ca) (c1 : ChildRec)
    (h : unsuspend ca child c = some (ca1, c1))
    (s : SuspCert) (hs : suspFor ca s.cls s.key = some s) (hk : (s.key, s.cls) ∈ c.inUse)
    (cres : List Nat) (hc : lookup ca.classes s.cls = some cres) :
    (∀ s' ∈ ca1.suspendedCerts, ¬ (s'.key = s.key ∧ s'.cls = s.cls)) ∧
    ((∃ g, issueRes cres s.res s.limit = some g ∧ (s.key, s.cls, child, g, s.limit) ∈ ca1.certs ∧
        (s.key, s.cls) ∈ c1.inUse) ↔
      (s.expiring = false ∧ subset s.res c.resources = true)) ∧
    (¬ (s.expiring = false ∧ subset s.res c.resources = true) →
      (s.key, s.cls) ∉ c1.inUse ∧ s.key ∈ c1.revoked ∧
      ∀ ce ∈ ca1.certs, ce.1 = s.key → ce.2.1 = s.cls → ce ∈ ca.certs) := by
  have hcerts := mem_certs_unsuspend h
  obtain ⟨nofail, hc1, hca1⟩ := unsuspend_eq_some ca child c ca1 c1 h
  have hfate := fate_of_slot ca c (s.key, s.cls) cres s hc hs
  subst hc1
  refine ⟨fun s' hs' hsame => ?_, ?_⟩
  · subst hca1
    have hp := (List.mem_filter.mp hs').2
    simp only [Bool.not_eq_true', List.any_eq_false] at hp
    exact hp (s.key, s.cls) hk (by simp [hsame.1, hsame.2, hc])
  by_cases hcond : s.expiring = false ∧ subset s.res c.resources = true
  · rw [if_pos hcond] at hfate
    refine ⟨iff_of_true ?_ hcond, fun hn => absurd hcond hn⟩
    cases hi : issueRes cres s.res s.limit with
    | none =>
      -- the fate of this key would be `fail`, and the un-suspension succeeded
      have := nofail (s.key, s.cls) hk
      rw [hfate, hi] at this
      cases this
    | some g =>
      rw [hi] at hfate
      exact ⟨g, rfl, (hcerts _).mpr (Or.inr ⟨_, hk, g, s.limit, hfate, rfl⟩),
        List.mem_filter.mpr ⟨hk, by rw [hfate]; rfl⟩⟩
  · rw [if_neg hcond] at hfate
    have hout : (s.key, s.cls) ∉ (unsuspendedRec ca c).inUse := fun hin => by
      have := (List.mem_filter.mp hin).2
      rw [hfate] at this
      exact absurd this (by decide)
    refine ⟨iff_of_false (fun ⟨g, _, _, hin⟩ => hout hin) hcond, fun _ => ⟨hout, ?_, fun ce hce h1 h2 => ?_⟩⟩
    · exact List.mem_append_left _
        (List.mem_map.mpr ⟨(s.key, s.cls), List.mem_filter.mpr ⟨hk, by rw [hfate]; rfl⟩, rfl⟩)
    · refine ((hcerts ce).mp hce).resolve_right ?_
      rintro ⟨ku, _, g, l, hfa, rfl⟩
      rw [show ku = (s.key, s.cls) from Prod.ext h1 h2, hfate] at hfa
      cases hfa

/-- What `issue_cert` demands, and what a failure means: the un-suspension fails exactly when a
suspended certificate that qualifies for re-issue (not expiring, inside the entitlement) carries
a limit that is no longer inside *class ∩ its resources* (`RequestResourceLimit::apply_to`) –
nothing else makes `issue_cert` fail for a class with a current key, in particular not an empty
result. -/
theorem unsuspend_fails_iff (ca : Ca) (child : Handle) (c : ChildRec) :
    unsuspend ca child c = none ↔
      ∃ ku ∈ c.inUse, ∃ cres s, lookup ca.classes ku.2 = some cres ∧ suspFor ca ku.2 ku.1 = some s ∧
        s.expiring = false ∧ subset s.res c.resources = true ∧
        s.limit ≠ [] ∧ subset s.limit (inter s.res cres) = false := by
  rw [unsuspend_eq_none]
  constructor
  · rintro ⟨ku, hku, hf⟩
    obtain ⟨cres, s, a1, a2, a3, a4, a5⟩ := (fate_fail_iff ca c ku).mp hf
    obtain ⟨b1, b2⟩ := (issueRes_none_iff _ _ _).mp a5
    exact ⟨ku, hku, cres, s, a1, a2, a3, a4, b1, b2⟩
  · rintro ⟨ku, hku, cres, s, a1, a2, a3, a4, b1, b2⟩
    exact ⟨ku, hku, (fate_fail_iff ca c ku).mpr
      ⟨cres, s, a1, a2, a3, a4, (issueRes_none_iff _ _ _).mpr ⟨b1, b2⟩⟩⟩

/-- An authentic request of a suspended sender: either the un-suspension fails – then the request
is refused and **nothing** changes, the sender stays suspended – or it is carried out first and
the request is dispatched on the resulting state; afterwards the sender is active. -/
theorem suspended_sender_unsuspended_first (decode : Bytes → Option (Signed Msg)) (ca : Ca)
    (bytes : Bytes) (sg : Signed Msg) (c : ChildRec) (hta : ca.handle ≠ "ta")
    (hd : decode bytes = some sg) (hl : lookup ca.children sg.body.sender = some c)
    (hsig : sg.signer = c.idKey) (hfresh : sg.fresh = true) (hsus : c.suspended = true) :
    (unsuspend ca sg.body.sender c = none ∧ rfc6492 decode ca bytes = (ca, .refused .processing)) ∨
    (∃ ca1 c1, unsuspend ca sg.body.sender c = some (ca1, c1) ∧
      (rfc6492 decode ca bytes).1 = (dispatch ca1 sg.body.sender c1 sg.body.payload).1 ∧
      ∃ c', lookup (rfc6492 decode ca bytes).1.children sg.body.sender = some c' ∧
        c'.suspended = false ∧ c'.idKey = c.idKey ∧ c'.resources = c.resources) := by
  rw [rfc6492_authentic decode ca bytes sg c hta hd hl hsig hfresh]
  rcases processRequest_cases ca sg.body.sender c sg.body.payload with
    ⟨hx, _⟩ | ⟨_, hu, he⟩ | ⟨_, ca1, c1, hu, he⟩
  · rw [hsus] at hx; cases hx
  · exact Or.inl ⟨hu, by rw [he]; rfl⟩
  · rw [he, answer_fst]
    obtain ⟨u5, u6, u7, u8, _⟩ := unsuspend_rec ca sg.body.sender c ca1 c1 hu
    obtain ⟨c', k1, k2, k3, k4⟩ :=
      dispatch_child_rec ca1 sg.body.sender c1 sg.body.payload (u5 c hl)
    exact Or.inr ⟨ca1, c1, hu, rfl, c', k1, k2.trans u8, k3.trans u6, k4.trans u7⟩

/-- … and a request that names a suspended child as sender but is **not** signed with the key
registered for it changes nothing: the child is still suspended, nothing is re-issued, no
suspended certificate is touched (an instance of `refused_no_change`). -/
theorem foreign_key_leaves_suspended (decode : Bytes → Option (Signed Msg)) (ca : Ca) (bytes : Bytes)
    (sg : Signed Msg) (c : ChildRec) (hd : decode bytes = some sg)
    (hl : lookup ca.children sg.body.sender = some c) (hforeign : sg.signer ≠ c.idKey) :
    ∃ why, rfc6492 decode ca bytes = (ca, .refused why) ∧ why ≠ .processing :=
  rfc6492_foreign_key decode ca bytes sg c hd hl hforeign

/-! ### Counter-model: the entitlement test the other way round

`process_child_unsuspend` with the operands of `contains` swapped
(`suspended.resources.contains(&child.resources)`): everything else as in the model. -/
def swappedFate (ca : Ca) (c : ChildRec) (ku : Key × String) : Fate :=
  match lookup ca.classes ku.2 with
  | none => .keep
  | some classRes =>
    match suspFor ca ku.2 ku.1 with
    | none => .keep
    | some s =>
      if !s.expiring && subset c.resources s.res then     -- ← swapped
        match issueRes classRes s.res s.limit with
        | some g => .reissue g s.limit
        | none => .fail
      else .drop

def swappedUnsuspend (ca : Ca) (child : Handle) (c : ChildRec) : Option (Ca × ChildRec) :=
  if c.inUse.any (fun ku => (swappedFate ca c ku).isFail) then none
  else
    let c' : ChildRec :=
      { c with suspended := false,
               inUse := c.inUse.filter (fun ku => !(swappedFate ca c ku).isDrop),
               revoked := (c.inUse.filter (fun ku => (swappedFate ca c ku).isDrop)).map (·.1) ++ c.revoked }
    some ({ ca with
        children := update ca.children child (fun _ => c'),
        certs := c.inUse.filterMap (fun ku => (swappedFate ca c ku).cert? child ku) ++ ca.certs,
        suspendedCerts := ca.suspendedCerts.filter fun s =>
          !(c.inUse.any fun ku => ku.1 == s.key && ku.2 == s.cls && (lookup ca.classes ku.2).isSome) },
      c')

def swappedProcessRequest (ca : Ca) (child : Handle) (c : ChildRec) (pl : Payload) : Ca × Option Payload :=
  if c.suspended then
    match swappedUnsuspend ca child c with
    | none => (ca, none)
    | some (ca1, c1) => dispatch ca1 child c1 pl
  else dispatch ca child c pl

def swappedRfc6492 {Bytes : Type} (decode : Bytes → Option (Signed Msg)) (ca : Ca) (bytes : Bytes) :
    Ca × Out Msg :=
  if ca.handle = "ta" then (ca, .refused .taNotRemote) else
  match decode bytes with
  | none => (ca, .refused .undecodable)
  | some sg =>
    match lookup ca.children sg.body.sender with
    | none => (ca, .refused .unknownSender)
    | some c =>
      if !(sg.signer == c.idKey && sg.fresh) then (ca, .refused .badSignature)
      else
        match swappedProcessRequest ca sg.body.sender c sg.body.payload with
        | (ca2, none) => (ca2, .refused .processing)
        | (ca2, some p) =>
          (ca2, .replied { signer := ca.idKey,
                           body := { sender := ca.handle, recipient := sg.body.sender, payload := p } })

/-- A child that was entitled to `[1, 2]`, got a certificate for it, was suspended, and whose
entitlement was then reduced to `[1]`. -/
def reducedWhileSuspended : Ca :=
  { handle := "p", idKey := 5,
    children := [("c", { idKey := 11, suspended := true, resources := [1], inUse := [(101, "0")] })],
    classes := [("0", [1, 2, 3])],
    suspendedCerts := [{ key := 101, cls := "0", child := "c", res := [1, 2] }] }

def listFromC : Nat → Option (Signed Msg)
  | 0 => some { signer := 11, body := ⟨"c", "p", .list⟩ }
  | _ => none

/-- The swapped test violates the clause of `scope_of_accepted` about new certificates: on a list
request of the child that came back, the CA ends up with a certificate for `[1, 2]` – not held
before, and outside the sender's entitlement `[1]` – and lists it in the reply.  (The model drops
the certificate, see the `example` below.) -/
theorem swapped_contains_overclaims :
    let ca := reducedWhileSuspended
    let ca' := (swappedRfc6492 listFromC ca 0).1
    ¬ (∀ ce ∈ ca'.certs, ce ∈ ca.certs ∨
        (ce.2.2.1 = "c" ∧
          ∃ c res, lookup ca.children "c" = some c ∧ subset ce.2.2.2.1 c.resources = true ∧
            lookup ca.classes ce.2.1 = some res ∧ subset ce.2.2.2.1 res = true)) := by
  intro ca ca' hall
  have hmem : ((101, "0", "c", [1, 2], []) : Cert) ∈ ca'.certs := by decide
  rcases hall _ hmem with h | ⟨_, c, res, hc, hsub, _⟩
  · revert h; decide
  · have : c = { idKey := 11, suspended := true, resources := [1], inUse := [(101, "0")] } := by
      have hc' : lookup ca.children "c" =
          some { idKey := 11, suspended := true, resources := [1], inUse := [(101, "0")] } := by decide
      rw [hc'] at hc
      exact (Option.some.inj hc).symm
    subst this
    revert hsub; decide

example :
    (swappedRfc6492 listFromC reducedWhileSuspended 0).2 =
      .replied { signer := 5, body := ⟨"p", "c", .listResponse [("0", [1], [(101, [1, 2])])]⟩ } ∧
    -- the model: the certificate is dropped, the key revoked, the class listed without certificate
    (rfc6492 listFromC reducedWhileSuspended 0).2 =
      .replied { signer := 5, body := ⟨"p", "c", .listResponse [("0", [1], [])]⟩ } ∧
    (rfc6492 listFromC reducedWhileSuspended 0).1.certs = [] ∧
    (rfc6492 listFromC reducedWhileSuspended 0).1.suspendedCerts = [] ∧
    lookup (rfc6492 listFromC reducedWhileSuspended 0).1.children "c" =
      some { idKey := 11, suspended := false, resources := [1], inUse := [], revoked := [101] } := by
  decide +kernel

/-! ## Non-vacuity -/

/-- A parent with two children; bytes are small numbers with a table as decoder. -/
example :
    let c1 : ChildRec := { idKey := 11, resources := [1, 2], inUse := [(101, "0")] }
    let c2 : ChildRec := { idKey := 12, resources := [3], suspended := true }
    let ca : Ca := { handle := "p", idKey := 5, children := [("a", c1), ("b", c2)],
                     classes := [("0", [1, 2, 3])], certs := [(101, "0", "a", [1, 2], [])] }
    let decode : Nat → Option (Signed Msg)
      | 0 => some { signer := 11, body := ⟨"a", "p", .list⟩ }               -- a, own key
      | 1 => some { signer := 12, body := ⟨"a", "p", .list⟩ }               -- a, signed by b
      | 2 => some { signer := 11, body := ⟨"a", "p", .revoke "0" 101⟩ }
      | 3 => some { signer := 12, body := ⟨"b", "p", .revoke "0" 101⟩ }     -- b revokes a's key
      | 4 => some { signer := 12, body := ⟨"b", "x", .issue "0" 201 [] true⟩ }  -- wrong recipient
      | 5 => some { signer := 11, body := ⟨"a", "p", .list⟩, fresh := false }
      | _ => none
    (rfc6492 decode ca 0).2 = .replied { signer := 5, body := ⟨"p", "a", .listResponse [("0", [1, 2], [(101, [1, 2])])]⟩ } ∧
    rfc6492 decode ca 1 = (ca, .refused .badSignature) ∧
    (rfc6492 decode ca 2).1.certs = [] ∧
    (rfc6492 decode ca 3).2 = .refused .processing ∧ (rfc6492 decode ca 3).1.certs = ca.certs ∧
    (rfc6492 decode ca 4).2 = .replied { signer := 5, body := ⟨"p", "b", .issueResponse "0" 201 [3]⟩ } ∧
    rfc6492 decode ca 5 = (ca, .refused .badSignature) ∧
    rfc6492 decode ca 9 = (ca, .refused .undecodable) ∧
    rfc6492 decode (ca.updateChildId "a" 13) 0 = (ca.updateChildId "a" 13, .refused .badSignature) := by
  intro c1 c2 ca decode
  decide +kernel

/-- Suspension and what comes back.  Child `a` holds certificates in two classes and one with a
limit; it is suspended (`suspendChild`), then the entitlement changes, then it sends a list request:
* entitlement unchanged → all three certificates are re-issued, nothing is left suspended;
* reduced to `[1]` → only the certificate for `[1]` (key 101) comes back, 102 (`[2]`, limit) and
  103 (`[4]`, other class) are dropped and their keys revoked;
* disjoint `[3]` → nothing comes back;
* a certificate about to expire is dropped although it is inside the entitlement;
* a request under another child's key leaves the suspended child exactly as it was;
* a limit that no longer fits the class makes the un-suspension – and the request – fail with no
  change; an issue request for a class in which the sender has no entitlement stores an empty
  certificate and is answered with an error (`issuance_response`: `KeyUseNoIssuedCert`); that
  certificate makes later list requests fail as soon as the class is listed for the sender. -/
example :
    let a : ChildRec := { idKey := 11, resources := [1, 2, 4], inUse := [(101, "0"), (102, "0"), (103, "1")] }
    let b : ChildRec := { idKey := 12, resources := [3], inUse := [(201, "0")] }
    let ca : Ca := { handle := "p", idKey := 5, children := [("a", a), ("b", b)],
                     classes := [("0", [1, 2, 3]), ("1", [4])],
                     certs := [(101, "0", "a", [1], []), (102, "0", "a", [2], [2]), (103, "1", "a", [4], []),
                               (201, "0", "b", [3], [])] }
    let sus := ca.suspendChild "a" (fun _ => false)
    let decode : Nat → Option (Signed Msg)
      | 0 => some { signer := 11, body := ⟨"a", "p", .list⟩ }
      | 1 => some { signer := 12, body := ⟨"a", "p", .list⟩ }               -- signed by b
      | 2 => some { signer := 11, body := ⟨"a", "p", .issue "1" 104 [] true⟩ }
      | _ => none
    -- suspension moves a's certificates, b's stays
    sus.certs = [(201, "0", "b", [3], [])] ∧ sus.suspendedCerts.length = 3 ∧
    (lookup sus.children "a").map (·.suspended) = some true ∧
    ca.suspendChild "zz" (fun _ => false) = ca ∧ sus.suspendChild "a" (fun _ => true) = sus ∧
    -- unchanged entitlement: everything comes back
    (rfc6492 decode sus 0).2 = .replied { signer := 5, body := ⟨"p", "a",
        .listResponse [("0", [1, 2], [(101, [1]), (102, [2])]), ("1", [4], [(103, [4])])]⟩ } ∧
    (rfc6492 decode sus 0).1.suspendedCerts = [] ∧
    (lookup (rfc6492 decode sus 0).1.children "a").map (·.suspended) = some false ∧
    -- reduced to a strict subset
    (rfc6492 decode (sus.updateChildResources "a" [1]) 0).2 = .replied { signer := 5, body := ⟨"p", "a",
        .listResponse [("0", [1], [(101, [1])])]⟩ } ∧
    (lookup (rfc6492 decode (sus.updateChildResources "a" [1]) 0).1.children "a").map (·.revoked) =
      some [102, 103] ∧
    -- disjoint
    (rfc6492 decode (sus.updateChildResources "a" [3]) 0).2 = .replied { signer := 5, body := ⟨"p", "a",
        .listResponse [("0", [3], [])]⟩ } ∧
    (rfc6492 decode (sus.updateChildResources "a" [3]) 0).1.certs = [(201, "0", "b", [3], [])] ∧
    -- about to expire
    (rfc6492 decode (ca.suspendChild "a" (fun k => k == 101)) 0).2 = .replied { signer := 5, body := ⟨"p", "a",
        .listResponse [("0", [1, 2], [(102, [2])]), ("1", [4], [(103, [4])])]⟩ } ∧
    -- foreign key: refused, still suspended, nothing re-issued
    rfc6492 decode sus 1 = (sus, .refused .badSignature) ∧
    -- the class lost `2`: the limit `[2]` of 102 no longer fits → the whole request fails, no change
    (let shrunk := { sus with classes := [("0", [1, 3]), ("1", [4])] }
     rfc6492 decode shrunk 0 = (shrunk, .refused .processing) ∧ unsuspend shrunk "a" { a with suspended := true } = none) ∧
    -- issue in a class without entitlement: an empty certificate is stored, the reply is an error
    (rfc6492 decode (ca.updateChildResources "a" [1]) 2).2 = .refused .processing ∧
    (104, "1", "a", [], []) ∈ (rfc6492 decode (ca.updateChildResources "a" [1]) 2).1.certs ∧
    -- … and that certificate cannot be parsed back (`to_rfc6492_issued_cert`): once the sender is
    -- entitled in that class again, its list requests fail
    (let poisoned := (rfc6492 decode (ca.updateChildResources "a" [1]) 2).1.updateChildResources "a" [1, 4]
     rfc6492 decode poisoned 0 = (poisoned, .refused .processing)) := by
  intro a b ca sus decode
  decide +kernel

example :
    let pa : Publisher := { idKey := 11, base := ["repo", "a"], files := [(["repo", "a", "x.cer"], 1)] }
    let pb : Publisher := { idKey := 12, base := ["repo", "b"] }
    let srv : Server := { idKey := 7, publishers := [("a", pa), ("b", pb)] }
    let decode : Nat → Option (Signed PMsg)
      | 0 => some { signer := 11, body := .listQuery }
      | 1 => some { signer := 11, body := .delta [.publish ["repo", "a", "y.roa"] 2] }
      | 2 => some { signer := 11, body := .delta [.publish ["repo", "b", "y.roa"] 2] }   -- outside
      | 3 => some { signer := 11, body := .delta [.withdraw ["repo", "a", "x.cer"] 9] }  -- wrong hash
      | _ => none
    (rfc8181 decode srv "a" 0).2 = .replied { signer := 7, body := .listReply pa.files } ∧
    rfc8181 decode srv "b" 0 = (srv, .refused .badSignature) ∧      -- a's message on b's URL
    rfc8181 decode srv "c" 0 = (srv, .refused .unknownSender) ∧
    (rfc8181 decode srv "a" 1).2 = .replied { signer := 7, body := .success } ∧
    rfc8181 decode srv "a" 2 = (srv, .replied { signer := 7, body := .errorReply "permission_failure" }) ∧
    rfc8181 decode srv "a" 3 = (srv, .replied { signer := 7, body := .errorReply "no_object_present" }) := by
  intro pa pb srv decode
  decide +kernel

end KM.Props.C12
