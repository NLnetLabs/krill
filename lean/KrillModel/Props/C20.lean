/-
C20 — Only genuine credentials authenticate, and only as the configured identity.
The theorems about who authenticates are read off one description of the provider chain (`chain_ok_iff`: the bearer
arms of `KM.Http.tokenArms`, else the socket peer; `tokenArms_ok_iff`); the session cache, `login` and the header
parsing have their lemmas in `KrillModel.Http.AuthLemmas` / `Http.BearerLemmas`, `respond` in `Http.Lemmas`.

The model is the provider chain of authorizer.rs as written (`KM.Http.authenticate`), the config-file
provider's `login`/`authenticate`, and the session cache with symbolic AEAD (`KM.Http.Session`).
Cryptographic strength (ChaCha20-Poly1305, scrypt) is assumed: a token verifies under a key iff it
was sealed under that key (term equality), hashes are equal iff their inputs are.

Clause → theorem (property text of C20 in /verif/properties.jsonl)

| clause of the property                                                        | theorems |
|---|---|
| a request acts as a user only if it carries the configured admin token verbatim (admin role) | `authenticates_iff` (first disjunct of `BearerAccepts`), `admin_token_verbatim` |
| … or a bearer token that this instance's login issued for a configured user name and password (the role configured for that user) | `authenticates_iff`, `issued_genuine`, `session_identity_is_configured` (under the AEAD assumption `Unforgeable`), `issued_token_authenticates` |
| … or arrives over the Unix socket from a system user mapped in the configuration (that role) | `authenticates_iff` (`PeerAccepts`, with the fall-through explicit), `authenticates_tcp`, `unix_identity_ignores_gid`, `unix_identity_is_mapped_user` |
| login succeeds exactly for a configured user with the matching password whose role permits login | `login_iff`, `login_identity` (full strength), `login_denied_iff`, `login_trichotomy` |
| every other credential – unknown user, wrong password                         | `login_unknown_user`, `login_wrong_password`, `junk_hash_never_logs_in` (an entry whose stored `password_hash` is not the hex text of a hash – locked `"!"`, empty, truncated, one character too long, upper-case hex, non-hex – admits **no** password) |
| the admin token *verbatim*; what "the bearer token of a request" is            | `get_bearer_token_spec` (header parsing of httpclient.rs), `near_miss_same_iff` (of the neighbourhood of a credential – prefixes, extensions, one changed character, other case, white space around it, nothing – exactly the members that only add white space are the same credential), `near_miss_admin_token`, `near_miss_rejected` |
| "the role configured for that user" / "that role": which role map                | `role_map_is_configured` (the `[auth_roles]` of the file if present, else the built-in roles – never a union), `identity_role_is_configured`, `login_role_is_configured`, `undefined_role_never_logs_in`, `start_refused_iff` (which configurations the daemon accepts at all) |
| both provider configurations                                                   | `authenticates_iff` (config-file provider primary, admin token as the legacy arm), `authenticates_iff_admin_token` (admin-token provider primary), `genuine_iff` |
| … truncated, bit-flipped or re-encoded token, token issued under another instance's key – authenticates nobody | `mutated_token_rejected`, `mutations_rejected`, `not_issued_rejected`, `cache_key_is_whole_token`, `injective_key_sound` / `noninjective_key_unsound` (a cache keyed by less than the whole token) |
| … and is refused on every route that requires a permission                    | `refused_everywhere`, `mutated_token_refused_everywhere`, `request_decision` |
| only as the configured identity (title)                                       | `actor_is_identity`, `login_identity`, `session_identity_is_configured` |
| quantifier: every bearer string derived by mutation, arbitrary strings        | the theorems above range over every `Wire` |
| quantifier: every name/password pair incl. case, white space, normalisation   | `login_iff`, `login_identity` for an arbitrary normalisation function |
| quantifier: every user/role configuration, both transports                    | every theorem is for an arbitrary `Config` – the stored `password_hash` of an entry is an arbitrary string (`StoredHash`: the text of a hash term, or `junk`); `Transport` is a parameter |

Session lifetime (not demanded by the property text; stated as the code is):
| expiry      | `session_status_spec`; the config-file provider issues sessions without expiry and never asks: `config_file_sessions_do_not_expire`, `issued_token_authenticates` (after every later history) |
| logout      | `logout_changes_no_decision`, `logout_drops_entry_of_invalid_token` |
| the cache   | part of the model (`SessState.cache`); `cache_sound_invariant`, `authenticate_state_irrelevant`: a cached session is only ever what the token itself decodes to, so it cannot outlive the token's own validity, whatever is swept, logged out or restarted |
-/
import KrillModel.Http.AuthLemmas
import KrillModel.Http.BearerLemmas
import KrillModel.Http.AuthPinned
import KrillModel.Http.ConfigModel
import KrillModel.Http.Lemmas
import KrillModel.Props.C13
namespace KM.Props.C20
open KM.Generated KM.Http

/-! ## Who a bearer string / a socket peer is accepted as -/

/-- The bearer string `w` is a credential of identity `id` with `role`: the configured admin token
verbatim (admin user, admin role), or the canonical encoding of a session sealed under this
instance's key (the session's user, the role its role name is configured as). -/
def BearerAccepts (cfg : Config) (w : Wire) (id : String) (role : Role) : Prop :=
  (w = .text cfg.adminToken ∧ id = adminTokenUser ∧ role = adminRole) ∨
  (w ≠ .text cfg.adminToken ∧
    ∃ n u r, w = .sealed true cfg.key n (.session u r) ∧ id = u ∧ cfg.roles.lookup r = some role)

/-- The request arrives over the Unix socket from a system user mapped in the configuration. -/
def PeerAccepts (cfg : Config) (t : Transport) (id : String) (role : Role) : Prop :=
  ∃ peer rn, t = .unix peer ∧ cfg.unixUsers.lookup peer = some rn ∧
    cfg.roles.lookup rn = some role ∧ id = peer

theorem unixProvider_ok_iff (cfg : Config) (t : Transport) (id : String) (role : Role) :
    unixProvider cfg t = .ok id role ↔ PeerAccepts cfg t id role := by
  refine ⟨?_, fun ⟨peer, rn, ht, h1, h2, hid⟩ => by subst ht hid; simp only [unixProvider, h1, h2]⟩
  fun_cases unixProvider cfg t
  · next peer rn h1 r h2 =>
    intro h
    cases h
    exact ⟨_, rn, rfl, h1, h2, rfl⟩
  · nofun
  · nofun
  · nofun

/-- The arms accept a bearer string only as what `BearerAccepts` says, under either provider configuration. -/
theorem tokenArms_ok (cfg : Config) (st : SessState) (hs : CacheSound cfg.key st) (h : Header) (id : String)
    (role : Role) (he : tokenArms cfg st h = .ok id role) : ∃ w, h = .bearer w ∧ BearerAccepts cfg w id role := by
  cases h with
  | absent =>
    rw [tokenArms_absent] at he
    cases he
  | bearer w =>
    refine ⟨w, rfl, ?_⟩
    rw [tokenArms_bearer cfg st hs] at he
    split at he
    · rename_i hadm
      cases he
      exact Or.inl ⟨hadm, rfl, rfl⟩
    · rename_i hadm
      split at he
      · obtain ⟨n, r, hw, hr⟩ := (sessionAnswer_ok_iff cfg w id role).mp he
        exact Or.inr ⟨hadm, n, id, r, hw, rfl, hr⟩
      · cases he

theorem tokenArms_ok_iff (cfg : Config) (hcf : cfg.authType = .configFile) (st : SessState)
    (hs : CacheSound cfg.key st) (h : Header) (id : String) (role : Role) :
    tokenArms cfg st h = .ok id role ↔ ∃ w, h = .bearer w ∧ BearerAccepts cfg w id role := by
  refine ⟨tokenArms_ok cfg st hs h id role, ?_⟩
  rintro ⟨w, rfl, ⟨rfl, rfl, rfl⟩ | ⟨hne, n, u, r, hw, rfl, hr⟩⟩
  · rw [tokenArms_bearer cfg st hs, if_pos rfl]
  · rw [tokenArms_bearer cfg st hs, if_neg hne, hcf]
    exact (sessionAnswer_ok_iff cfg w id role).mpr ⟨n, r, hw, hr⟩

theorem chain_ok_iff (cfg : Config) (st : SessState) (h : Header) (t : Transport) (id : String) (role : Role) :
    (authenticate cfg st h t).1 = .ok id role ↔
      tokenArms cfg st h = .ok id role ∨ (¬ (tokenArms cfg st h).isOk = true ∧ PeerAccepts cfg t id role) := by
  rw [authenticate_eq, ← unixProvider_ok_iff]
  exact AuthRes.orElse_ok_iff _ _ id role

/-- **A request authenticates as `(id, role)` iff** its bearer string is the admin token verbatim
(admin) or a token sealed under this instance's key (the session's user with the configured role) –
**or no bearer string of the request is accepted, the transport is the Unix socket and the peer is
mapped**.  The fall-through is explicit: a request whose bearer string *failed* (or that has none)
is still promoted to the mapped peer's identity on the Unix socket – and to nobody else's, and never
on TCP. -/
theorem authenticates_iff (cfg : Config) (hcf : cfg.authType = .configFile) (st : SessState)
    (hs : CacheSound cfg.key st) (h : Header) (t : Transport) (id : String) (role : Role) :
    (authenticate cfg st h t).1 = .ok id role ↔
      (∃ w, h = .bearer w ∧ BearerAccepts cfg w id role) ∨
      ((∀ w, h = .bearer w → ∀ id' role', ¬ BearerAccepts cfg w id' role') ∧
        PeerAccepts cfg t id role) := by
  rw [chain_ok_iff, tokenArms_ok_iff cfg hcf st hs]
  refine or_congr Iff.rfl (and_congr_left' ?_)
  simp only [AuthRes.isOk_iff, tokenArms_ok_iff cfg hcf st hs]
  exact ⟨fun hn w hw id' role' ha => hn ⟨id', role', w, hw, ha⟩,
    fun hn ⟨id', role', w, hw, ha⟩ => hn w hw id' role' ha⟩

/-- The identity of a Unix-socket peer is the system user of its **effective uid** alone: the peer's
gid (an input of the step, `PeerCred.gid`) never matters – two peers with the same user and different
gids get the same answer, in every state, for every header. -/
theorem unix_identity_ignores_gid (cfg : Config) (st : SessState) (h : Header) (user : String)
    (g1 g2 : Nat) :
    authenticate cfg st h (transportOf ⟨user, g1⟩) = authenticate cfg st h (transportOf ⟨user, g2⟩) :=
  rfl

/-- … and it is that user's mapping that decides: a peer authenticates (without an accepted bearer
string) iff its user is mapped, as the role mapped for *that* user. -/
theorem unix_identity_is_mapped_user (cfg : Config) (hcf : cfg.authType = .configFile)
    (st : SessState) (hs : CacheSound cfg.key st) (c : PeerCred) (id : String) (role : Role) :
    (authenticate cfg st .absent (transportOf c)).1 = .ok id role ↔
      id = c.user ∧ ∃ rn, cfg.unixUsers.lookup c.user = some rn ∧ cfg.roles.lookup rn = some role := by
  rw [authenticates_iff cfg hcf st hs]
  constructor
  · intro h
    rcases h with ⟨w, hw, _⟩ | ⟨_, p, rn, hp, h1, h2, h3⟩
    · cases hw
    · simp only [transportOf, Transport.unix.injEq] at hp
      subst hp
      exact ⟨h3, rn, h1, h2⟩
  · intro ⟨hid, rn, h1, h2⟩
    exact Or.inr ⟨(fun w hw => by cases hw), c.user, rn, rfl, h1, h2, hid⟩

/-- On TCP (no peer) only a bearer string authenticates. -/
theorem authenticates_tcp (cfg : Config) (hcf : cfg.authType = .configFile) (st : SessState)
    (hs : CacheSound cfg.key st) (h : Header) (id : String) (role : Role) :
    (authenticate cfg st h .tcp).1 = .ok id role ↔
      ∃ w, h = .bearer w ∧ BearerAccepts cfg w id role := by
  rw [authenticates_iff cfg hcf st hs]
  constructor
  · intro h'
    rcases h' with h' | ⟨_, p, _, hp, _⟩
    · exact h'
    · cases hp
  · intro h'; exact Or.inl h'

/-! ## Histories: the cache never matters, issued tokens are genuine -/

/-- After every history of requests, logins, logouts and sweeps the cache is sound, so
`authenticates_iff` applies to every reachable state. -/
theorem cache_sound_invariant (norm : String → String) (cfg : Config) (ops : List Op) :
    CacheSound cfg.key (run norm cfg ops) :=
  List.foldlRecOn ops (step norm cfg) (fun _ he => nomatch he)
    fun st h op _ => step_preserves (fun _ _ => Change.sound) norm st op h

/-- Every token `login` has handed out is a session sealed under this instance's key, under a
nonce already used, for a *configured* user, carrying that user's configured role, which allows
`login`. -/
def IssuedGenuine (cfg : Config) (st : SessState) : Prop :=
  ∀ w ∈ st.issued, ∃ n u e r, n < st.nonce ∧ w = .sealed true cfg.key n (.session u e.role) ∧
    cfg.users.lookup u = some e ∧ cfg.roles.lookup e.role = some r ∧
    r.isAllowed .Login none = true

theorem IssuedGenuine.of_change {cfg : Config} {st st' : SessState} (hi : IssuedGenuine cfg st)
    (h : Change cfg st st') : IssuedGenuine cfg st' := by
  cases h with
  | same => exact hi
  | cached w s hd => exact hi
  | dropped keep => exact hi
  | issued name u r hu hr hal =>
    intro w hw
    rcases List.mem_cons.mp hw with rfl | hw
    · exact ⟨st.nonce, name, u, r, Nat.lt_succ_self _, rfl, hu, hr, hal⟩
    · obtain ⟨n, u', e', r', hn, rest⟩ := hi w hw
      exact ⟨n, u', e', r', Nat.lt_succ_of_lt hn, rest⟩

theorem issued_genuine (norm : String → String) (cfg : Config) (ops : List Op) :
    IssuedGenuine cfg (run norm cfg ops) :=
  List.foldlRecOn ops (step norm cfg) (fun _ hw => nomatch hw)
    fun st h op _ => step_preserves (fun _ _ h hi => hi.of_change h) norm st op h

/-- The AEAD assumption for a bearer string `w` in state `st`: if `w` verifies under this
instance's key, this instance produced it – i.e. `login` issued it. -/
def Unforgeable (cfg : Config) (st : SessState) (w : Wire) : Prop :=
  ∀ n pt, w = .sealed true cfg.key n pt → w ∈ st.issued

/-- Under that assumption, in every reachable state: a session token that authenticates was issued
by this instance's `login` for a configured user, and the request acts as exactly that user with
the role configured for that user. -/
theorem session_identity_is_configured (norm : String → String) (cfg : Config) (ops : List Op)
    (w : Wire) (id : String) (role : Role) (hna : w ≠ .text cfg.adminToken)
    (hunf : Unforgeable cfg (run norm cfg ops) w) (hacc : BearerAccepts cfg w id role) :
    w ∈ (run norm cfg ops).issued ∧
    ∃ e, cfg.users.lookup id = some e ∧ cfg.roles.lookup e.role = some role := by
  rcases hacc with ⟨h, _⟩ | ⟨_, n, u, r, hw, hid, hr⟩
  · exact absurd h hna
  · have hiss := hunf n _ hw
    refine ⟨hiss, ?_⟩
    obtain ⟨n', u', e, r', _, hw', hu, _, _⟩ := issued_genuine norm cfg ops w hiss
    rw [hw] at hw'
    simp only [Wire.sealed.injEq, true_and, Plain.session.injEq] at hw'
    obtain ⟨_, hu', hr'⟩ := hw'
    subst hid
    rw [hu']
    rw [hr'] at hr
    exact ⟨e, hu, hr⟩

/-- **Login succeeds exactly when** the trimmed and normalised name is a configured user, the stored
hash of that user is the hash of the (trimmed, normalised) password under that name and that user's
salt, and that user's role allows `login`; the identity logged in is that user with the role
configured for it, and the token is a fresh session sealed under this instance's key. -/
theorem login_iff (norm : String → String) (cfg : Config) (st : SessState)
    (basic : Option (String × String)) (id role : String) (tok : Wire) :
    (loginConfigFile norm cfg st basic).1 = .ok id role tok ↔
      ∃ raw pw u r, basic = some (raw, pw) ∧ id = norm raw ∧
        cfg.users.lookup id = some u ∧ u.hash = .term ⟨norm pw, id, u.salt⟩ ∧ role = u.role ∧
        cfg.roles.lookup u.role = some r ∧ r.isAllowed .Login none = true ∧
        tok = .sealed true cfg.key st.nonce (.session id role) := by
  constructor
  · intro h
    rcases login_cases norm cfg st basic with he | ⟨raw, pw, u, r, hb, m, ⟨hal, he⟩ | ⟨_, he⟩⟩
    · rw [he] at h; cases h
    · rw [he] at h
      cases h
      exact ⟨raw, pw, u, r, hb, rfl, m.user, m.hash, rfl, m.role, hal, rfl⟩
    · rw [he] at h; cases h
  · rintro ⟨raw, pw, u, r, rfl, rfl, hu, hh, rfl, hr, hal, rfl⟩
    rw [login_of_match ⟨hu, hh, hr⟩, if_pos hal]
    rfl

/-- **Login identity, full strength** (no hypothesis on the configuration): whoever logs in is a
configured user whose *own* stored hash matches the password sent, and gets that user's role.  In
particular the password of one configured user never logs in as another one, however their names
are related by case, white space or Unicode normalisation. -/
theorem login_identity (norm : String → String) (cfg : Config) (st : SessState)
    (raw pw id role : String) (tok : Wire)
    (h : (loginConfigFile norm cfg st (some (raw, pw))).1 = .ok id role tok) :
    ∃ e, cfg.users.lookup id = some e ∧ e.hash = .term ⟨norm pw, id, e.salt⟩ ∧ role = e.role := by
  obtain ⟨raw', pw', u, r, hb, _, hu, hh, hrole, _, _, _⟩ :=
    (login_iff norm cfg st _ id role tok).mp h
  cases hb
  exact ⟨u, hu, hh, hrole⟩

/-- What the pinned tree did (finding F-C20-1, fixed by 2ee45739) – a statement about the
counter-model `Pinned.loginTwoLookups`, **not** about the model of the current code: with two
configured users whose names are equal after normalisation (`"Ａlice"`, full-width A, and `"Alice"`)
the password of the first logged in as the second, with the second's role – `login_identity` was
false.  The current model refuses the same login. -/
theorem login_confuses_equivalent_names :
    let norm : String → String := fun s => if s = "Ａlice" then "Alice" else s
    let ro : Role := Role.simple [.Login]
    let adm : Role := Role.simple Permission.all
    let cfg : Config :=
      { authType := .configFile, adminToken := "secret",
        users := [("Ａlice", ⟨.term ⟨"pw-of-wide-alice", "Alice", 1⟩, 1, "ro"⟩),
                  ("Alice", ⟨.term ⟨"pw-of-alice", "Alice", 2⟩, 2, "adm"⟩)],
        roles := [("ro", ro), ("adm", adm)], unixUsers := [], key := 7, testbed := false }
    (Pinned.loginTwoLookups norm cfg {} (some ("Ａlice", "pw-of-wide-alice"))).1 =
      .ok "Alice" "adm" (.sealed true 7 0 (.session "Alice" "adm")) ∧
    (¬ ∃ e, cfg.users.lookup "Alice" = some e ∧ e.hash = .term ⟨"pw-of-wide-alice", "Alice", e.salt⟩) ∧
    (loginConfigFile norm cfg {} (some ("Ａlice", "pw-of-wide-alice"))).1 = .invalid ∧
    (loginConfigFile norm cfg {} (some ("Ａlice", "pw-of-alice"))).1 =
      .ok "Alice" "adm" (.sealed true 7 0 (.session "Alice" "adm")) := by
  decide +kernel

/-- Login is refused with 403 exactly when everything matches but the role lacks `login`; with 401
in every other case. -/
theorem login_denied_iff (norm : String → String) (cfg : Config) (st : SessState)
    (basic : Option (String × String)) :
    (loginConfigFile norm cfg st basic).1 = .denied ↔
      ∃ raw pw u r, basic = some (raw, pw) ∧ cfg.users.lookup (norm raw) = some u ∧
        u.hash = .term ⟨norm pw, norm raw, u.salt⟩ ∧
        cfg.roles.lookup u.role = some r ∧ r.isAllowed .Login none = false := by
  constructor
  · intro h
    rcases login_cases norm cfg st basic with he | ⟨raw, pw, u, r, hb, m, ⟨_, he⟩ | ⟨hal, he⟩⟩
    · rw [he] at h; cases h
    · rw [he] at h; cases h
    · exact ⟨raw, pw, u, r, hb, m.user, m.hash, m.role, hal⟩
  · rintro ⟨raw, pw, u, r, rfl, hu, hh, hr, hal⟩
    rw [login_of_match ⟨hu, hh, hr⟩, hal]
    rfl

/-- An unknown (normalised) user name, or a password whose hash is not the stored one, is answered
401 – whatever else the configuration contains. -/
theorem login_unknown_user (norm : String → String) (cfg : Config) (st : SessState)
    (raw pw : String) (h : cfg.users.lookup (norm raw) = none) :
    loginConfigFile norm cfg st (some (raw, pw)) = (.invalid, st) :=
  login_of_no_match (fun _ _ m => nomatch h.symm.trans m.user) st

theorem login_wrong_password (norm : String → String) (cfg : Config) (st : SessState)
    (raw pw : String) (u : UserEntry) (h : cfg.users.lookup (norm raw) = some u)
    (hw : u.hash ≠ .term ⟨norm pw, norm raw, u.salt⟩) :
    loginConfigFile norm cfg st (some (raw, pw)) = (.invalid, st) :=
  login_invalid_of_entry h (Or.inl hw) st

/-- **A stored `password_hash` that is not the text of a hash admits no password.**  For every
configuration, every state, every name and password: if the entry found under the trimmed and
normalised name holds a `junk` string – a locked account (`"!"`), an empty string, a hash that lost or
gained a character, upper-case hex, anything that is not the lower-case hex of a 32-byte scrypt
output – the login is answered 401 and nothing changes, whatever the password (the one whose hash
was mangled, another one, the empty one). -/
theorem junk_hash_never_logs_in (norm : String → String) (cfg : Config) (st : SessState)
    (raw pw : String) (u : UserEntry) (s : String) (h : cfg.users.lookup (norm raw) = some u)
    (hj : u.hash = .junk s) :
    loginConfigFile norm cfg st (some (raw, pw)) = (.invalid, st) :=
  login_wrong_password norm cfg st raw pw u h (by rw [hj]; exact fun e => by cases e)

/-- … equivalently: whoever logs in has a stored hash that is the text of a hash term – the term of
the password sent. -/
theorem login_needs_wellformed_hash (norm : String → String) (cfg : Config) (st : SessState)
    (raw pw id role : String) (tok : Wire)
    (h : (loginConfigFile norm cfg st (some (raw, pw))).1 = .ok id role tok) :
    ∃ e, cfg.users.lookup (norm raw) = some e ∧ ∀ s, e.hash ≠ .junk s := by
  obtain ⟨raw', pw', u, r, hb, hid, hu, hh, _⟩ := (login_iff norm cfg st _ id role tok).mp h
  cases hb
  subst hid
  exact ⟨u, hu, fun s hs => by rw [hs] at hh; cases hh⟩

/-- Login answers 200 with a token, 403, or 401 – and 401 exactly when neither of the two
characterisations (`login_iff`, `login_denied_iff`) applies. -/
theorem login_trichotomy (norm : String → String) (cfg : Config) (st : SessState)
    (basic : Option (String × String)) :
    (∃ id role tok, (loginConfigFile norm cfg st basic).1 = .ok id role tok) ∨
    (loginConfigFile norm cfg st basic).1 = .denied ∨
    (loginConfigFile norm cfg st basic).1 = .invalid := by
  cases h : (loginConfigFile norm cfg st basic).1 with
  | ok id role tok => exact Or.inl ⟨id, role, tok, rfl⟩
  | denied => exact Or.inr (Or.inl rfl)
  | invalid => exact Or.inr (Or.inr rfl)

/-! ## Session lifetime: expiry, logout, and the cache -/

/-- With a sound cache, what a request authenticates as does not depend on the session state at
all: not on what is cached, not on what was swept, logged out or issued. -/
theorem authenticate_state_irrelevant (cfg : Config) (st1 st2 : SessState)
    (h1 : CacheSound cfg.key st1) (h2 : CacheSound cfg.key st2) (h : Header) (t : Transport) :
    (authenticate cfg st1 h t).1 = (authenticate cfg st2 h t).1 := by
  rw [authenticate_eq, authenticate_eq]
  dsimp only
  cases h with
  | absent => rw [tokenArms_absent, tokenArms_absent]
  | bearer w => rw [tokenArms_bearer cfg st1 h1, tokenArms_bearer cfg st2 h2]

/-- **A cached session never outlives its token.**  After every history of requests, logins,
logouts and sweeps, every cache entry is exactly what its token decodes to without the cache;
consequently emptying the cache (restart, sweep, logout) changes no decision, and keeping an entry
never extends one. -/
theorem cache_never_outlives (norm : String → String) (cfg : Config) (ops : List Op) :
    (∀ e ∈ (run norm cfg ops).cache, decodeFresh cfg.key e.1 = some e.2) ∧
    ∀ h t, (authenticate cfg (run norm cfg ops) h t).1 = (authenticate cfg {} h t).1 :=
  ⟨cache_sound_invariant norm cfg ops, fun h t =>
    authenticate_state_irrelevant cfg _ _ (cache_sound_invariant norm cfg ops)
      (by intro e he; cases he) h t⟩

/-- Logout (of any bearer string) changes no later decision: the config-file provider's tokens are
self-contained, logging out only drops the cache entry (and a valid token is put straight back by
the authentication the logout handler performs for its log line). -/
theorem logout_changes_no_decision (cfg : Config) (st : SessState) (hs : CacheSound cfg.key st)
    (hl h : Header) (t : Transport) :
    (authenticate cfg (logoutConfigFile cfg st hl) h t).1 = (authenticate cfg st h t).1 :=
  authenticate_state_irrelevant cfg _ _ (logout_sound cfg st hl hs) hs h t

/-- After logging out with a string that is not a valid token of this instance, no cache entry is
keyed by that string. -/
theorem logout_drops_entry_of_invalid_token (cfg : Config) (st : SessState) (w : Wire)
    (hw : decodeFresh cfg.key w = none) :
    ∀ e ∈ (logoutConfigFile cfg st (.bearer w)).cache, e.1 ≠ w := by
  have hrem : ∀ e ∈ (st.remove w).cache, e.1 ≠ w := by
    intro e he
    simp only [SessState.remove, List.mem_filter, bne_iff_ne, ne_eq] at he
    exact he.2
  have hlook : (st.remove w).cache.lookup w = none := by
    cases hl : (st.remove w).cache.lookup w with
    | none => rfl
    | some s => exact absurd rfl (hrem _ (Assoc.mem_of_lookup hl))
  simp only [logoutConfigFile, configFileProvider, decode, hlook, hw]
  exact hrem

/-- `ClientSession::status`, for all start times, maximum ages and instants: without expiry always
active; otherwise (from the start time on) expired iff older than the maximum age, and never
"active" beyond half of it. -/
theorem session_status_spec (start now : Nat) :
    sessionStatus start none now = some .active ∧
    ∀ maxAge, start ≤ now →
      (sessionStatus start (some maxAge) now = some .expired ↔ now - start > maxAge) ∧
      (sessionStatus start (some maxAge) now = some .active ↔ now - start ≤ maxAge / 2) ∧
      (sessionStatus start (some maxAge) now = some .needsRefresh ↔
        maxAge / 2 < now - start ∧ now - start ≤ maxAge) := by
  refine ⟨rfl, fun maxAge hle => ?_⟩
  simp only [sessionStatus, Nat.not_lt.mpr hle, if_false]
  generalize now - start = age
  split
  · simp  -- older than the maximum age: expired
    omega
  · split <;> simp <;> omega  -- older than half of it: needs refresh; else active

/-- The config-file provider's sessions carry no expiry: at every instant their status is
"active". -/
theorem config_file_sessions_do_not_expire (start now : Nat) :
    sessionStatus start configFileExpiresIn now = some .active := rfl

/-- **A token issued by `login` authenticates as the logged-in user with that user's configured role
after every later history** – any number of requests, other logins, sweeps and logouts, including
the logout of this very token – on both transports.  (Sessions of the config-file provider end only
with the instance key.) -/
theorem issued_token_authenticates (norm : String → String) (cfg : Config)
    (hcf : cfg.authType = .configFile) (ops1 ops2 : List Op) (basic : Option (String × String))
    (id role : String) (tok : Wire)
    (hlogin : (loginConfigFile norm cfg (run norm cfg ops1) basic).1 = .ok id role tok)
    (t : Transport) :
    ∃ r, cfg.roles.lookup role = some r ∧
      (authenticate cfg (run norm cfg (ops1 ++ [.login basic] ++ ops2)) (.bearer tok) t).1 = .ok id r := by
  obtain ⟨raw, pw, u, r, _, _, _, _, hrole, hr, _, htok⟩ :=
    (login_iff norm cfg _ basic id role tok).mp hlogin
  refine ⟨r, by rw [hrole]; exact hr, ?_⟩
  rw [authenticates_iff cfg hcf _ (cache_sound_invariant norm cfg _)]
  left
  refine ⟨tok, rfl, Or.inr ⟨by rw [htok]; simp, (run norm cfg ops1).nonce, id, role, htok, rfl, ?_⟩⟩
  rw [hrole]; exact hr

/-! ## The cache key is the whole token -/

/-- A cache hit is a hit on exactly the presented string: the model's (and the code's
`HashMap<Token, _>`) look-up compares whole tokens. -/
theorem cache_key_is_whole_token (st : SessState) (w : Wire) (s : Session)
    (h : st.cache.lookup w = some s) : (w, s) ∈ st.cache :=
  Assoc.mem_of_lookup h

/-- With a cache keyed by an injective function of the token (the identity in the code) the cache
is invisible, for every cache content that earlier decodes can have produced. -/
theorem injective_key_sound {κ : Type} [DecidableEq κ] (k : Wire → κ)
    (hinj : ∀ a b, k a = k b → a = b) (key : Nat) (cache : List (κ × Session))
    (hs : ∀ e ∈ cache, ∃ w, k w = e.1 ∧ decodeFresh key w = some e.2) (w : Wire) :
    (decodeK k key cache w).1 = decodeFresh key w ∧
    ∀ e ∈ (decodeK k key cache w).2, ∃ w', k w' = e.1 ∧ decodeFresh key w' = some e.2 := by
  unfold decodeK
  cases hl : cache.lookup (k w) with
  | some s =>
    obtain ⟨w', hk, hd⟩ := hs _ (Assoc.mem_of_lookup hl)
    have : w' = w := hinj _ _ hk
    subst this
    exact ⟨hd.symm, hs⟩
  | none =>
    cases hd : decodeFresh key w with
    | none => exact ⟨rfl, hs⟩
    | some s =>
      refine ⟨rfl, ?_⟩
      intro e he
      simp only [List.mem_cons] at he
      rcases he with rfl | he
      · exact ⟨w, rfl, hd⟩
      · exact hs e he

/-- With a key that is **not** injective – a prefix of the token, as in the seeded change of round 1 –
the cache is unsound: once a genuine token has been decoded, any string with the same key (the same
first characters, the rest damaged) is accepted as the same session. -/
theorem noninjective_key_unsound {κ : Type} [DecidableEq κ] (k : Wire → κ) (key : Nat)
    (w1 w2 : Wire) (s : Session) (hk : k w1 = k w2) (h1 : decodeFresh key w1 = some s)
    (_h2 : decodeFresh key w2 = none) :
    (decodeK k key (decodeK k key [] w1).2 w2).1 = some s := by
  simp [decodeK, h1, hk]

/-! ## Bearer strings that are no credential -/

theorem genuine_configFile (cfg : Config) (hcf : cfg.authType = .configFile) (w : Wire) :
    Genuine cfg w ↔ ∃ id role, BearerAccepts cfg w id role := by
  unfold Genuine BearerAccepts
  constructor
  · rintro (h | ⟨_, n, u, r, role, hw, hr⟩)
    · exact ⟨_, _, Or.inl ⟨h, rfl, rfl⟩⟩
    · exact ⟨u, role, Or.inr ⟨by rw [hw]; exact Wire.noConfusion, n, u, r, hw, rfl, hr⟩⟩
  · rintro ⟨id, role, ⟨h, _⟩ | ⟨_, n, u, r, hw, _, hr⟩⟩
    · exact Or.inl h
    · exact Or.inr ⟨hcf, n, u, r, role, hw, hr⟩

/-- The genuine bearer strings of `KM.Http.Genuine` (used by `KM.Props.C13.wrong_credentials_refused`)
are exactly the strings that are a credential of somebody: under the config-file provider those of
`BearerAccepts`, under the admin-token provider the admin token alone. -/
theorem genuine_iff (cfg : Config) (w : Wire) :
    Genuine cfg w ↔
      match cfg.authType with
      | .configFile => ∃ id role, BearerAccepts cfg w id role
      | .adminToken => w = .text cfg.adminToken := by
  cases hty : cfg.authType with
  | adminToken => exact ⟨fun h => h.elim id fun h' => absurd (hty ▸ h'.1) AuthType.noConfusion, Or.inl⟩
  | configFile => exact genuine_configFile cfg hty w

/-- A bearer string that is neither the admin token nor the canonical encoding of a payload sealed
under this instance's key yields no identity of its own: the chain answers what the Unix-socket
arm answers (the mapped peer, an error for an unmapped peer, nothing on TCP). -/
theorem mutated_token_rejected (cfg : Config) (hcf : cfg.authType = .configFile) (st : SessState)
    (hs : CacheSound cfg.key st) (w : Wire) (hadm : w ≠ .text cfg.adminToken)
    (hnot : ∀ n pt, w ≠ .sealed true cfg.key n pt) (t : Transport) :
    (authenticate cfg st (.bearer w) t).1 = unixProvider cfg t ∧
    ∀ id role, ¬ BearerAccepts cfg w id role := by
  have hng := not_genuine_of_not_sealed hadm hnot
  exact ⟨not_genuine_as_absent cfg st hs w hng t,
    fun id role ha => hng ((genuine_configFile cfg hcf w).mpr ⟨id, role, ha⟩)⟩

/-- The mutation classes of the property, as terms: a re-encoding that changes the text
(non-canonical base64), a token sealed under another instance's key, and any other text (a truncated
or bit-flipped copy, an arbitrary string) different from the admin token. -/
theorem mutations_rejected (cfg : Config) (hcf : cfg.authType = .configFile) (st : SessState)
    (hs : CacheSound cfg.key st) (n : Nat) (pt : Plain) (k' : Nat) (hk : k' ≠ cfg.key)
    (s : String) (hsa : s ≠ cfg.adminToken) (c : Bool) (t : Transport) :
    (authenticate cfg st (.bearer (.sealed false cfg.key n pt)) t).1 = unixProvider cfg t ∧
    (authenticate cfg st (.bearer (.sealed c k' n pt)) t).1 = unixProvider cfg t ∧
    (authenticate cfg st (.bearer (.text s)) t).1 = unixProvider cfg t := by
  refine ⟨?_, ?_, ?_⟩
  · exact (mutated_token_rejected cfg hcf st hs _ (by simp) (by simp) t).1
  · exact (mutated_token_rejected cfg hcf st hs _ (by simp)
      (by intro n' pt' h; simp only [Wire.sealed.injEq] at h; exact hk h.2.1) t).1
  · exact (mutated_token_rejected cfg hcf st hs _ (by simpa using hsa) (by simp) t).1

/-- Under the AEAD assumption: any bearer string that `login` did not issue and that is not the
admin token is rejected – in every reachable state. -/
theorem not_issued_rejected (norm : String → String) (cfg : Config) (hcf : cfg.authType = .configFile)
    (ops : List Op) (w : Wire) (hadm : w ≠ .text cfg.adminToken)
    (hunf : Unforgeable cfg (run norm cfg ops) w) (hni : w ∉ (run norm cfg ops).issued)
    (t : Transport) :
    (authenticate cfg (run norm cfg ops) (.bearer w) t).1 = unixProvider cfg t :=
  (mutated_token_rejected cfg hcf _ (cache_sound_invariant norm cfg ops) w hadm
    (fun n pt h => hni (hunf n pt h)) t).1

/-- The admin token is compared for equality with the whole bearer string (generated from
admin_token.rs): a prefix, an extension or a re-cased copy is not the token. -/
theorem admin_token_verbatim (cfg : Config) (s : String) :
    adminTokenCompare = .equal ∧
    (adminProvider cfg (.bearer (.text s)) = .ok adminTokenUser adminRole ↔ s = cfg.adminToken) := by
  refine ⟨by decide, (adminProvider_ok_iff cfg _ _ _).trans ?_⟩
  simp

/-- A request that authenticates nobody is refused (401 or 403) on every route that has a
permission gate, whatever the route, and reaches no server operation. -/
theorem refused_everywhere (testbed : Bool) (a : AuthRes) (ha : a.isOk = false) (rt : Route)
    (segs : List String) (hg : rt.gates ≠ []) (htb : rt.testbedOnly = true → testbed = true) :
    (respond testbed a rt segs = .unauthorized ∨ respond testbed a rt segs = .forbidden) ∧
    serverCalls testbed a rt segs = [] :=
  C13.unauthenticated_refused testbed a ha rt segs hg htb

/-- Together: a forged, damaged, re-encoded or foreign token presented over TCP, or over the Unix
socket by an unmapped peer, is refused on every gated route. -/
theorem mutated_token_refused_everywhere (cfg : Config) (hcf : cfg.authType = .configFile)
    (st : SessState) (hs : CacheSound cfg.key st) (w : Wire) (hadm : w ≠ .text cfg.adminToken)
    (hnot : ∀ n pt, w ≠ .sealed true cfg.key n pt) (t : Transport)
    (hpeer : ∀ id role, ¬ PeerAccepts cfg t id role)
    (rt : Route) (segs : List String) (hg : rt.gates ≠ [])
    (htb : rt.testbedOnly = true → cfg.testbed = true) :
    let a := (authenticate cfg st (.bearer w) t).1
    (respond cfg.testbed a rt segs = .unauthorized ∨ respond cfg.testbed a rt segs = .forbidden) ∧
    serverCalls cfg.testbed a rt segs = [] := by
  intro a
  have ha : a.isOk = false := Bool.eq_false_iff.mpr fun h => by
    obtain ⟨id, role, hu⟩ := (AuthRes.isOk_iff a).mp h
    have h1 := (mutated_token_rejected cfg hcf st hs w hadm hnot t).1
    exact hpeer id role ((unixProvider_ok_iff cfg t id role).mp (h1.symm.trans hu))
  exact refused_everywhere cfg.testbed a ha rt segs hg htb

/-! ## Both provider configurations; what "the bearer token of a request" is -/

/-- With the **admin-token provider as the primary one** (no legacy arm, no sessions): a request
authenticates iff its bearer string is the admin token verbatim (admin) – or no bearer string of the
request is accepted, the transport is the Unix socket and the peer is mapped. -/
theorem authenticates_iff_admin_token (cfg : Config) (hat : cfg.authType = .adminToken)
    (st : SessState) (h : Header) (t : Transport) (id : String) (role : Role) :
    (authenticate cfg st h t).1 = .ok id role ↔
      (h = .bearer (.text cfg.adminToken) ∧ id = adminTokenUser ∧ role = adminRole) ∨
      (h ≠ .bearer (.text cfg.adminToken) ∧ PeerAccepts cfg t id role) := by
  rw [chain_ok_iff, tokenArms_adminToken cfg hat, adminProvider_ok_iff, adminProvider_isOk_iff]

/-- **`get_bearer_token`** (httpclient.rs), for every text that can follow `Authorization: Bearer `
on the wire: the credential presented is that text with the white space (blanks, tabs) around it
removed – and none at all when nothing else is left (the HTTP parser strips the trailing blank of
`Bearer `, the prefix no longer matches).  Nothing but surrounding white space is ever removed. -/
theorem get_bearer_token_spec (x : List Char) (hx : x.all isHeaderChar = true) :
    getBearerToken (some (bearerPrefix ++ x)) = (if trim x = [] then none else some (trim x)) ∧
    (∀ a m b, x = a ++ m ++ b → a.all isWs = true → b.all isWs = true → Core m → trim x = m) ∧
    getBearerToken none = none :=
  ⟨getBearerToken_bearer x hx, fun a m b hxe ha hb hm => by rw [hxe]; exact trim_decomp a m b ha hb hm,
    rfl⟩

/-- **The neighbourhood of a credential.**  For every credential text `t` (not empty, no white space
at its ends) and every near miss of it – a proper non-empty prefix, `t` followed by more text, `t`
with one character replaced, `t` in the other letter case, `t` with white space in front of and
behind it, nothing at all – the credential krill reads from the header `Bearer <near miss>` is `t`
**iff** the near miss only added white space around `t` (`NearMiss.same`: padding, or an extension
that is all blanks).  Every other member is a *different* credential (or none). -/
theorem near_miss_same_iff (t : List Char) (ht : IsToken t) (v : NearMiss)
    (hv : v.applies t = true) :
    getBearerToken (some (bearerPrefix ++ v.apply t)) = some t ↔ v.same = true := by
  rw [getBearerToken_bearer _ (nearMiss_all_headerChar t ht.2.2.2 v hv), ← nearMiss_trim_eq_iff t ht v hv]
  by_cases h0 : trim (v.apply t) = []
  · simp only [h0, if_true, reduceCtorEq, false_iff]
    exact fun h => ht.1 h.symm
  · simp [h0]

theorem nearMiss_header_eq_iff (t : List Char) (ht : IsToken t) (v : NearMiss) (hv : v.applies t = true) :
    v.header t = .bearer (.text (String.ofList t)) ↔ v.same = true := by
  rw [← near_miss_same_iff t ht v hv]
  unfold NearMiss.header headerOfText
  cases getBearerToken (some (bearerPrefix ++ v.apply t)) <;> simp [String.ofList_inj]

theorem text_not_admin_as_absent (cfg : Config) (st : SessState) (hs : CacheSound cfg.key st)
    (raw : Option (List Char)) (hne : headerOfText raw ≠ .bearer (.text cfg.adminToken)) (t : Transport) :
    (authenticate cfg st (headerOfText raw) t).1 = unixProvider cfg t := by
  unfold headerOfText at hne ⊢
  generalize getBearerToken raw = g at hne ⊢
  cases g with
  | none => exact authenticate_absent cfg st t
  | some s =>
    exact not_genuine_as_absent cfg st hs _ (C13.near_admin_token_not_genuine cfg _ fun e => hne (e ▸ rfl)).2 t

/-- For the admin token: the admin-token provider accepts the header of a near miss iff it is the
same credential. -/
theorem near_miss_admin_token (cfg : Config) (ht : IsToken cfg.adminToken.toList) (v : NearMiss)
    (hv : v.applies cfg.adminToken.toList = true) :
    adminProvider cfg (v.header cfg.adminToken.toList) = .ok adminTokenUser adminRole ↔
      v.same = true := by
  rw [adminProvider_ok_iff, ← nearMiss_header_eq_iff _ ht v hv, String.ofList_toList]
  exact and_iff_left ⟨rfl, rfl⟩

/-- **A near miss of the admin token authenticates nobody** – under either provider configuration,
in every state, on both transports: the chain answers what the Unix-socket arm answers (the mapped
peer – who could have sent no token –, an error for an unmapped peer, nothing on TCP), exactly as
for a request without credentials.  Members that are the same credential are the admin. -/
theorem near_miss_rejected (cfg : Config) (st : SessState) (hs : CacheSound cfg.key st)
    (ht : IsToken cfg.adminToken.toList) (v : NearMiss)
    (hv : v.applies cfg.adminToken.toList = true) (tr : Transport) :
    (v.same = false →
      (authenticate cfg st (v.header cfg.adminToken.toList) tr).1 = unixProvider cfg tr) ∧
    (v.same = true → v.header cfg.adminToken.toList = .bearer (.text cfg.adminToken)) := by
  have hiff := nearMiss_header_eq_iff _ ht v hv
  rw [String.ofList_toList] at hiff
  refine ⟨fun hns => ?_, hiff.mpr⟩
  refine text_not_admin_as_absent cfg st hs _ (fun e => ?_) tr
  rw [hiff.mp e] at hns
  cases hns

/-! ## From the configuration file to the identities: which role map -/

/-- The role map every provider reads is the `[auth_roles]` section of the configuration file if
there is one, and the built-in roles (`ConfigDefaults::auth_roles()`) otherwise – **not a union**:
with an own `[auth_roles]` a built-in name that the section does not define is not a role. -/
theorem role_map_is_configured (cf : ConfigFile) :
    (∀ m, cf.authRoles = some m → cf.roleMap = m) ∧
    (cf.authRoles = none → cf.roleMap = builtinRoleMap) ∧
    cf.effective.roles = cf.roleMap ∧
    (∀ m n, cf.authRoles = some m → m.lookup n = none → cf.effective.roles.lookup n = none) := by
  refine ⟨?_, ?_, rfl, ?_⟩
  · intro m h; simp [ConfigFile.roleMap, h]
  · intro h; simp [ConfigFile.roleMap, h]
  · intro m n h hn
    show cf.roleMap.lookup n = none
    simp [ConfigFile.roleMap, h, hn]

theorem roleMap_entry (cf : ConfigFile) (rn : String) (role : Role) (h : cf.roleMap.lookup rn = some role) :
    ∀ m, cf.authRoles = some m → (rn, role) ∈ m :=
  fun m hm => (role_map_is_configured cf).1 m hm ▸ Assoc.mem_of_lookup h

/-- **Which configurations the daemon accepts** (as far as authentication is concerned:
`Authorizer::new`): it refuses to start iff the config-file provider is selected without an
`[auth_users]` section, or some entry of `unix_users` (the default `root = "admin"` when the file has
none) names a role that is not in the role map. -/
theorem start_refused_iff (cf : ConfigFile) :
    startOk cf = false ↔
      (cf.authType = .configFile ∧ cf.authUsers = none) ∨
      ∃ u rn, (u, rn) ∈ cf.unixMap ∧ cf.roleMap.lookup rn = none := by
  unfold startOk
  rw [Bool.and_eq_false_iff]
  refine or_congr ?_ ?_
  · unfold configFileProviderStarts
    cases cf.authType <;> simp
  · unfold unixProviderStarts
    rw [List.all_eq_false]
    exact ⟨fun ⟨e, he, hl⟩ => ⟨e.1, e.2, he, Option.not_isSome_iff_eq_none.mp hl⟩,
      fun ⟨u, rn, hm, hl⟩ => ⟨(u, rn), hm, Option.not_isSome_iff_eq_none.mpr hl⟩⟩

/-- **The role of an authenticated identity is a role of the configuration.**  For every
configuration file, every state, header and transport: whoever a request authenticates as, its role is
either the admin role of the admin-token identity (the request carries the admin token verbatim), or
`roles.get(name)` of *the configured* role map for some name – in particular, with an own
`[auth_roles]` section it is an entry of that section, never a built-in role the configuration does
not define. -/
theorem identity_role_is_configured (cf : ConfigFile) (st : SessState) (hs : CacheSound cf.key st)
    (h : Header) (t : Transport) (id : String) (role : Role)
    (ha : (authenticate cf.effective st h t).1 = .ok id role) :
    (h = .bearer (.text cf.adminToken) ∧ id = adminTokenUser ∧ role = adminRole) ∨
    ∃ rn, cf.roleMap.lookup rn = some role ∧ ∀ m, cf.authRoles = some m → (rn, role) ∈ m := by
  rcases (chain_ok_iff cf.effective st h t id role).mp ha with he | ⟨_, _, rn, _, _, hr, _⟩
  · obtain ⟨w, rfl, ⟨rfl, hid, hrole⟩ | ⟨_, n, u, r, _, _, hr⟩⟩ := tokenArms_ok cf.effective st hs h id role he
    · exact Or.inl ⟨rfl, hid, hrole⟩
    · exact Or.inr ⟨r, hr, roleMap_entry cf r role hr⟩
  · exact Or.inr ⟨rn, hr, roleMap_entry cf rn role hr⟩

/-- … and so is the role a login hands out: the role name of the user's own entry, which the
configured role map defines. -/
theorem login_role_is_configured (norm : String → String) (cf : ConfigFile) (st : SessState)
    (basic : Option (String × String)) (id rn : String) (tok : Wire)
    (h : (loginConfigFile norm cf.effective st basic).1 = .ok id rn tok) :
    ∃ e role, (cf.authUsers.getD []).lookup id = some e ∧ e.role = rn ∧
      cf.roleMap.lookup rn = some role ∧ role.isAllowed .Login none = true ∧
      ∀ m, cf.authRoles = some m → (rn, role) ∈ m := by
  obtain ⟨raw, pw, u, r, _, _, hu, _, rfl, hr, hal, _⟩ :=
    (login_iff norm cf.effective st basic id rn tok).mp h
  exact ⟨u, r, hu, rfl, hr, hal, roleMap_entry cf _ r hr⟩

/-- A configured user whose role name the role map does not define cannot log in, whatever the
password (401, nothing changes) – e.g. an entry with `role = "admin"` under an own `[auth_roles]`
section without a role of that name. -/
theorem undefined_role_never_logs_in (norm : String → String) (cf : ConfigFile) (st : SessState)
    (raw pw : String) (u : UserEntry) (hu : (cf.authUsers.getD []).lookup (norm raw) = some u)
    (hr : cf.roleMap.lookup u.role = none) :
    loginConfigFile norm cf.effective st (some (raw, pw)) = (.invalid, st) :=
  login_invalid_of_entry (cfg := cf.effective) hu (Or.inr hr) st

/-! ## `request_decision`: credentials to decision -/

/-- **End to end.**  For every configuration (arbitrary users, arbitrary role definitions, arbitrary
socket mapping), every reachable session state, every `Authorization` header and transport, every
row of the route table and every path instantiation: the handler runs iff the row allows it and
either requires nothing, or the credentials are genuine for some identity (`authenticates_iff`) whose
role's permissions contain every required (permission, resource) pair. -/
theorem request_decision (cfg : Config) (hcf : cfg.authType = .configFile) (st : SessState)
    (hs : CacheSound cfg.key st) (h : Header) (t : Transport) (rt : Route) (hrt : rt ∈ routes)
    (segs : List String) :
    respond cfg.testbed (authenticate cfg st h t).1 rt segs = .served ↔
      (rt.testbedOnly = true → cfg.testbed = true) ∧ rt.fin.runs = true ∧
      (rt.gates = [] ∨ ∃ id role,
        ((∃ w, h = .bearer w ∧ BearerAccepts cfg w id role) ∨
         ((∀ w, h = .bearer w → ∀ id' role', ¬ BearerAccepts cfg w id' role') ∧
           PeerAccepts cfg t id role)) ∧
        ∀ q ∈ C13.requires rt segs, ∃ res, q.2 = some res ∧ q.1 ∈ role.perms res) := by
  simp only [(C13.decision_iff cfg.testbed _ rt hrt segs).1, authenticates_iff cfg hcf st hs]

/-- The actor handed to the server operations (and recorded in the audit log of an accepted
command) is the authenticated identity: the handlers of the versioned API pass `auth.into_actor()`
– never the anonymous constant – and `AuthInfo.actor` is the id the chain returned. -/
theorem actor_is_identity :
    (∀ (cfg : Config) (st : SessState) (h : Header) (t : Transport) (id : String) (role : Role),
      (authenticate cfg st h t).1 = .ok id role →
        (authenticate cfg st h t).1.actor = id ∧
        (authenticate cfg st h t).1.auditName = "user:" ++ id) ∧
    (∀ a : AuthRes, a.isOk = false → a.actor = "anonymous" ∧ a.auditName = "anonymous") ∧
    (∀ rt ∈ routes, Spec.areaOf rt.path = .api → ∀ c ∈ rt.ops,
      c.actor = .auth ∨ c.actor = .none) := by
  refine ⟨?_, ?_, ?_⟩
  · intro cfg st h t id role hok; rw [hok]; exact ⟨rfl, rfl⟩
  · intro a ha; cases a <;> simp_all [AuthRes.isOk, AuthRes.actor, AuthRes.auditName]
  · intro rt hrt harea c hc
    exact ((C13.routes_checked rt hrt).ops harea c hc).2.2

/-! ## Non-vacuity -/

def exRole : Role := Role.simple [.Login, .CaRead]

def exCfg : Config :=
  { authType := .configFile, adminToken := "secret",
    users := [("alice", ⟨.term ⟨"pw", "alice", 1⟩, 1, "r1"⟩), ("bob", ⟨.term ⟨"pw2", "bob", 2⟩, 2, "nologin"⟩),
      -- a locked account, a hash that lost its last character, the upper-case hex of carol's real hash,
      -- and an entry holding alice's hash (and salt)
      ("locked", ⟨.junk "!", 3, "r1"⟩), ("cut", ⟨.junk "trunc", 4, "r1"⟩),
      ("carol-upper", ⟨.junk "upper", 5, "r1"⟩), ("mallory", ⟨.term ⟨"pw", "alice", 1⟩, 1, "r1"⟩)],
    roles := [("r1", exRole), ("nologin", Role.simple [.CaRead])],
    unixUsers := [("root", "r1")], key := 7, testbed := false }

/-- A history: alice logs in, her token authenticates (on TCP and on the Unix socket), a token
sealed under another key, a re-encoded copy and a damaged copy do not; on the Unix socket of the
mapped peer `root` the failed bearer falls through to `root`; an unmapped peer gets an error; the
admin token is the admin; bob's role lacks `login`; a wrong password and an unknown user fail. -/
example :
    let st0 : SessState := {}
    let l := loginConfigFile id exCfg st0 (some ("alice", "pw"))
    let tok := Wire.sealed true 7 0 (.session "alice" "r1")
    l.1 = .ok "alice" "r1" tok ∧
    (authenticate exCfg l.2 (.bearer tok) .tcp).1 = .ok "alice" exRole ∧
    (authenticate exCfg {} (.bearer tok) (.unix "nobody")).1 = .ok "alice" exRole ∧
    (authenticate exCfg l.2 (.bearer (.sealed true 8 0 (.session "alice" "r1"))) .tcp).1 = .none ∧
    (authenticate exCfg l.2 (.bearer (.sealed false 7 0 (.session "alice" "r1"))) .tcp).1 = .none ∧
    (authenticate exCfg l.2 (.bearer (.text "dmg")) .tcp).1 = .none ∧
    (authenticate exCfg l.2 (.bearer (.text "dmg")) (.unix "root")).1 = .ok "root" exRole ∧
    (authenticate exCfg l.2 (.bearer (.text "dmg")) (.unix "nobody")).1 = .err ∧
    (authenticate exCfg l.2 .absent (.unix "nobody")).1 = .err ∧
    (authenticate exCfg l.2 .absent .tcp).1 = .none ∧
    (authenticate exCfg l.2 (.bearer (.text "secret")) .tcp).1 = .ok "admin-token" adminRole ∧
    (authenticate exCfg l.2 (.bearer (.text "secre")) .tcp).1 = .none ∧
    (loginConfigFile id exCfg st0 (some ("bob", "pw2"))).1 = .denied ∧
    (loginConfigFile id exCfg st0 (some ("alice", "pw2"))).1 = .invalid ∧
    (loginConfigFile id exCfg st0 (some ("carol", "pw"))).1 = .invalid ∧
    (loginConfigFile id exCfg st0 none).1 = .invalid := by
  decide +kernel

/-- `Unforgeable` holds for an issued token (its hypothesis in `session_identity_is_configured` is
satisfiable). -/
example :
    Unforgeable exCfg (run id exCfg [.login (some ("alice", "pw"))])
      (.sealed true 7 0 (.session "alice" "r1")) := by
  intro n pt _; decide

/-- Lifetime in action: alice's token still authenticates after she logged out, after a sweep that
empties the cache and after another login; a prefix-keyed cache would accept a damaged copy (the
hypotheses of `noninjective_key_unsound` are satisfiable), the whole-token key does not. -/
example :
    let tok := Wire.sealed true 7 0 (.session "alice" "r1")
    let st := run id exCfg [.login (some ("alice", "pw")), .logout (.bearer tok), .sweep (fun _ => false),
      .login (some ("alice", "pw")), .auth (.bearer (.text "dmg")) .tcp]
    (authenticate exCfg st (.bearer tok) .tcp).1 = .ok "alice" exRole ∧
    (authenticate exCfg st (.bearer (.text "dmg")) .tcp).1 = .none ∧
    st.cache.length = 1 ∧
    -- a key function that only looks at "the first characters": every text and every token collide
    (decodeK (fun _ => 0) 7 (decodeK (fun _ => 0) 7 [] tok).2 (.text "dmg")).1 = some ⟨"alice", "r1"⟩ ∧
    (decodeK id 7 (decodeK id 7 [] tok).2 (.text "dmg")).1 = none ∧
    sessionStatus 100 (some 60) 131 = some .needsRefresh ∧
    sessionStatus 100 (some 60) 161 = some .expired ∧
    sessionStatus 100 (some 60) 99 = none := by
  decide +kernel

/-- `junk_hash_never_logs_in` is not vacuous, and it matters which string is stored: `locked` (`"!"`),
`cut` (a truncated hash) and `carol-upper` (upper-case hex) admit no password at all – not the one
whose hash was mangled, not the empty one, not the stored string itself; `mallory`, whose entry holds
*alice's* hash and salt, cannot log in with alice's password (the user name is part of what is
hashed); alice still can. -/
example :
    (["locked", "cut", "carol-upper"].all fun n =>
      ["pw", "", "!", "trunc", "upper", "pw-carol"].all fun p =>
        (loginConfigFile id exCfg {} (some (n, p))).1 == .invalid) = true ∧
    (loginConfigFile id exCfg {} (some ("mallory", "pw"))).1 = .invalid ∧
    (loginConfigFile id exCfg {} (some ("alice", "pw"))).1 =
      .ok "alice" "r1" (.sealed true 7 0 (.session "alice" "r1")) := by
  decide +kernel

/-- The neighbourhood of the admin token `secret` after krill's header parsing: `Bearer   secret`,
`Bearer secret  ` and tabs around it present `secret`; every proper prefix, `secret2`,
`secret and then some`, `Secret`/`SECRET`, `secrez` and `Xecret` present something else; `Bearer `
alone presents nothing; `bearer secret` / `Token secret` are not read as bearer tokens. -/
example :
    let tok := fun (s : String) => getBearerToken (some s.toList)
    tok "Bearer secret" = some "secret".toList ∧
    tok "Bearer    secret" = some "secret".toList ∧
    tok "Bearer secret  " = some "secret".toList ∧
    tok "  Bearer \tsecret\t " = some "secret".toList ∧
    tok "Bearer s" = some "s".toList ∧
    tok "Bearer secre" = some "secre".toList ∧
    tok "Bearer secret2" = some "secret2".toList ∧
    tok "Bearer secret and then some" = some "secret and then some".toList ∧
    tok "Bearer SECRET" = some "SECRET".toList ∧
    tok "Bearer " = none ∧ tok "Bearer    " = none ∧ tok "Bearer" = none ∧
    tok "bearer secret" = none ∧ tok "Token secret" = none ∧ tok "Bearersecret" = none ∧
    tok "Bearer secr\u00e9t" = none ∧
    IsToken "secret".toList ∧
    ([NearMiss.pre 1, .pre 5, .ext ['2'], .ext " and then some".toList, .chg 0 'X', .chg 5 'z',
      .swapCase, .empty].all fun v => v.applies "secret".toList && !v.same) = true ∧
    ([NearMiss.pad [' ', ' '] [], .pad [] [' '], .pad ['\t'] ['\t', ' '], .ext [' ', ' ']].all fun v =>
      v.applies "secret".toList && v.same) = true := by
  refine ⟨by decide +kernel, by decide +kernel, by decide +kernel, by decide +kernel, by decide +kernel,
    by decide +kernel, by decide +kernel, by decide +kernel, by decide +kernel, by decide +kernel,
    by decide +kernel, by decide +kernel, by decide +kernel, by decide +kernel, by decide +kernel,
    by decide +kernel, ?_, by decide +kernel, by decide +kernel⟩
  refine ⟨by decide, ?_, ?_, by decide⟩ <;> intro c hc <;> cases hc <;> decide

/-- Configuration files: (a) without `[auth_roles]` and `[unix_users]` the daemon starts, `root` on
the socket is the built-in admin; (b) an own section that shadows `readonly` with fewer permissions:
the user of that role gets the *configured* one; (c) an own section without `admin`: with the
default `unix_users` (`root = "admin"`) the daemon refuses to start; with `unix_users` overridden it
starts, and the left-over user with `role = "admin"` cannot log in – and there is no role `admin`. -/
example :
    let thin : Role := Role.simple [.Login, .CaList]
    let users := [("ro", (⟨.term ⟨"pw", "ro", 1⟩, 1, "readonly"⟩ : UserEntry)),
                  ("old", ⟨.term ⟨"pw", "old", 2⟩, 2, "admin"⟩)]
    let a : ConfigFile := ⟨.configFile, "secret", some users, none, none, 7, false⟩
    let b : ConfigFile := { a with authRoles := some [("readonly", thin), ("operator", exRole)],
                                   unixUsers := some [("root", "operator")] }
    let c : ConfigFile := { a with authRoles := some [("operator", exRole), ("readonly", thin)] }
    let c' : ConfigFile := { c with unixUsers := some [] }
    startOk a = true ∧
    (authenticate a.effective {} .absent (.unix "root")).1 = .ok "root" Role.admin ∧
    (loginConfigFile id a.effective {} (some ("old", "pw"))).1 =
      .ok "old" "admin" (.sealed true 7 0 (.session "old" "admin")) ∧
    startOk b = true ∧
    (authenticate b.effective {} (.bearer (.sealed true 7 0 (.session "ro" "readonly"))) .tcp).1 =
      .ok "ro" thin ∧
    startOk c = false ∧ startOk c' = true ∧
    (loginConfigFile id c'.effective {} (some ("old", "pw"))).1 = .invalid ∧
    c'.effective.roles.lookup "admin" = none ∧
    startOk { a with authUsers := none } = false ∧
    startOk { a with authUsers := none, authType := .adminToken } = true := by
  decide +kernel

end KM.Props.C20
