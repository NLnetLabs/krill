/-
C17 (source tie) — the hand-written model of `ValidatedRouteOrigin::validate`
(`KM.Bgp.validateCovering` / `validateLoop`, Bgp/Validate.lean) equals the definition that the
translator `pure_fns` regenerates from `/repo/src/server/bgp/analyser.rs` on every run
(`Generated/PureFnsC17.lean`, `KM.Gen.C17.ValidatedRouteOrigin.validate`).

`valid_iff`, `invalid_iff`, `validate_eq_rfc6811` (Props/C17.lean) are about `KM.Bgp.validate`, which is
the covering filter followed by `validateCovering`.  With `gen_validate_eq_model` the latter is tied to
the Rust loop statement by statement: the early return, the two flags and where they are set, the
order of the three verdicts after the loop, `>=` vs `>` on the maximum length, the AS0 test, what is
pushed to `invalidating` – each such edit changes the generated definition and this file stops
checking.

Differences that do not matter, bridged here: the generated definition is over abstract ROAs, route
origins and payloads with the accessors as parameters; the statement instantiates them with the
model's `Roa` (payload = the ROA itself), `Ann`, and the model's accessors.  `toModel` renames the
generated record and variants to the model's.  The model writes the flags as
`same || r.asn == a.asn` / `nonAs0 || r.asn != 0`; the code assigns `true` under the same tests.
-/
import KrillModel.Generated.PureFnsC17
import KrillModel.Bgp.Validate
namespace KM.Props.C17Src
open KM.Bgp

/-- Rust verdict ↦ model verdict. -/
def toValidity : KM.Gen.C17.RouteOriginValidity Roa → Validity
  | .Valid r => .valid r
  | .InvalidLength => .invalidLength
  | .InvalidAsn => .invalidAsn
  | .Disallowed => .disallowed
  | .NotFound => .notFound

/-- Rust `ValidatedRouteOrigin` ↦ model `Validated`. -/
def toModel (v : KM.Gen.C17.ValidatedRouteOrigin Ann Roa) : Validated :=
  ⟨v.route_origin, toValidity v.validity, v.disallowing⟩

theorem toModel_injective (v w : KM.Gen.C17.ValidatedRouteOrigin Ann Roa) (h : toModel v = toModel w) :
    v = w := by
  cases v with | mk vo vv vd =>
  cases w with | mk wo wv wd =>
  simp only [toModel, Validated.mk.injEq] at h
  obtain ⟨h1, h2, h3⟩ := h
  subst h1 h3
  cases vv <;> cases wv <;> cases h2 <;> rfl

/-- The generated definition with the model's accessors plugged in. -/
abbrev genLoop (a : Ann) (all : List Roa) :=
  KM.Gen.C17.ValidatedRouteOrigin.validate.loop (ω := Ann) (π := Roa) (fun r : Roa => r.asn)
    (fun r => r.pfx.covers a.pfx) Roa.effMax id a a.asn a.pfx.len all

/-- What the model does with the result of its loop (`validateCovering`). -/
def finish (a : Ann) : Sum Roa (Bool × Bool × List Roa) → Validated
  | .inl r => ⟨a, .valid r, []⟩
  | .inr (same, nonAs0, inv) =>
    ⟨a, if same then .invalidLength else if nonAs0 then .invalidAsn else .disallowed, inv⟩

/-- One iteration: the code nests the tests (same AS? then match? then AS0?) and sets the flags
under them; the model makes the match test first and updates both flags by `||`. -/
theorem iteration_shape {α : Type} {p1 p4 c : Prop} [Decidable p1] [Decidable p4] [Decidable c]
    {b1 b4 bc : Bool} (h1 : p1 ↔ b1 = true) (h4 : p4 ↔ b4 = true) (hc : c ↔ bc = true)
    (V : α) (L : Bool → Bool → α) (same nonAs0 : Bool) :
    (if p1 then (if c then V else if p4 then L true true else L true nonAs0)
      else if p4 then L same true else L same nonAs0) =
    if b1 && bc then V else L (same || b1) (nonAs0 || b4) := by
  cases b1 <;> cases b4 <;> cases bc <;> simp [h1, h4, hc]

/-- The loop: for every carried `invalidating`, `same_asn_found`, `none_as0_found` and every
remaining list. -/
theorem gen_loop_eq_model (a : Ann) (all l : List Roa) :
    ∀ (inv : List Roa) (same nonAs0 : Bool),
      toModel (genLoop a all inv same nonAs0 l) = finish a (validateLoop a l same nonAs0 inv) := by
  induction l with
  | nil =>
    intro inv same nonAs0
    cases same <;> cases nonAs0 <;> rfl
  | cons r tl ih =>
    intro inv same nonAs0
    have hc : (r.pfx.covers a.pfx = true ∧ r.effMax ≥ a.pfx.len) ↔
        (r.pfx.covers a.pfx && decide (r.effMax ≥ a.pfx.len)) = true := by
      rw [Bool.and_eq_true, decide_eq_true_eq]
    have hgen : genLoop a all inv same nonAs0 (r :: tl) = _ :=
      iteration_shape (beq_iff_eq (a := r.asn) (b := a.asn)).symm (bne_iff_ne (a := r.asn) (b := 0)).symm hc
        ⟨a, .Valid r, []⟩ (fun x y => genLoop a all (inv ++ [r]) x y tl) same nonAs0
    rw [hgen, validateLoop]
    split
    · rfl
    · exact ih _ _ _

/-- The definition generated from the body of `validate` is the model's `validateCovering` – for
every announcement and every list of covering ROAs. -/
theorem gen_validate_eq_model (a : Ann) (covering : List Roa) :
    toModel (KM.Gen.C17.ValidatedRouteOrigin.validate (fun r : Roa => r.asn) (fun r => r.pfx.covers a.pfx)
        Roa.effMax id a a.asn a.pfx.len covering) = validateCovering a covering := by
  have h := gen_loop_eq_model a covering covering [] false false
  simp only [genLoop] at h
  simp only [KM.Gen.C17.ValidatedRouteOrigin.validate, h, validateCovering, finish]
  cases validateLoop a covering false false [] with
  | inl r => rfl
  | inr t => obtain ⟨s, n, i⟩ := t; rfl

/-- Non-vacuity: the generated definition reaches all four verdicts. -/
example :
    let r1 : Roa := ⟨1, ⟨.v4, 0, 8⟩, some 16⟩
    let r0 : Roa := ⟨0, ⟨.v4, 0, 8⟩, none⟩
    let g (a : Ann) (cov : List Roa) :=
      toModel (KM.Gen.C17.ValidatedRouteOrigin.validate (fun r : Roa => r.asn) (fun r => r.pfx.covers a.pfx)
        Roa.effMax id a a.asn a.pfx.len cov)
    g ⟨1, ⟨.v4, 0, 16⟩⟩ [r0, r1] = ⟨⟨1, ⟨.v4, 0, 16⟩⟩, .valid r1, []⟩ ∧
    g ⟨1, ⟨.v4, 0, 24⟩⟩ [r0, r1] = ⟨⟨1, ⟨.v4, 0, 24⟩⟩, .invalidLength, [r0, r1]⟩ ∧
    g ⟨2, ⟨.v4, 0, 16⟩⟩ [r0, r1] = ⟨⟨2, ⟨.v4, 0, 16⟩⟩, .invalidAsn, [r0, r1]⟩ ∧
    g ⟨2, ⟨.v4, 0, 16⟩⟩ [r0] = ⟨⟨2, ⟨.v4, 0, 16⟩⟩, .disallowed, [r0]⟩ := by
  decide +kernel

end KM.Props.C17Src
