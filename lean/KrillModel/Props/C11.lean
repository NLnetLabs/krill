/-
C11 — RRDP and rsync views are consistent for every client at every instant.
Property theorems, with the few helper lemmas that only they use; the lemma file is
`KrillModel.Pubd.Lemmas`.

The model is `KrillModel/Pubd/{Rrdp,Files,Manager}.lean`, tied to
`src/server/pubd/{rrdp,rsync,content,manager}.rs` and `src/commons/file.rs` by the `pubd`
correspondence stream (state of the aggregate, log of file-system mutations, files on disk).

One statement of the property is false of the code and is proved in negated form with witnesses
that replay on the implementation (see `known_findings.jsonl`):

* F-C11-2 `deltas_le_max_fails_min_ge_max`, `deltas_le_max_fails_young` and the histories
  `deltas_le_max_fails_history_*`: the number of retained deltas is not bounded by
  `rrdp_delta_files_max_nr` in general (documented design: the minimum rules win).  The bound
  holds for every history exactly under the guard of `retention_bound_iff` (`deltas_le_max`).

The clauses about files are also stated over whole histories of requests and interrupted writes
(`world_invariant` and its corollaries at the end of the file).

Repaired in the code, the model follows the fixed code and the old behaviour is kept only as
counter-models of the pinned tree (`pinned_…`):

* F-C11-1 (fix 5d860534): a left-over `old` directory is removed before `current` is renamed
  onto it – `rsync_write_after_any_cut` holds for every cut;
* F-C11-2, underflow part (fix bf93c0cb): `max_nr.saturating_sub(1)`;
* F-C11-3 (fix 4ab08295): files are truncated when created – `notification_consistent_at_every_cut`
  needs no assumption about a left-over `new-notification.xml`;
* F-C11-4 (fix 8d070115): a left-over `tmp-<serial>` directory is removed before it is filled –
  `rsync_equals_snapshot` needs no assumption about left-over directories.
-/
import KrillModel.Pubd.Lemmas
namespace KM.Props.C11
open KM.Pubd

/-! ## Serial and session -/

/-- `serial_plus_one` — an RRDP update increases the serial by exactly one, a session reset
restarts at one, nothing else changes the serial. -/
theorem serial_plus_one (r : Rrdp) (op : RrdpOp) :
    (r.step op).serial =
      match op with
      | .update _ _ => r.serial + 1
      | .reset _ _ => 1
      | _ => r.serial := by
  cases op with
  | added h => exact (Quiet.publisherAdded r h).serial
  | stage h d => rfl
  | update t rnd => rfl
  | reset s rnd => rfl

/-- `session_changes_only_on_reset` — the session id changes only by an explicit reset, and a
reset restarts at serial 1 without deltas (the snapshot and the staged elements are kept). -/
theorem session_changes_only_on_reset (r : Rrdp) (op : RrdpOp) :
    ((r.step op).session ≠ r.session → ∃ s rnd, op = .reset s rnd) ∧
    (∀ s rnd, op = .reset s rnd →
      (r.step op).session = s ∧ (r.step op).serial = 1 ∧ (r.step op).deltas = [] ∧
      (r.step op).snapshot = r.snapshot ∧ (r.step op).staged = r.staged) := by
  constructor
  · intro h
    cases op with
    | added h' => exact absurd (Quiet.publisherAdded r h').session h
    | stage h' d => exact absurd rfl h
    | update t rnd => exact absurd rfl h
    | reset s rnd => exact ⟨s, rnd, rfl⟩
  · intro s rnd h
    subst h
    exact ⟨rfl, rfl, rfl, rfl, rfl⟩

/-- Every request of the manager acts on the content aggregate as a sequence of the four
changes, so the two statements above (and the invariants below) cover whole requests. -/
theorem server_step_is_rrdp_run (s : Server) (op : Op) :
    ∃ rops : List RrdpOp, (s.step op).rrdp = s.rrdp.run rops :=
  (s.step_spec op).rrdp_run

/-! ## The retained deltas -/

/-- `deltas_contiguous` — after every history of changes the retained deltas are the deltas of
the serials `serial, serial - 1, …` without a gap (and there is none for serial 1): a contiguous
run ending at the current serial.  -/
theorem deltas_contiguous (session rnd : Nat) (ops : List RrdpOp) :
    let r := (Rrdp.create session rnd).run ops
    0 < r.serial ∧
    ∀ i (hi : i < r.deltas.length), r.deltas[i].serial + i = r.serial ∧ i + 1 < r.serial := by
  have h := (Contig.create session rnd).run ops
  exact ⟨h.1, contigFrom_get _ _ h.2⟩

/-- The same for histories of requests of the manager. -/
theorem deltas_contiguous_server (base : Uri) (cfg : Cfg) (session rnd : Nat) (ops : List Op) :
    Contig ((Server.init base cfg session rnd).run ops).rrdp :=
  Server.run_induction (P := fun s => Contig s.rrdp) (Q := fun _ => True)
    (fun s op h _ => by
      obtain ⟨rops, hr⟩ := (s.step_spec op).rrdp_run
      rw [hr]
      exact h.run rops)
    ops (Contig.create session rnd) fun _ _ => trivial

/-- Truncation only drops a suffix of the newest-first list: what is retained after an update is
a prefix of "new delta, then the deltas retained before". -/
theorem truncation_drops_suffix (r : Rrdp) (t rnd : Nat) :
    ∃ new : DeltaRec, new.serial = r.serial + 1 ∧
      (r.applyUpdated t rnd).deltas <+: new :: r.deltas :=
  ⟨_, rfl, r.applyUpdated_deltas_prefix t rnd⟩

/-- `deltas_le_max_partial` — the number of retained deltas stays within
`rrdp_delta_files_max_nr` **provided** `min_nr + 1 ≤ max_nr` and no delta at position
`max_nr - 1` or beyond is younger than `rrdp_delta_files_min_seconds`.

The full statement ("the retained deltas never exceed the configured maximum number") is false
of the code: see `deltas_le_max_fails_min_ge_max`, `deltas_le_max_fails_young` (F-C11-2, open:
by design the minimum rules win over the maximum). -/
theorem deltas_le_max_partial (r : Rrdp) (minNr maxNr : Nat) (ages : List (Bool × Bool))
    (rnd : Nat) (hmin : minNr + 1 ≤ maxNr)
    (hyoung : ∀ j a, ages[j]? = some a → maxNr - 1 ≤ j → a.1 = false) :
    (r.applyUpdated (findTruncateAge minNr maxNr ages) rnd).deltas.length ≤ maxNr :=
  applyUpdated_deltas_le r minNr maxNr ages rnd hmin hyoung

example : findTruncateAge 1 3 [(false, false), (false, false), (false, false)] = 2 := by decide

/-- F-C11-2 (a): with `min_nr ≥ max_nr` the number arm `keep == max_nr - 1` is never reached
(the `min_nr` arm wins while `keep < min_nr`, afterwards `keep` is already past `max_nr - 1`):
here `min_nr = max_nr = 2`, four old deltas, none young, none too old – all four are kept and
the update makes five. -/
theorem deltas_le_max_fails_min_ge_max :
    findTruncateAge 2 2 [(false, false), (false, false), (false, false), (false, false)] = 4 := by
  decide

/-- F-C11-2 (b): deltas younger than `min_seconds` are always kept; once `keep` has passed
`max_nr - 1` the equality test never fires again. -/
theorem deltas_le_max_fails_young :
    findTruncateAge 0 2 [(true, false), (true, false), (true, false), (false, false)] = 4 := by
  decide

/-- With the fix bf93c0cb a limit of 0 behaves like a limit of 1: nothing old is kept beyond the
minimum rules. -/
theorem max_nr_zero_keeps_nothing_old (ages : List (Bool × Bool)) (a : Bool) :
    findTruncateAge 0 0 ((false, a) :: ages) = 0 := by
  simp [findTruncateAge, truncLoop]

/-- COUNTER-MODEL OF THE PINNED TREE (F-C11-2, underflow part, before fix bf93c0cb): `max_nr = 0`
made `max_nr - 1` underflow as soon as a delta was neither within `min_nr` nor young (a panic
in builds with overflow checks). -/
theorem pinned_max_nr_zero_underflows : truncLoopPinned 0 0 0 [(false, false)] = none := by decide

/-- `retention_bound_iff` — **for exactly which configurations the bound holds.**  With the clock
answers of a regime (`young`: the retained deltas are younger than `min_seconds`; `old`: older
than `max_seconds`), the retention rule keeps at most `max_nr - 1` old deltas – for delta lists
of every length – if and only if `min_nr + 1 ≤ max_nr` and the deltas are not young.  Outside
this guard the list `max_nr` deltas long is kept whole (F-C11-2). -/
theorem retention_bound_iff (minNr maxNr : Nat) (young old : Bool) :
    (∀ n, findTruncateAge minNr maxNr (List.replicate n (young, old)) + 1 ≤ maxNr) ↔
      (minNr + 1 ≤ maxNr ∧ young = false) := by
  constructor
  · intro h
    apply Decidable.byContradiction
    intro hg
    -- outside the guard the first arm applies to all of `max_nr` deltas
    have hfirst : young = true ∨ 0 + maxNr ≤ minNr := by
      cases young with
      | true => exact .inl rfl
      | false =>
        have : ¬ (minNr + 1 ≤ maxNr) := fun hm => hg ⟨hm, rfl⟩
        exact .inr (by omega)
    have := h maxNr
    rw [findTruncateAge, truncLoop_first_arm minNr maxNr young old maxNr 0 hfirst] at this
    omega
  · rintro ⟨hmin, rfl⟩ n
    have := truncLoop_le minNr maxNr hmin (List.replicate n (false, old)) 0 (Nat.zero_le _)
      (fun j a hj _ => by
        rw [List.getElem?_replicate] at hj
        split at hj
        · rw [← Option.some.inj hj]
        · cases hj)
    unfold findTruncateAge
    omega

/-- `deltas_le_max` over histories: under the guard (`min_nr + 1 ≤ max_nr`, deltas not young) the
number of retained deltas never exceeds `rrdp_delta_files_max_nr`, after every history of
requests (RRDP updates, session resets, publications, deletions …). -/
theorem deltas_le_max (base : Uri) (cfg : Cfg) (session rnd : Nat) (ops : List Op)
    (hmin : cfg.minNr + 1 ≤ cfg.maxNr) (hyoung : cfg.young = false) :
    ((Server.init base cfg session rnd).run ops).rrdp.deltas.length ≤ cfg.maxNr :=
  run_deltas_le ops (Server.init base cfg session rnd) hmin hyoung (Nat.zero_le _)

/-- Outside the guard, histories exceed the maximum (F-C11-2): `min_nr = max_nr = 2`, three
publications with an RRDP update each – three deltas are retained. -/
theorem deltas_le_max_fails_history_min_ge_max :
    let base : Uri := ⟨rsyncLower, ⟨"h", 0⟩, ⟨"m", 0⟩, [], true⟩
    let u : Nat → Uri := fun i => ⟨rsyncLower, ⟨"h", 0⟩, ⟨"m", 0⟩, ["ca", toString i], false⟩
    let s := (Server.init base ⟨2, 2, false, false, false⟩ 1 1).run
      [.addpub ["ca"], .publish ["ca"] [.publish (u 1) ⟨1, 10⟩], .update 2,
       .publish ["ca"] [.publish (u 2) ⟨2, 10⟩], .update 3,
       .publish ["ca"] [.publish (u 3) ⟨3, 10⟩], .update 4]
    s.rrdp.deltas.length = 3 ∧ s.cfg.maxNr = 2 := by
  decide +kernel

/-- … and with young deltas (`min_nr = 0`, `max_nr = 2`, everything younger than `min_seconds`). -/
theorem deltas_le_max_fails_history_young :
    let base : Uri := ⟨rsyncLower, ⟨"h", 0⟩, ⟨"m", 0⟩, [], true⟩
    let u : Nat → Uri := fun i => ⟨rsyncLower, ⟨"h", 0⟩, ⟨"m", 0⟩, ["ca", toString i], false⟩
    let s := (Server.init base ⟨0, 2, true, false, false⟩ 1 1).run
      [.addpub ["ca"], .publish ["ca"] [.publish (u 1) ⟨1, 10⟩], .update 2,
       .publish ["ca"] [.publish (u 2) ⟨2, 10⟩], .update 3,
       .publish ["ca"] [.publish (u 3) ⟨3, 10⟩], .update 4]
    s.rrdp.deltas.length = 3 ∧ s.cfg.maxNr = 2 := by
  decide +kernel

/-- Non-vacuity of the guard: the default configuration (5, 50) and the smallest one (0, 1). -/
example : (5 + 1 ≤ 50 ∧ false = false) ∧ (0 + 1 ≤ 1 ∧ false = false) := by decide

/-! ## The snapshot is the publication state -/

/-- `snapshot_is_state` — after an RRDP update the snapshot holds, for every publisher, exactly
the objects the publisher had (published ⊕ staged) before the update, and nothing is staged any
more: the snapshot at serial `n + 1` is the publication state at the time of the update.  No
other change touches the published objects of any publisher. -/
theorem snapshot_is_state (s : Server) (hi : SInv s) :
    (∀ t rnd h, (s.rrdp.applyUpdated t rnd).current h = s.rrdp.objectsFor h ∧
      (s.rrdp.applyUpdated t rnd).staged = []) ∧
    (∀ h q, (s.rrdp.publisherAdded h).current q = s.rrdp.current q) ∧
    (∀ h d q, (s.rrdp.stage h d).current q = s.rrdp.current q) ∧
    (∀ session rnd q, (s.rrdp.sessionReset session rnd).current q = s.rrdp.current q) :=
  ⟨fun t rnd h => ⟨current_applyUpdated hi.r.stagedNodup hi.r.snapNodup t rnd h, rfl⟩,
   fun h q => current_publisherAdded s.rrdp h q, fun _ _ _ => rfl, fun _ _ _ => rfl⟩

/-! ## Clients catch up -/

/-- `client_catches_up` — take any reachable state `s1` ("then") and any later history `ops`
without a session reset ("now" is `s1.run ops`).  A client that holds the snapshot of `s1`
and applies, oldest first and with the strict checks of RFC 8182, the deltas the server offers
for the serials after `s1`'s, ends with exactly the objects of the current snapshot – whenever
those deltas are still retained (the chain is contiguous from its serial, `deltas_contiguous`).
This holds for every earlier serial of the session at once, since `s1` is arbitrary.

Hypotheses: deltas name every URI once and use canonical URIs (`OpOk`), and no object key is
shared between two publishers in the states passed through (`KeysDisjoint`; by
`keys_disjoint_of_disjoint_jails` this follows from disjoint jails, i.e. handles that are not
nested).  Without them the statement is false (F-C10-1, F-C10-2). -/
theorem client_catches_up (s1 : Server) (hi : SInv s1) (ops : List Op)
    (hok : ∀ op ∈ ops, OpOk op ∧ op.isReset = false)
    (hdis : ∀ n, KeysDisjoint (s1.run (ops.take n)).rrdp) :
    let s2 := s1.run ops
    s2.rrdp.session = s1.rrdp.session ∧ s1.rrdp.serial ≤ s2.rrdp.serial ∧
    (s2.rrdp.serial - s1.rrdp.serial ≤ s2.rrdp.deltas.length →
      ∃ res, catchUp (flatten s1.rrdp.snapshot)
          (chainOf s2.rrdp (s2.rrdp.serial - s1.rrdp.serial)) = some res ∧
        ∀ k, res.get? k = (flatten s2.rrdp.snapshot).get? k) :=
  catch_up_of_reach (run_reach ops s1 hi hok hdis)

/-- Keys are disjoint when the jails of different publishers are (C10 `jails_disjoint_iff`:
neither handle a segment prefix of the other, neither `ta`). -/
theorem keys_disjoint_of_disjoint_jails (s : Server) (hi : SInv s)
    (hj : ∀ h1 h2 j1 j2, h1 ≠ h2 → publisherBase s.base h1 = some j1 →
      publisherBase s.base h2 = some j2 → ¬ ∃ u, inJail j1 u = true ∧ inJail j2 u = true) :
    KeysDisjoint s.rrdp :=
  keysDisjoint_of_jails hi.r hj

/-- Non-vacuity: publish, update, publish, update; the client holding serial 2 applies the delta
of serial 3. -/
example :
    let base : Uri := ⟨rsyncLower, ⟨"h", 0⟩, ⟨"m", 0⟩, [], true⟩
    let u : Uri := ⟨rsyncLower, ⟨"h", 0⟩, ⟨"m", 0⟩, ["ca", "a.cer"], false⟩
    let v : Uri := ⟨rsyncLower, ⟨"h", 0⟩, ⟨"m", 0⟩, ["ca", "b.cer"], false⟩
    let s1 := (Server.init base ⟨5, 50, false, false, false⟩ 1 1).run
      [.addpub ["ca"], .publish ["ca"] [.publish u ⟨1, 10⟩], .update 2]
    let s2 := s1.run [.publish ["ca"] [.publish v ⟨2, 10⟩, .update u 1 ⟨3, 10⟩], .update 3]
    s1.rrdp.serial = 2 ∧ s2.rrdp.serial = 3 ∧
    catchUp (flatten s1.rrdp.snapshot) (chainOf s2.rrdp 1) = some (flatten s2.rrdp.snapshot) := by
  decide +kernel

/-- "Whenever the chain is contiguous from its serial": with contiguous deltas, the deltas of all
serials after `m` up to the current one are offered exactly when `serial - m` deltas are
retained – the condition under which `client_catches_up` speaks. -/
theorem chain_offered_iff (r : Rrdp) (hc : Contig r) (m : Nat) (hm : m ≤ r.serial) :
    r.serial - m ≤ r.deltas.length ↔
      ∀ j, m < j → j ≤ r.serial → ∃ d ∈ r.deltas, d.serial = j := by
  have hget := contigFrom_get _ _ hc.2
  constructor
  · intro h j hj1 hj2
    have hi : r.serial - j < r.deltas.length := by omega
    refine ⟨r.deltas[r.serial - j], List.getElem_mem hi, ?_⟩
    have := (hget _ hi).1
    omega
  · intro h
    apply Classical.byContradiction
    intro hn
    have hlt : r.deltas.length < r.serial - m := by omega
    obtain ⟨d, hd, hs⟩ := h (r.serial - r.deltas.length) (by omega) (by omega)
    obtain ⟨i, hi, rfl⟩ := List.getElem_of_mem hd
    have := (hget i hi).1
    omega

/-! ## The rsync tree -/

/-- `rsync_equals_snapshot` — every complete run of `RsyncdStore::write` (the files of the
snapshot saved in any order), on **any** content of the rsync directory – whatever an earlier
interrupted or failed write left behind –, succeeds, and afterwards `current` holds exactly the
objects of the snapshot, `old` and the temporary directory are gone.  The only assumption is
that the snapshot gives one content per relative path (false only for the shared URIs of
F-C10-1). -/
theorem rsync_equals_snapshot (fs : RsyncFs) (base : Uri) (serial : Nat) (objs : Objs)
    (log : List Sig) (ms : List RMut) (rest : List (Bool × List RMut))
    (hm : matchLog RMut.sig (rsyncPlan fs base serial objs) log = some (ms, rest))
    (hdone : planDone rest = true)
    (hfun : FilesFunctional (rsyncFiles base objs)) :
    ∃ fs' t, fs.applyAll ms = (fs', true) ∧ fs'.current = some t ∧
      (∀ rel, t.get? rel = (expectedTree base objs).get? rel) ∧
      fs'.get? .old = none ∧ fs'.get? (.tmp serial) = none := by
  obtain ⟨ss, rfl, hperm⟩ := rsync_complete_shape hm hdone
  obtain ⟨fs1, hhead, h1, hoth1⟩ := rsync_head_ok fs serial
  obtain ⟨fs2, t, happ, hget, hokt, hoth, _, hfiles⟩ :=
    apply_saves (rsyncFiles base objs) hfun (.tmp serial) ss
      (fun m hm => by
        obtain ⟨p, hp, rfl⟩ := List.mem_map.mp (hperm.subset hm)
        exact ⟨p, hp, rfl⟩)
      fs1 [] h1 (fun rel r h => by simp [Tree.get?] at h)
  have hoth' : ∀ n, n ≠ .tmp serial → fs2.get? n = fs.get? n := by
    intro n hn
    rw [hoth n hn, hoth1 n hn]
  obtain ⟨fs5, htail, hcur, hold5, htmp5⟩ := rsync_tail_ok hget hoth'
  refine ⟨fs5, t, ?_, hcur, ?_, hold5, htmp5⟩
  · rw [RsyncFs.applyAll_append, RsyncFs.applyAll_append, hhead]
    simp only
    rw [happ]
    exact htail
  · intro rel
    apply tree_eq_expected hokt
    intro p hp
    exact hfiles p hp (hperm.symm.subset (List.mem_map.mpr ⟨p, hp, rfl⟩))

theorem filesFunctional_of_length_le_one {l : List (List String × Content)} (h : l.length ≤ 1) :
    FilesFunctional l := by
  intro p hp q hq _
  match l, h with
  | [], _ => cases hp
  | [x], _ => rw [List.mem_singleton.mp hp, List.mem_singleton.mp hq]

example : FilesFunctional (rsyncFiles ⟨rsyncLower, ⟨"h", 0⟩, ⟨"m", 0⟩, [], true⟩
    [(⟨rsyncLower, ⟨"h", 0⟩, ⟨"m", 0⟩, ["ca", "a.cer"], false⟩, ⟨1, 10⟩)]) :=
  filesFunctional_of_length_le_one (by decide +kernel)

/-- `rsync_write_after_any_cut` — interrupt a write anywhere (`ms1` is any run of a prefix of its
plan, on any directory `fs`; it does not even matter whether its mutations succeeded): every
later complete write, for any serial and any snapshot, succeeds and yields the snapshot.  An
interrupted write never prevents later writes. -/
theorem rsync_write_after_any_cut (fs : RsyncFs) (base : Uri) (serial1 serial2 : Nat)
    (objs1 objs2 : Objs) (log1 : List Sig) (ms1 : List RMut) (rest1 : List (Bool × List RMut))
    (_hm1 : matchLog RMut.sig (rsyncPlan fs base serial1 objs1) log1 = some (ms1, rest1))
    (log2 : List Sig) (ms2 : List RMut) (rest2 : List (Bool × List RMut))
    (hm2 : matchLog RMut.sig (rsyncPlan (fs.applyAll ms1).1 base serial2 objs2) log2 = some (ms2, rest2))
    (hdone : planDone rest2 = true)
    (hfun : FilesFunctional (rsyncFiles base objs2)) :
    ∃ fs' t, (fs.applyAll ms1).1.applyAll ms2 = (fs', true) ∧ fs'.current = some t ∧
      ∀ rel, t.get? rel = (expectedTree base objs2).get? rel := by
  obtain ⟨fs', t, h1, h2, h3, _, _⟩ :=
    rsync_equals_snapshot _ base serial2 objs2 log2 ms2 rest2 hm2 hdone hfun
  exact ⟨fs', t, h1, h2, h3⟩

/-- Non-vacuity, and the former failing case: the cut after `rename(tmp-2 → current)` and before
the removal of `old` leaves `current` and a non-empty `old`; the next write removes `old` first
and succeeds. -/
example :
    let fs : RsyncFs := [(.current, [(["ca", "a.cer"], .clean ⟨1, 10⟩)])]
    let base : Uri := ⟨rsyncLower, ⟨"h", 0⟩, ⟨"m", 0⟩, [], true⟩
    let objs : Objs := [(⟨rsyncLower, ⟨"h", 0⟩, ⟨"m", 0⟩, ["ca", "a.cer"], false⟩, ⟨2, 10⟩)]
    let log1 : List Sig := [⟨"create_dir_all", [.name "tmp-2"], []⟩,
           ⟨"create", [.name "tmp-2", .name "ca", .name "a.cer"], []⟩,
           ⟨"rename", [.name "current"], [.name "old"]⟩,
           ⟨"rename", [.name "tmp-2"], [.name "current"]⟩]
    let log2 : List Sig := [⟨"create_dir_all", [.name "tmp-3"], []⟩,
           ⟨"create", [.name "tmp-3", .name "ca", .name "a.cer"], []⟩,
           ⟨"remove_dir_all", [.name "old"], []⟩,
           ⟨"rename", [.name "current"], [.name "old"]⟩,
           ⟨"rename", [.name "tmp-3"], [.name "current"]⟩,
           ⟨"remove_dir_all", [.name "old"], []⟩]
    (matchLog RMut.sig (rsyncPlan fs base 2 objs) log1).bind (fun r1 =>
      let fs1 := (fs.applyAll r1.1).1
      (matchLog RMut.sig (rsyncPlan fs1 base 3 objs) log2).map (fun r2 =>
        (planDone r1.2, (fs1.get? .old).isSome, planDone r2.2, (fs1.applyAll r2.1).2,
          (fs1.applyAll r2.1).1.get? .current == some [(["ca", "a.cer"], .clean ⟨2, 10⟩)]))) =
      some (false, true, true, true, true) := by
  decide +kernel

/-- COUNTER-MODEL OF THE PINNED TREE (F-C11-1, before fix 5d860534): after the same cut the next
write (plan of the pinned tree: no removal of a left-over `old`) fails at
`rename(current → old)`, and so did every later one. -/
theorem pinned_old_left_behind_blocks_write :
    let fs : RsyncFs := [(.current, [(["ca", "a.cer"], .clean ⟨1, 10⟩)])]
    let base : Uri := ⟨rsyncLower, ⟨"h", 0⟩, ⟨"m", 0⟩, [], true⟩
    let objs : Objs := [(⟨rsyncLower, ⟨"h", 0⟩, ⟨"m", 0⟩, ["ca", "a.cer"], false⟩, ⟨2, 10⟩)]
    let log1 : List Sig := [⟨"create_dir_all", [.name "tmp-2"], []⟩,
           ⟨"create", [.name "tmp-2", .name "ca", .name "a.cer"], []⟩,
           ⟨"rename", [.name "current"], [.name "old"]⟩,
           ⟨"rename", [.name "tmp-2"], [.name "current"]⟩]
    let log2 : List Sig := [⟨"create_dir_all", [.name "tmp-3"], []⟩,
           ⟨"create", [.name "tmp-3", .name "ca", .name "a.cer"], []⟩,
           ⟨"rename", [.name "current"], [.name "old"]⟩,
           ⟨"rename", [.name "tmp-3"], [.name "current"]⟩,
           ⟨"remove_dir_all", [.name "old"], []⟩]
    (matchLog RMut.sig (rsyncPlanPinned fs base 2 objs) log1).bind (fun r1 =>
      let fs1 := (fs.applyAllPinned r1.1).1
      (matchLog RMut.sig (rsyncPlanPinned fs1 base 3 objs) log2).map (fun r2 =>
        (planDone r1.2, (fs1.get? .old).isSome, planDone r2.2, (fs1.applyAllPinned r2.1).2))) =
      some (false, true, true, false) := by
  decide +kernel

/-- COUNTER-MODEL OF THE PINNED TREE (F-C11-4, before fixes 8d070115 and 4ab08295): a left-over
`tmp-1` directory was re-used by the next write for serial 1: the write succeeded, but `current`
contained an object the snapshot did not have, and a shorter object written over a longer one
was neither. -/
theorem pinned_rsync_stale_tmp_leaks :
    let fs : RsyncFs := [(.tmp 1, [(["ca", "a.cer"], .clean ⟨1, 10⟩), (["ca", "m.mft"], .clean ⟨4, 1500⟩)]),
                         (.current, [(["ca", "m.mft"], .clean ⟨5, 9⟩)])]
    let base : Uri := ⟨rsyncLower, ⟨"h", 0⟩, ⟨"m", 0⟩, [], true⟩
    let objs : Objs := [(⟨rsyncLower, ⟨"h", 0⟩, ⟨"m", 0⟩, ["ca", "m.mft"], false⟩, ⟨5, 9⟩)]
    let log : List Sig := [⟨"create_dir_all", [.name "tmp-1"], []⟩,
           ⟨"create", [.name "tmp-1", .name "ca", .name "m.mft"], []⟩,
           ⟨"rename", [.name "current"], [.name "old"]⟩,
           ⟨"rename", [.name "tmp-1"], [.name "current"]⟩,
           ⟨"remove_dir_all", [.name "old"], []⟩]
    (matchLog RMut.sig (rsyncPlanPinned fs base 1 objs) log).map (fun r =>
        (planDone r.2, (fs.applyAllPinned r.1).2,
          (fs.applyAllPinned r.1).1.current.bind (·.get? ["ca", "a.cer"]),
          (fs.applyAllPinned r.1).1.current.bind (·.get? ["ca", "m.mft"]))) =
      some (true, true, some (.clean ⟨1, 10⟩), some .garbage) := by
  decide +kernel

/-! ## The notification at every cut -/

/-- `notification_consistent_at_every_cut` — let `update_rrdp_files` run on files whose
notification names only files that exist with the stated content, and interrupt it anywhere:
`ms` is any sequence of mutations that `matchLog` accepts as a run of a *prefix* of the plan
(the same reader the driver uses on the implementation's mutation log; the clean-up phases may
happen in any order).  Then the notification on disk still names only files that exist with the
stated content.

Preconditions (`RrdpPre`): file names of the form `<session>/<serial>/<random>/…`, no
notification from the future, contiguous deltas, and a file already sitting at the path of a
delta or of the snapshot is that very file.  Nothing is assumed about a left-over
`new-notification.xml` (files are truncated when created, fix 4ab08295). -/
theorem notification_consistent_at_every_cut (r : Rrdp) (fs : RrdpFs) (hpre : RrdpPre r fs)
    (hc : fs.consistent = true) (log : List Sig) (ms : List Mut) (rest : Plan)
    (hm : matchLog Mut.sig (rrdpPlan r fs) log = some (ms, rest)) :
    (fs.applyAll ms).consistent = true :=
  (rrdp_cut_facts hpre hc hm).1

/-- Non-vacuity: the state after `init`, one publish and one update, on the files written at
`init`. -/
example :
    let u : Uri := ⟨rsyncLower, ⟨"h", 0⟩, ⟨"m", 0⟩, ["ca", "a.cer"], false⟩
    let r0 := Rrdp.create 1 1
    let r := ((r0.publisherAdded ["ca"]).stage ["ca"] [.publish u ⟨1, 10⟩]).applyUpdated 0 2
    let fs : RrdpFs := [(notifPath, .notif ⟨1, 1, ⟨snapshotPath r0, snapshotFile r0⟩, []⟩),
                        (snapshotPath r0, .data (snapshotFile r0))]
    RrdpPre r fs ∧ fs.consistent = true ∧ (rrdpPlan r fs).length = 3 := by
  refine ⟨⟨?_, ?_, ⟨by decide, ⟨rfl, by decide, trivial⟩⟩, by decide, by decide⟩,
    by decide, by decide⟩
  · intro n hn
    have : n = ⟨1, 1, ⟨snapshotPath (Rrdp.create 1 1), snapshotFile (Rrdp.create 1 1)⟩, []⟩ := by
      simp [RrdpFs.notification, RrdpFs.get?, notifPath] at hn
      exact hn.symm
    subst this
    exact ⟨⟨1, rfl⟩, fun d hd => nomatch hd⟩
  · intro n hn _ d hd
    have : n = ⟨1, 1, ⟨snapshotPath (Rrdp.create 1 1), snapshotFile (Rrdp.create 1 1)⟩, []⟩ := by
      simp [RrdpFs.notification, RrdpFs.get?, notifPath] at hn
      exact hn.symm
    subst this
    cases hd

/-- The former failing case: a left-over, longer `new-notification.xml` (two deltas) and a new
notification without deltas (after a session reset): the notification is well-formed and
consistent after the rename. -/
example :
    let r : Rrdp := { session := 2, serial := 1, snapRnd := 5, snapshot := [], deltas := [], staged := [] }
    let d3 : DataRef := ⟨[.sess 1, .num 3, .rnd 3, .name "delta.xml"], .delta 1 3 []⟩
    let d2 : DataRef := ⟨[.sess 1, .num 2, .rnd 2, .name "delta.xml"], .delta 1 2 []⟩
    let sn : DataRef := ⟨[.sess 1, .num 3, .rnd 1, .name "snapshot.xml"], .snapshot 1 3 []⟩
    let stale : Notif := ⟨1, 4, sn, [(3, d3), (2, d2)]⟩
    let fs : RrdpFs := [(notifPath, .notif ⟨1, 3, sn, [(3, d3), (2, d2)]⟩), (sn.path, .data sn.data),
      (d3.path, .data d3.data), (d2.path, .data d2.data), (newNotifPath, .notif stale)]
    let log : List Sig := [⟨"create", snapshotPath r, []⟩, ⟨"create", newNotifPath, []⟩,
      ⟨"rename", newNotifPath, notifPath⟩]
    fs.consistent = true ∧
    (matchLog Mut.sig (rrdpPlan r fs) log).map (fun p => (fs.applyAll p.1).consistent) = some true := by
  decide +kernel

/-- COUNTER-MODEL OF THE PINNED TREE (F-C11-3, before fix 4ab08295): files were opened without
truncation.  In the same situation the tail of the left-over file stayed and `notification.xml`
was not a well-formed file after the rename. -/
theorem pinned_notification_corrupt_after_stale_new_notification :
    let r : Rrdp := { session := 2, serial := 1, snapRnd := 5, snapshot := [], deltas := [], staged := [] }
    let d3 : DataRef := ⟨[.sess 1, .num 3, .rnd 3, .name "delta.xml"], .delta 1 3 []⟩
    let d2 : DataRef := ⟨[.sess 1, .num 2, .rnd 2, .name "delta.xml"], .delta 1 2 []⟩
    let sn : DataRef := ⟨[.sess 1, .num 3, .rnd 1, .name "snapshot.xml"], .snapshot 1 3 []⟩
    let stale : Notif := ⟨1, 4, sn, [(3, d3), (2, d2)]⟩
    let fs : RrdpFs := [(notifPath, .notif ⟨1, 3, sn, [(3, d3), (2, d2)]⟩), (sn.path, .data sn.data),
      (d3.path, .data d3.data), (d2.path, .data d2.data), (newNotifPath, .notif stale)]
    let log : List Sig := [⟨"create", snapshotPath r, []⟩, ⟨"create", newNotifPath, []⟩,
      ⟨"rename", newNotifPath, notifPath⟩]
    fs.consistent = true ∧
    (matchLog Mut.sig (rrdpPlan r fs) log).map (fun p => (fs.applyAllPinned p.1).consistent) =
      some false := by
  decide +kernel

/-! ## Histories: requests and interrupted writes -/

/-- `world_invariant` — the inductive invariant over arbitrary histories.  A history is any
sequence of requests of the manager (publish / update / withdraw deltas, publisher addition and
removal, RRDP updates under any retention configuration, deletions, session resets) and writes
of the repository interrupted before any of their file-system mutations (or complete).  It is
valid if deltas name each URI once with well-formed URIs (`OpOk`) and a session reset chooses a
session id that is not on disk.  After every valid history the manager's invariant (`SInv`) and
the file invariant (`FInv`: the preconditions `RrdpPre` of the RRDP writer, a consistent
notification, no file beyond the current serial) hold.  The clauses below are corollaries. -/
theorem world_invariant (base : Uri) (cfg : Cfg) (session rnd : Nat) (es : List Event)
    (hv : World.Valid (World.init base cfg session rnd) es) :
    WInv ((World.init base cfg session rnd).run es) :=
  (WInv.init base cfg session rnd).run es hv

/-- At every instant – after every valid history, wherever its writes were cut – the
notification file names only files that exist with the stated content. -/
theorem notification_consistent_at_every_instant (base : Uri) (cfg : Cfg) (session rnd : Nat)
    (es : List Event) (hv : World.Valid (World.init base cfg session rnd) es) :
    ((World.init base cfg session rnd).run es).rfs.consistent = true :=
  (world_invariant base cfg session rnd es hv).files.cons

/-- … the retained deltas are a contiguous run ending at the current serial, and the serial is
positive … -/
theorem deltas_contiguous_at_every_instant (base : Uri) (cfg : Cfg) (session rnd : Nat)
    (es : List Event) (hv : World.Valid (World.init base cfg session rnd) es) :
    Contig ((World.init base cfg session rnd).run es).srv.rrdp :=
  (world_invariant base cfg session rnd es hv).files.pre.contig

/-- … and an interrupted write never prevents later writes (RRDP part): in the world reached by
any valid history a complete run of `update_rrdp_files` ends with a consistent notification
that names the session and serial of the current state. -/
theorem rrdp_write_after_any_history (base : Uri) (cfg : Cfg) (session rnd : Nat)
    (es : List Event) (hv : World.Valid (World.init base cfg session rnd) es)
    (log : List Sig) (ms : List Mut) (rest : Plan) :
    let w := (World.init base cfg session rnd).run es
    matchLog Mut.sig (rrdpPlan w.srv.rrdp w.rfs) log = some (ms, rest) → planDone rest = true →
    (w.rfs.applyAll ms).consistent = true ∧
    ∃ n, (w.rfs.applyAll ms).notification = some n ∧ n.session = w.srv.rrdp.session ∧
      n.serial = w.srv.rrdp.serial := by
  intro w hm hd
  have hi := world_invariant base cfg session rnd es hv
  obtain ⟨hc, _, hdone⟩ := rrdp_cut_facts hi.files.pre hi.files.cons hm
  obtain ⟨n, hn, h1, h2⟩ := hdone hd
  exact ⟨hc, n, notification_eq_some.mpr hn, h1, h2⟩

/-- (rsync part) in the world reached by any history – valid or not, whatever its writes left in
the rsync directory – a complete run of `RsyncdStore::write` succeeds and `current` is the
snapshot: the rsync tree equals the snapshot after every successful write. -/
theorem rsync_write_after_any_history (w0 : World) (es : List Event) (log : List Sig)
    (ms : List RMut) (rest : List (Bool × List RMut)) :
    let w := w0.run es
    matchLog RMut.sig (rsyncPlan w.sfs w.srv.base w.srv.rrdp.serial (flatten w.srv.rrdp.snapshot)) log
      = some (ms, rest) → planDone rest = true →
    FilesFunctional (rsyncFiles w.srv.base (flatten w.srv.rrdp.snapshot)) →
    ∃ fs' t, w.sfs.applyAll ms = (fs', true) ∧ fs'.current = some t ∧
      ∀ rel, t.get? rel = (expectedTree w.srv.base (flatten w.srv.rrdp.snapshot)).get? rel := by
  intro w hm hd hf
  obtain ⟨fs', t, h1, h2, h3, _, _⟩ := rsync_equals_snapshot _ _ _ _ log ms rest hm hd hf
  exact ⟨fs', t, h1, h2, h3⟩

/-- Non-vacuity of the world: the write at `init`, a publication, an RRDP update whose write is cut
after three mutations (delta, snapshot and `new-notification.xml` written, not yet renamed), and a
retry.  The cut write left the old notification (serial 1, consistent, `new-notification.xml`
lying about), the retry published serial 2 and renamed it away; the first write made `current`. -/
example :
    let base : Uri := ⟨rsyncLower, ⟨"h", 0⟩, ⟨"m", 0⟩, [], true⟩
    let u : Uri := ⟨rsyncLower, ⟨"h", 0⟩, ⟨"m", 0⟩, ["ca", "a.cer"], false⟩
    let w0 := World.init base ⟨5, 50, false, false, false⟩ 1 1
    let initLog : List Sig := [⟨"create", [.sess 1, .num 1, .rnd 1, .name "snapshot.xml"], []⟩,
      ⟨"create", newNotifPath, []⟩, ⟨"rename", newNotifPath, notifPath⟩]
    let rsyncLog : Nat → List Sig := fun n => [⟨"create_dir_all", [.name ("tmp-" ++ toString n)], []⟩,
      ⟨"rename", [.name ("tmp-" ++ toString n)], [.name "current"]⟩]
    let cutLog : List Sig := [⟨"create", [.sess 1, .num 2, .rnd 2, .name "delta.xml"], []⟩,
      ⟨"create", [.sess 1, .num 2, .rnd 1, .name "snapshot.xml"], []⟩, ⟨"create", newNotifPath, []⟩]
    let w1 := w0.run [.write initLog (rsyncLog 1), .req (.addpub ["ca"]),
      .req (.publish ["ca"] [.publish u ⟨1, 10⟩]), .req (.update 2), .write cutLog []]
    let w2 := w1.run [.write (cutLog ++ [⟨"rename", newNotifPath, notifPath⟩,
      ⟨"remove_dir_all", [.sess 1, .num 1], []⟩]) []]
    (w1.rfs.notification.map (·.serial), w1.rfs.consistent, (w1.rfs.get? newNotifPath).isSome,
      w2.rfs.notification.map (·.serial), w2.rfs.consistent, (w2.rfs.get? newNotifPath).isSome,
      (w0.run [.write initLog (rsyncLog 1)]).sfs.current.isSome) =
      (some 1, true, true, some 2, true, false, true) := by
  decide +kernel

/-- … and the requests of that history, between writes that perform nothing, are a valid history. -/
example :
    let base : Uri := ⟨rsyncLower, ⟨"h", 0⟩, ⟨"m", 0⟩, [], true⟩
    let u : Uri := ⟨rsyncLower, ⟨"h", 0⟩, ⟨"m", 0⟩, ["ca", "a.cer"], false⟩
    World.Valid (World.init base ⟨5, 50, false, false, false⟩ 1 1)
      [.write [] [], .req (.addpub ["ca"]), .req (.publish ["ca"] [.publish u ⟨1, 10⟩]),
       .req (.update 2), .write [] []] := by
  exact ⟨trivial, ⟨trivial, fun _ _ h => nomatch h⟩, ⟨.publish_one _ rfl, fun _ _ h => nomatch h⟩,
    ⟨trivial, fun _ _ h => nomatch h⟩, trivial, trivial⟩

end KM.Props.C11
