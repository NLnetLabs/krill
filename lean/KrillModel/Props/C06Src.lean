/-
C06 — source tie for the *stored forms* of krill's event-sourced aggregates.

`Generated/CommandKinds.lean` is regenerated from `/repo/src` on every run (translator
`command_kinds`): for every `impl Aggregate` / `impl WalSupport` the variants of the storable command
enum (for the write-ahead log: of the change enum) and of the event enum with their fields, the shape
class of every field (`opt`, `coll`, `plain`) and its serde attributes verbatim, plus every struct and
enum of krill's own that these reach through field types (`storedTypes`).
`ES/CommandCoverage.lean` is the hand-written, reviewed table: which stream op executes which command
kind in which shapes, or why none does.

| clause of C06 | theorem |
|---|---|
| *every* entity, "replaying a stored history never fails": the fresh-store comparison has to see every command kind in every stored shape | `all_command_kinds_covered`: every generated command kind has a coverage row with **the same field list** that names an executing op and accounts for both forms of each optional / collection field, or gives the reason why it is not executed – a new variant, a new field or a changed field type breaks the proof; `checks/C06.py` then checks each claim against the traces of the run |
| what is written can be read back | `serde_attrs_reviewed`: no field anywhere in the stored types is left out of the written form (`skip_serializing_if`) without a way to read the shorter form back (`default`, or serde's built-in rule for a plain `Option<…>` field) – unless listed in `serdeExceptions` with a reason |

What this does **not** say: that an op named in the table really stores that kind (that is checked
on the traces, every run), that the shapes are the only way a stored form can vary (enum-valued
fields, third-party types such as `RequestResourceLimit` are leaves), nor anything about hand-written
`Serialize` / `Deserialize` impls (the `serde` round-trip ops of the `aggstore` stream sample those).
-/
import KrillModel.Generated.CommandKinds
import KrillModel.ES.CommandCoverage
import KrillModel.Base.Table
namespace KM.Props.C06Src
open KM.Gen.CommandKinds KM.ES.CommandCoverage

/-! ## Every command kind is covered -/

/-- What `rowMatches` compares. -/
def kindKey (k : Kind) : String × String × List (String × String) :=
  (k.agg, k.variant, k.fields.map (fun f => (f.name, f.ty)))

def rowKey (r : Row) : String × String × List (String × String) := (r.agg, r.variant, r.fields)

/-- `rowComplete`, with `why != ""` for `!why.isEmpty`: the kernel decides the former at the first
character of the literal and computes the byte length of the whole text for the latter. -/
def complete (k : Kind) (r : Row) : Bool :=
  match r.status with
  | .notExecuted _ why => why != ""
  | .covered .. => rowComplete k r

theorem rowOk_of_complete (k : Kind) (r : Row) (hk : kindKey k = rowKey r) (hc : complete k r = true) :
    rowOk k r = true := by
  obtain ⟨h1, h2, h3⟩ := Prod.mk.inj hk |>.imp_right Prod.mk.inj
  have : rowComplete k r = true := by
    unfold complete at hc
    split at hc
    · rename_i hs
      simpa [rowComplete, hs, ← String.isEmpty_eq_false_iff] using hc
    · exact hc
  simp [rowOk, rowMatches, ← h1, ← h2, ← h3, this]

/-- The walk succeeds on the tables of this run.  The coverage table is kept in the order of the generated
one; as long as it has no other rows the two key columns are the same list, and the kernel sees that without
looking into a string: equal literals are identical terms, whereas `==` on them costs it thousands of steps
per character.  Rows whose command kind is gone are harmless: then the walk is evaluated. -/
theorem coverage_walk : Table.walk rowOk commandKinds coverage = true := by
  first
    | exact Table.walk_of_aligned rowOk_of_complete (ka := kindKey) (kb := rowKey) rfl (by decide +kernel)
    | decide +kernel

/-- **Every storable command kind (and write-ahead-log change kind) of every event-sourced
aggregate has a reviewed coverage row with the field list it has in the current source.** -/
theorem all_command_kinds_covered : ∀ k ∈ commandKinds, covered k = true :=
  Table.any_of_walk rowOk coverage commandKinds coverage_walk

/-- What a row that passes means, spelled out: same aggregate, variant and fields; executed by a
named op with every shape claimed or excused, or not executed for a stated reason. -/
theorem covered_spec (k : Kind) (h : covered k = true) :
    ∃ r ∈ coverage, r.agg = k.agg ∧ r.variant = k.variant ∧
      r.fields = k.fields.map (fun f => (f.name, f.ty)) ∧ rowComplete k r = true := by
  unfold covered at h
  obtain ⟨r, hr, hok⟩ := List.any_eq_true.mp h
  refine ⟨r, hr, ?_⟩
  unfold rowOk rowMatches at hok
  simp only [Bool.and_eq_true, beq_iff_eq] at hok
  exact ⟨hok.1.1.1, hok.1.1.2, hok.1.2, hok.2⟩

/-- A kind with a new optional field is *not* covered by its old row (the statement has teeth). -/
example :
    rowOk { agg := "TrustAnchorSigner", role := "command", enumName := "TrustAnchorSignerStorableCommand", enumAttrs := [],
            variant := "Init", form := "struct", variantAttrs := [],
            fields := [{ name := "note", ty := "Option<String>", shape := "opt", attrs := [] }] }
          { agg := "TrustAnchorSigner", variant := "Init", fields := [],
            status := .covered .cli_api [⟨"proto", "reinit", []⟩] [] } = false := by decide

/-- … and a row with the right fields that leaves one shape of a collection field out fails too. -/
example :
    rowOk { agg := "A", role := "command", enumName := "E", enumAttrs := [], variant := "V", form := "struct", variantAttrs := [],
            fields := [{ name := "xs", ty := "Vec<u8>", shape := "coll", attrs := [] }] }
          { agg := "A", variant := "V", fields := [("xs", "Vec<u8>")],
            status := .covered .daemon [⟨"system", "op", ["xs=nonempty"]⟩] [] } = false := by decide

example :
    rowOk { agg := "A", role := "command", enumName := "E", enumAttrs := [], variant := "V", form := "struct", variantAttrs := [],
            fields := [{ name := "xs", ty := "Vec<u8>", shape := "coll", attrs := [] }] }
          { agg := "A", variant := "V", fields := [("xs", "Vec<u8>")],
            status := .covered .daemon [⟨"system", "op", ["xs=nonempty"]⟩, ⟨"system", "op2", ["xs=empty"]⟩] [] } = true := by decide

/-! ## Serde attributes -/

/-- `key` or `key=…` among the items of the field's `#[serde(…)]` attributes. -/
def hasKey (key : String) (attrs : List String) : Bool :=
  attrs.any fun a => a == key || a.startsWith (key ++ "=")

/-- Fields that are skipped when "empty" and have no `default`, accepted with a reason:
(owner type or enum, field path, reason). -/
def serdeExceptions : List (String × String × String) := []

/-- A field that may be left out of the written form can be read back without it:
`skip_serializing_if` comes with `default`, or the field is a plain `Option<…>` (serde's derive reads a
missing `Option` field as `None` as long as no `deserialize_with` / `with` replaces the reader), or
the field is a listed exception. -/
def fieldOk (owner : String) (f : Field) : Bool :=
  !hasKey "skip_serializing_if" f.attrs
    || hasKey "default" f.attrs
    || (f.shape == "opt" && !hasKey "deserialize_with" f.attrs && !hasKey "with" f.attrs)
    || serdeExceptions.any (fun e => e.1 == owner && e.2.1 == f.name)

/-- Every field the translator found: of the command / change kinds, of the event kinds (paths
flattened through krill's own structs) and of every reachable struct / enum. -/
def allFields : List (String × Field) :=
  commandKinds.flatMap (fun k => k.fields.map (fun f => (k.enumName, f)))
    ++ eventKinds.flatMap (fun k => k.fields.map (fun f => (k.enumName, f)))
    ++ storedTypes.flatMap (fun t => t.fields.map (fun f => (t.name, f)))

def allFieldsOk : Bool := allFields.all (fun p => fieldOk p.1 p.2)

/-- **No stored field is skipped on writing without a way to read the shorter form back.** -/
theorem serde_attrs_reviewed : ∀ p ∈ allFields, fieldOk p.1 p.2 = true := by
  have h : allFieldsOk = true := by decide +kernel
  intro p hp
  exact List.all_eq_true.mp h p hp

/-- The table is not empty, and fields with the attribute exist (the statement is not vacuous). -/
example : (allFields.filter (fun p => hasKey "skip_serializing_if" p.2.attrs)).length > 10 := by decide +kernel

/-- The seeded shape: a collection skipped when empty, no `default` – rejected. -/
example : fieldOk "TrustAnchorReissueRequest"
    { name := "tal_https", ty := "Vec<uri::Https>", shape := "coll", attrs := ["skip_serializing_if=\"Vec::is_empty\""] } = false := by
  decide +kernel

example : fieldOk "TrustAnchorReissueRequest"
    { name := "tal_https", ty := "Vec<uri::Https>", shape := "coll", attrs := ["skip_serializing_if=\"Vec::is_empty\"", "default"] } = true := by
  decide +kernel

/-- A plain optional field needs no `default` … -/
example : fieldOk "CertifiedKey"
    { name := "old_repo", ty := "Option<RepoInfo>", shape := "opt", attrs := ["skip_serializing_if=\"Option::is_none\""] } = true := by
  decide +kernel

/-- … unless its reader has been replaced. -/
example : fieldOk "X"
    { name := "o", ty := "Option<Bytes>", shape := "opt",
      attrs := ["skip_serializing_if=\"Option::is_none\"", "deserialize_with=\"de\""] } = false := by
  decide +kernel

end KM.Props.C06Src
