/-
C13 — Every API route enforces the permission its operation requires.
The table is walked once (`routes_checked`); what a caller gets is read off `respond_cases` and `gate_none_iff`
(`KrillModel.Http.Lemmas`).

`KM.Generated.routes` is regenerated from `src/daemon/http/dispatch/*.rs` on every run of the check,
`KM.Generated.permSet` … from permission.rs / roles.rs; `KM.Http.Spec` is the hand-written
specification.  Statements about the table are decided by the kernel (`decide +kernel`); statements
about roles, callers and requests are proved for all of them.

Clause → theorem (property text of C13 in /verif/properties.jsonl)

| clause of the property                                                        | theorems |
|---|---|
| a route that reads/changes CA, pubd or TA state is served only to a caller whose role grants the permission the operation requires, for the CA it addresses | `every_op_gated` (table, vs. `Spec.required`), `every_op_gated_sem` (all roles, requests), `decision_iff` |
| a per-CA grant takes precedence over the blanket grant, non-CA requests use the general grant | `role_semantics`, `role_conf_semantics` (config-file role forms), `decision_iff` (through `Role.perms`) |
| … in addition to the login permission for everything under the versioned API  | `api_v1_needs_login`, `api_v1_needs_login_sem` |
| all other callers receive an authorisation error …                            | `refused_iff` (401/403 of the first refusing gate), `decision_iff` |
| … and cause no effect                                                         | `not_served_no_calls`, `decision_iff` (no server call unless served) |
| without credentials only protocol, repository, TA download, health, metrics/statistics, login and UI endpoints are served | `unchecked_only_public` (both directions on the table), `unchecked_only_public_sem` |
| (and the testbed self-service endpoints when testbed mode is on)              | `testbed_only_when_enabled`, `unchecked_only_public` (`publicIsUngated`: testbed rows ⇔ testbed area) |
| listing endpoints show a caller only the CAs it may read                      | `listing_filtered`, `listing_filtered_sem`, `listing_anonymous`, `decision_iff` (per item) |
| quantifier: every route and method                                            | all table theorems range over `routes` (every pattern × GET/POST/DELETE/OTHER, catch-all arms included); `table_complete` |
| quantifier: every role built from any subset of permissions, with and without per-CA scoping | every `_sem` theorem and `decision_iff` quantify over an arbitrary `Role` (three arbitrary sets + arbitrary per-CA entries); `builtin_roles`, `admin_allowed_everything` for the built-in ones |
| quantifier: callers with no, wrong or valid credentials                        | `decision_iff` is over every authentication result; `wrong_credentials_refused`: **every** bearer string that is not a genuine credential – an unrelated string just as a near miss (prefix, extension, one changed character, other case) of the admin token or of a session token – is worth exactly no credentials and is refused on every gated row with no server call, for both provider configurations; composed with the credential chain in `KM.Props.C20.request_decision` |

Which row a concrete method + path selects is not a theorem: the table rows are path *patterns*; the
correspondence run asks the real daemon every row (and the catch-all arms) and compares.
-/
import KrillModel.Http.Lemmas
import KrillModel.Http.AuthLemmas
namespace KM.Props.C13
open KM.Generated KM.Http

/-! ## The generated tables are complete -/

/-- Nothing in a row is an `unknown` marker of the translator. -/
def rowKnown (rt : Route) : Bool :=
  rt.fin != .unknown && rt.gates.all (fun g => g.2 != .unknown) &&
  (match rt.filter with
   | some (_, r) => r != .unknown
   | none => true) &&
  rt.ops.all (fun c => c.actor != .unknown)

/-- A gate names no resource or the handle parsed from a parameter segment of the row's own path;
a filter names the listed handle. -/
def rowResolvable (rt : Route) : Bool :=
  rt.gates.all (fun g =>
    match g.2 with
    | .none => true
    | .seg i => rt.path[i]? == some .param
    | _ => false) &&
  (match rt.filter with
   | some (_, r) => r == .listed
   | none => true)

/-- Row `rt` holds the gate (or filter) the specification demands for the server call `c`. -/
def satisfied (rt : Route) (c : OpCall) : Bool :=
  match Spec.required c.op with
  | .onCa alts =>
    match c.target with
    | .seg i => alts.any fun p => rt.gates.contains (p, .seg i)
    | .taHandle => rt.gates.contains (Spec.taPermission, .none)
    | .listed => alts.any fun p => rt.filter == some (p, .listed)
    | _ => false
  | .general alts => alts.any fun p => rt.gates.contains (p, .none)
  | .listing p => rt.filter == some (p, .listed)
  | .free => true

/-- Row `rt` holds, without a resource, every gate the specification demands in addition for `c`. -/
def alsoSatisfied (rt : Route) (c : OpCall) : Bool :=
  (Spec.alsoRequired c.op).all fun p => rt.gates.contains (p, .none)

/-- The need of every operation of the row is met without any permission. -/
def needsNothing (rt : Route) : Bool :=
  rt.ops.all fun c =>
    match Spec.required c.op with
    | .free => true
    | .listing p => rt.filter == some (p, .listed)
    | .onCa alts => c.target == .listed && alts.any fun p => rt.filter == some (p, .listed)
    | .general _ => false

/-- A row that runs a handler without a single gate is one of the endpoints the specification
allows without credentials, and uses only the operations allowed there (testbed self-service: CA
operations on the testbed CA only). -/
def ungatedIsPublic (rt : Route) : Bool :=
  let area := Spec.areaOf rt.path
  !(rt.fin.runs && rt.gates.isEmpty) ||
    (Spec.mayBePublic area rt.testbedOnly &&
     rt.ops.all (fun c => (Spec.publicOps area).contains c.op) &&
     (area != .testbed || rt.ops.all fun c =>
        match Spec.required c.op with
        | .onCa _ => c.target == .testbedCa && c.actor != .auth
        | _ => true))

/-- `proceed_unchecked` / `proceed_raw` / answers without a proceed: either public by
specification, or under `/api/v1` behind the login gate with operations that need no permission
(filtered listings). -/
def uncheckedIsHarmless (rt : Route) : Bool :=
  !(rt.fin == .proceed .unchecked || rt.fin == .proceed .raw || rt.fin == .static) ||
    (rt.gates.isEmpty && Spec.mayBePublic (Spec.areaOf rt.path) rt.testbedOnly) ||
    (Spec.areaOf rt.path == .api && rt.gates == [(.Login, .none)] && needsNothing rt)

/-- The endpoints the specification names as public are indeed served without credentials; the
testbed ones exactly when testbed mode is on. -/
def publicIsUngated (rt : Route) : Bool :=
  let area := Spec.areaOf rt.path
  !(rt.fin.runs && (area != .api && area != .nowhere)) ||
    (rt.gates.isEmpty && (rt.testbedOnly == (area == .testbed)))

/-- Everything the theorems below use of a single row of the table, so that the table is walked once. -/
def rowChecked (rt : Route) : Bool :=
  rowKnown rt && rowResolvable rt && ungatedIsPublic rt && uncheckedIsHarmless rt && publicIsUngated rt &&
  (!(rt.ops.any fun c => c.op == .ca_handles) || rt.filter == some (.CaRead, .listed)) &&
  (Spec.areaOf rt.path != .api ||
    (rt.fin == .methodNotAllowed || rt.gates.contains (.Login, .none)) &&
    rt.ops.all fun c => satisfied rt c && alsoSatisfied rt c && (c.actor == .auth || c.actor == .none))

/-- `rowChecked` read as propositions, clause by clause. -/
structure RowChecked (rt : Route) : Prop where
  known : rowKnown rt = true
  resolvable : rowResolvable rt = true
  ungated : ungatedIsPublic rt = true
  unchecked : uncheckedIsHarmless rt = true
  open_ : publicIsUngated rt = true
  listing : (∃ c ∈ rt.ops, c.op = .ca_handles) → rt.filter = some (.CaRead, .listed)
  login : Spec.areaOf rt.path = .api → rt.fin ≠ .methodNotAllowed → (Permission.Login, Res.none) ∈ rt.gates
  ops : Spec.areaOf rt.path = .api → ∀ c ∈ rt.ops,
    satisfied rt c = true ∧ alsoSatisfied rt c = true ∧ (c.actor = .auth ∨ c.actor = .none)

theorem routes_checked (rt : Route) (hrt : rt ∈ routes) : RowChecked rt := by
  have h : routes.all rowChecked = true := by decide +kernel
  have h := List.all_eq_true.mp h rt hrt
  simp only [rowChecked, Bool.and_eq_true, Bool.or_eq_true, Bool.not_eq_true', bne_iff_ne, ne_eq,
    beq_iff_eq, List.any_eq_false, List.all_eq_true, List.contains_iff_mem] at h
  obtain ⟨⟨⟨⟨⟨⟨known, resolvable⟩, ungated⟩, unchecked⟩, open_⟩, listing⟩, api⟩ := h
  have hapi := fun harea => api.resolve_left fun hne => hne harea
  exact {
    known, resolvable, ungated, unchecked, open_
    listing := fun ⟨c, hc, hop⟩ => listing.resolve_left fun hno => hno c hc hop
    login := fun harea => (hapi harea).1.resolve_left
    ops := fun harea c hc => ⟨((hapi harea).2 c hc).1.1, ((hapi harea).2 c hc).1.2, ((hapi harea).2 c hc).2⟩ }

/-- The translators classified every route, gate, filter and permission set. -/
theorem table_complete :
    routes.all rowKnown = true ∧ routes.all rowResolvable = true ∧ permTablesComplete = true ∧
    maskSemanticsRecognised = true ∧ Permission.all.length ≤ 32 :=
  ⟨List.all_eq_true.mpr fun rt hrt => (routes_checked rt hrt).known,
    List.all_eq_true.mpr fun rt hrt => (routes_checked rt hrt).resolvable, by decide, rfl, by decide⟩

/-! ## `served_iff`: a route is served iff every gate on its dispatch path is allowed -/

/-- A request matching row `rt` reaches the handler body iff the row ends in a handler, testbed
mode is on if the row needs it, and **every** gate accumulated along the dispatch path lets the
caller pass. -/
theorem served_iff (testbed : Bool) (a : AuthRes) (rt : Route) (segs : List String) :
    respond testbed a rt segs = .served ↔
      (rt.testbedOnly = true → testbed = true) ∧ rt.fin.runs = true ∧
      ∀ g ∈ rt.gates, gate a segs g = none := by
  rcases respond_cases testbed a rt segs with ⟨h1, h2, he⟩ | ⟨htb, ⟨hall, he⟩ | ⟨⟨g, hm, hne⟩, he⟩⟩
  · rw [he]
    exact ⟨nofun, fun ⟨h, _⟩ => nomatch h2.symm.trans (h h1)⟩
  · rw [he, End.outcome_served_iff]
    exact ⟨fun h => ⟨htb, h, hall⟩, fun h => h.2.1⟩
  · refine ⟨fun h => ?_, fun ⟨_, _, hall⟩ => absurd (hall g hm) hne⟩
    rw [h] at he
    rcases he with he | he <;> cases he

/-- Otherwise the answer is an authorisation error (or 404/405 from the dispatch tree) and the
server object is not reached: no server call. -/
theorem not_served_no_calls (testbed : Bool) (a : AuthRes) (rt : Route) (segs : List String)
    (h : respond testbed a rt segs ≠ .served) : serverCalls testbed a rt segs = [] := by
  simp [serverCalls, h]

/-- If some gate refuses (and the row is active), the answer is the refusal of the *first* refusing
gate: 401 or 403, nothing else. -/
theorem refused_iff (testbed : Bool) (a : AuthRes) (rt : Route) (segs : List String)
    (htb : rt.testbedOnly = true → testbed = true) :
    (respond testbed a rt segs = .unauthorized ∨ respond testbed a rt segs = .forbidden) ↔
      ∃ g ∈ rt.gates, gate a segs g ≠ none := by
  rcases respond_cases testbed a rt segs with ⟨h1, h2, _⟩ | ⟨_, ⟨hall, he⟩ | ⟨hex, he⟩⟩
  · exact nomatch h2.symm.trans (htb h1)
  · rw [he]
    exact ⟨fun h => absurd h rt.fin.outcome_not_refusal, fun ⟨g, hm, hne⟩ => absurd (hall g hm) hne⟩
  · exact iff_of_true he hex

theorem unauthenticated_refused (testbed : Bool) (a : AuthRes) (ha : a.isOk = false) (rt : Route)
    (segs : List String) (hg : rt.gates ≠ []) (htb : rt.testbedOnly = true → testbed = true) :
    (respond testbed a rt segs = .unauthorized ∨ respond testbed a rt segs = .forbidden) ∧
    serverCalls testbed a rt segs = [] := by
  have href : respond testbed a rt segs = .unauthorized ∨ respond testbed a rt segs = .forbidden := by
    rw [refused_iff testbed a rt segs htb]
    obtain ⟨g, hm⟩ := List.exists_mem_of_ne_nil _ hg
    exact ⟨g, hm, gate_unauthenticated a ha segs g⟩
  refine ⟨href, not_served_no_calls _ _ _ _ fun h => ?_⟩
  rw [h] at href
  rcases href with h | h <;> cases h

theorem served_passes {testbed : Bool} {id : String} {role : Role} {rt : Route} {segs : List String}
    {c : OpCall} (hc : c ∈ serverCalls testbed (.ok id role) rt segs) :
    c ∈ rt.ops ∧
    ∀ p r, (p, r) ∈ rt.gates → ∃ res, resolve segs r = some res ∧ role.isAllowed p res = true := by
  unfold serverCalls at hc
  split at hc
  · rename_i hserved
    refine ⟨hc, fun p r hm => ?_⟩
    obtain ⟨_, _, res, ⟨⟩, h⟩ := (gate_none_iff _ segs (p, r)).mp (((served_iff _ _ _ _).mp hserved).2.2 _ hm)
    exact ⟨res, h⟩
  · cases hc

/-- **Every operation a handler of the versioned API can reach is behind the permission the
specification requires for it, on the CA the call addresses** – for every row of the dispatch
table as it is in the source. -/
theorem every_op_gated :
    ∀ rt ∈ routes, Spec.areaOf rt.path = .api → ∀ c ∈ rt.ops, satisfied rt c = true := by
  intro rt hrt harea c hc
  exact ((routes_checked rt hrt).ops harea c hc).1

/-- **pubd_ops_need_pub_admin.**  Every operation of the publication server that a handler of the versioned API can
reach is behind `pub-admin` as well – for every row of the dispatch table as it is in the source (seed C13-r6
moves the blanket check of `pubd::dispatch` into one arm: the list of stale publishers is then served to a role with
`pub-list` alone). -/
theorem pubd_ops_need_pub_admin :
    ∀ rt ∈ routes, Spec.areaOf rt.path = .api → ∀ c ∈ rt.ops, alsoSatisfied rt c = true := by
  intro rt hrt harea c hc
  exact ((routes_checked rt hrt).ops harea c hc).2.1

/-- For a caller: a request to the versioned API that reaches an operation of the publication server comes from a
role whose GENERAL grant holds `pub-admin` (and every other permission `Spec.alsoRequired` names). -/
theorem pubd_ops_need_pub_admin_sem (testbed : Bool) (id : String) (role : Role) (rt : Route)
    (hrt : rt ∈ routes) (harea : Spec.areaOf rt.path = .api) (segs : List String) (c : OpCall)
    (hc : c ∈ serverCalls testbed (.ok id role) rt segs) :
    ∀ p ∈ Spec.alsoRequired c.op, role.isAllowed p none = true := by
  obtain ⟨hc, hpass⟩ := served_passes hc
  intro p hp
  have hm := List.contains_iff_mem.mp (List.all_eq_true.mp (pubd_ops_need_pub_admin rt hrt harea c hc) p hp)
  obtain ⟨_, ⟨⟩, hal⟩ := hpass p .none hm
  exact hal

/-- What that means for a caller: whenever a request to the versioned API reaches a server
operation, the caller's role grants a permission the specification accepts for the operation, for the
very CA (path segment) the operation is applied to; a per-CA operation on the trust anchor needs the
general CA-admin grant; an enumeration of CAs is filtered. -/
theorem every_op_gated_sem (testbed : Bool) (id : String) (role : Role) (rt : Route)
    (hrt : rt ∈ routes) (harea : Spec.areaOf rt.path = .api) (segs : List String) (c : OpCall)
    (hc : c ∈ serverCalls testbed (.ok id role) rt segs) :
    match Spec.required c.op with
    | .onCa alts =>
      match c.target with
      | .seg i => ∃ p ∈ alts, ∃ h, segs[i]? = some h ∧ role.isAllowed p (some h) = true
      | .taHandle => role.isAllowed Spec.taPermission none = true
      | .listed => ∃ p ∈ alts, rt.filter = some (p, .listed)
      | _ => False
    | .general alts => ∃ p ∈ alts, role.isAllowed p none = true
    | .listing p => rt.filter = some (p, .listed)
    | .free => True := by
  obtain ⟨hc, hpass⟩ := served_passes hc
  have hsat := every_op_gated rt hrt harea c hc
  unfold satisfied at hsat
  have pass_none : ∀ p, (p, Res.none) ∈ rt.gates → role.isAllowed p none = true := by
    intro p hm
    obtain ⟨_, ⟨⟩, hal⟩ := hpass p .none hm
    exact hal
  cases hreq : Spec.required c.op with
  | onCa alts =>
    simp only [hreq] at hsat ⊢
    cases htgt : c.target with
    | seg i =>
      simp only [htgt, List.any_eq_true, List.contains_iff_mem] at hsat ⊢
      obtain ⟨p, hp, hm⟩ := hsat
      obtain ⟨res, hres, hal⟩ := hpass p (.seg i) hm
      obtain ⟨h, hh, rfl⟩ := Option.map_eq_some_iff.mp hres
      exact ⟨p, hp, h, hh, hal⟩
    | taHandle =>
      simp only [htgt, List.contains_iff_mem] at hsat ⊢
      exact pass_none _ hsat
    | listed =>
      simp only [htgt, List.any_eq_true, beq_iff_eq] at hsat ⊢
      exact hsat
    | testbedCa => simp [htgt] at hsat
    | other => simp [htgt] at hsat
  | general alts =>
    simp only [hreq, List.any_eq_true, List.contains_iff_mem] at hsat ⊢
    obtain ⟨p, hp, hm⟩ := hsat
    exact ⟨p, hp, pass_none p hm⟩
  | listing p =>
    simp only [hreq, beq_iff_eq] at hsat ⊢
    exact hsat
  | free => trivial

/-- Every row under `/api/v1` that does anything but answer 405 carries the `login` gate without
resource. -/
theorem api_v1_needs_login :
    ∀ rt ∈ routes, Spec.areaOf rt.path = .api → rt.fin ≠ .methodNotAllowed →
      (Permission.Login, Res.none) ∈ rt.gates := by
  intro rt hrt
  exact (routes_checked rt hrt).login

/-- Hence: whatever is served (or answered 404 by the dispatch tree) under `/api/v1` is served to
callers whose role grants `login` as a general permission, and to nobody without an identity. -/
theorem api_v1_needs_login_sem (testbed : Bool) (a : AuthRes) (rt : Route) (hrt : rt ∈ routes)
    (harea : Spec.areaOf rt.path = .api) (segs : List String)
    (h : respond testbed a rt segs = .served ∨ respond testbed a rt segs = .notFound)
    (htb : rt.testbedOnly = true → testbed = true) :
    ∃ id role, a = .ok id role ∧ role.isAllowed .Login none = true := by
  rcases respond_cases testbed a rt segs with ⟨h1, h2, _⟩ | ⟨_, ⟨hall, he⟩ | ⟨_, he⟩⟩
  · exact nomatch h2.symm.trans (htb h1)
  · -- every gate was passed, and the row does not end in 405: the login gate is among them
    rw [he] at h
    have hfin : rt.fin ≠ .methodNotAllowed := fun hf => by
      rw [hf] at h
      rcases h with h | h <;> cases h
    obtain ⟨id, role, _, rfl, ⟨⟩, hal⟩ :=
      (gate_none_iff a segs _).mp (hall _ (api_v1_needs_login rt hrt harea hfin))
    exact ⟨id, role, rfl, hal⟩
  · -- a refusal is neither `served` nor `notFound`
    rcases h with h | h <;> rcases he with he | he <;> cases h.symm.trans he

theorem unchecked_only_public :
    (∀ rt ∈ routes, ungatedIsPublic rt = true) ∧
    (∀ rt ∈ routes, uncheckedIsHarmless rt = true) ∧
    (∀ rt ∈ routes, publicIsUngated rt = true) :=
  ⟨fun rt hrt => (routes_checked rt hrt).ungated, fun rt hrt => (routes_checked rt hrt).unchecked,
    fun rt hrt => (routes_checked rt hrt).open_⟩

/-- What that means for a caller without credentials (or with credentials that failed): a request
is handed to a handler iff the row has no gate at all – and those rows are exactly the public
endpoints of the specification. -/
theorem unchecked_only_public_sem (testbed : Bool) (a : AuthRes) (ha : a.isOk = false) (rt : Route)
    (hrt : rt ∈ routes) (segs : List String) :
    respond testbed a rt segs = .served ↔
      (rt.testbedOnly = true → testbed = true) ∧ rt.fin.runs = true ∧ rt.gates = [] ∧
      Spec.mayBePublic (Spec.areaOf rt.path) rt.testbedOnly = true := by
  rw [served_iff]
  constructor
  · intro ⟨h1, h2, h3⟩
    have hnil : rt.gates = [] := List.eq_nil_iff_forall_not_mem.mpr fun g hm =>
      gate_unauthenticated a ha segs g (h3 g hm)
    have := (routes_checked rt hrt).ungated
    simp only [ungatedIsPublic, h2, hnil, List.isEmpty_nil, Bool.and_self, Bool.not_true,
      Bool.false_or, Bool.and_eq_true] at this
    exact ⟨h1, h2, hnil, this.1.1⟩
  · intro ⟨h1, h2, h3, _⟩
    exact ⟨h1, h2, by simp [h3]⟩

/-! ## `decision_iff`: the daemon's decision is `requires(row) ⊆ permissions(role, ca)` -/

/-- What row `rt` requires of a request with path segments `segs`: for every gate on the dispatch
path the permission and the resource it is asked for (`none` if the segment does not exist). -/
def requires (rt : Route) (segs : List String) : List (Permission × Option (Option Handle)) :=
  rt.gates.map fun g => (g.1, resolve segs g.2)

/-- Every gate of the row lets the caller pass iff what the row requires lies within the permissions of the caller's
role (a row without gates asks for no identity). -/
theorem gates_pass_iff (a : AuthRes) (rt : Route) (segs : List String) :
    (∀ g ∈ rt.gates, gate a segs g = none) ↔
      (rt.gates = [] ∨ ∃ id role, a = .ok id role ∧
        ∀ q ∈ requires rt segs, ∃ res, q.2 = some res ∧ q.1 ∈ role.perms res) := by
  constructor
  · intro hall
    cases hg : rt.gates with
    | nil => exact Or.inl rfl
    | cons g gs =>
      obtain ⟨id, role, _, rfl, _⟩ := (gate_none_iff a segs g).mp (hall g (hg ▸ List.mem_cons_self))
      refine Or.inr ⟨id, role, rfl, fun q hq => ?_⟩
      obtain ⟨g', hg', rfl⟩ := List.mem_map.mp hq
      obtain ⟨_, _, res, ⟨⟩, hres, hal⟩ := (gate_none_iff _ segs g').mp (hall g' (hg ▸ hg'))
      exact ⟨res, hres, (isAllowed_iff_mem_perms role g'.1 res).mp hal⟩
  · rintro (h | ⟨id, role, rfl, hq⟩) g hgm
    · rw [h] at hgm
      cases hgm
    · obtain ⟨res, hres, hmem⟩ := hq _ (List.mem_map.mpr ⟨g, hgm, rfl⟩)
      exact (gate_none_iff _ segs g).mpr ⟨id, role, res, rfl, hres, (isAllowed_iff_mem_perms role g.1 res).mpr hmem⟩

/-- **The decision for every request.**  For every row of the generated table (every path pattern and
method), every testbed setting, every authentication result `a` of the request's credentials (an
identity with an *arbitrary* role – any three permission sets and any per-CA entries, which
includes the config-file forms `Role.ofConf` –, no identity, or an authentication error) and every
instantiation `segs` of the path:

* the handler runs **iff** the row ends in a handler, testbed mode allows the row, and every
  required (permission, resource) pair lies in `permissions(role, resource)` of the caller's role –
  a row without requirements needs no identity, a row with requirements is never served without one;
* if the handler does not run, no server operation is reached, and the answer is 401/403 exactly when
  some requirement is not met (else 404/405 from the dispatch tree);
* what a listing row shows is filtered item by item: a CA is shown iff the role's permissions *for
  that CA* contain the filter's permission. -/
theorem decision_iff (testbed : Bool) (a : AuthRes) (rt : Route) (hrt : rt ∈ routes)
    (segs : List String) :
    (respond testbed a rt segs = .served ↔
      (rt.testbedOnly = true → testbed = true) ∧ rt.fin.runs = true ∧
      (rt.gates = [] ∨ ∃ id role, a = .ok id role ∧
        ∀ q ∈ requires rt segs, ∃ res, q.2 = some res ∧ q.1 ∈ role.perms res)) ∧
    (respond testbed a rt segs ≠ .served → serverCalls testbed a rt segs = []) ∧
    ((rt.testbedOnly = true → testbed = true) →
      ((respond testbed a rt segs = .unauthorized ∨ respond testbed a rt segs = .forbidden) ↔
        ¬ (rt.gates = [] ∨ ∃ id role, a = .ok id role ∧
          ∀ q ∈ requires rt segs, ∃ res, q.2 = some res ∧ q.1 ∈ role.perms res))) ∧
    (∀ (all : List Handle) (h : Handle), h ∈ listingShown a rt all ↔
      h ∈ all ∧ ∀ p, rt.filter = some (p, .listed) →
        ∃ id role, a = .ok id role ∧ p ∈ role.perms (some h)) := by
  refine ⟨?_, not_served_no_calls testbed a rt segs, fun htb => ?_, fun all h => ?_⟩
  · rw [served_iff, gates_pass_iff]
  · rw [refused_iff testbed a rt segs htb, ← gates_pass_iff]
    simp only [Classical.not_forall, exists_prop]
  · -- the filter of a table row is absent or on the listed handle
    have hres := (routes_checked rt hrt).resolvable
    simp only [rowResolvable, Bool.and_eq_true] at hres
    cases hf : rt.filter with
    | none => simp [listingShown, hf]
    | some f =>
      obtain ⟨p, r⟩ := f
      obtain rfl : r = .listed := by simpa [hf] using hres.2
      rw [mem_listingShown a rt all h p hf]
      simp only [Option.some.injEq, Prod.mk.injEq, and_true, forall_eq', isAllowed_iff_mem_perms]

/-- The testbed self-service rows exist only in testbed mode: with testbed mode off every one of
them answers 404, whoever asks. -/
theorem testbed_only_when_enabled (a : AuthRes) (rt : Route) (segs : List String)
    (h : rt.testbedOnly = true) : respond false a rt segs = .notFound := by
  simp [respond, h]

/-- `Role::is_allowed`: a per-CA grant overrides the blanket grant – in both directions: an entry
for the CA decides alone, whether it grants more or less than the blanket set; a CA without entry
uses the blanket set; a request that is not about a CA uses the general set.  The shape found in the
source (`isAllowedConsults`) is this one, and the constructors `simple` / `with_resources` are as
modelled. -/
theorem role_semantics :
    (∀ (r : Role) (p : Permission) (h : Handle) (s : PermSet), r.entry h = some s →
        r.isAllowed p (some h) = has s p) ∧
    (∀ (r : Role) (p : Permission) (h : Handle), r.entry h = none →
        r.isAllowed p (some h) = has r.any p) ∧
    (∀ (r : Role) (p : Permission), r.isAllowed p none = has r.none p) ∧
    (isAllowedConsults true true = .specific ∧ isAllowedConsults true false = .any ∧
      isAllowedConsults false true = .none ∧ isAllowedConsults false false = .none) ∧
    (roleSimple = ⟨.arg, .arg, .empty⟩ ∧ roleWithResources = ⟨.arg, .empty, .arg⟩ ∧
      roleConfRecognised = true) := by
  refine ⟨?_, ?_, ?_, by decide, by decide⟩
  · intro r p h s hs; simp [Role.isAllowed, hs]
  · intro r p h hs; simp [Role.isAllowed, hs]
  · intro r p; simp [Role.isAllowed]

/-- The two role forms of the configuration file. -/
theorem role_conf_semantics (s : PermSet) (p : Permission) :
    (∀ res, (Role.ofConf s none).isAllowed p res = has s p) ∧
    (∀ cas, (Role.ofConf s (some cas)).isAllowed p none = has s p) ∧
    (∀ cas h, (Role.ofConf s (some cas)).isAllowed p (some h) = (cas.contains h && has s p)) := by
  refine ⟨?_, ?_, ?_⟩
  · exact isAllowed_simple s p
  · intro cas; simp [Role.ofConf, Role.withResources, Role.isAllowed]
  · intro cas h
    simp only [Role.ofConf, Role.withResources, Role.isAllowed, Role.entry]
    induction cas with
    | nil => simp [has]
    | cons c cs ih =>
      simp only [List.map_cons, List.lookup_cons, List.contains_cons]
      by_cases hc : h = c
      · subst hc; simp
      · have : (h == c) = false := by simp [hc]
        rw [this]
        simpa using ih

/-- Every row that enumerates CAs filters them by `ca-read` on each handle. -/
theorem listing_filtered :
    ∀ rt ∈ routes, (∃ c ∈ rt.ops, c.op = .ca_handles) → rt.filter = some (.CaRead, .listed) :=
  fun rt hrt => (routes_checked rt hrt).listing

/-- A listing shows a caller exactly the CAs its role may read (per-CA entry first, else the
blanket grant). -/
theorem listing_filtered_sem (id : String) (role : Role) (rt : Route) (p : Permission)
    (hf : rt.filter = some (p, .listed)) (all : List Handle) (h : Handle) :
    h ∈ listingShown (.ok id role) rt all ↔ h ∈ all ∧ role.isAllowed p (some h) = true := by
  rw [mem_listingShown _ rt all h p hf]
  exact and_congr_right' ⟨fun ⟨_, _, ha, hal⟩ => by cases ha; exact hal, fun hal => ⟨id, role, rfl, hal⟩⟩

/-- Without an identity a listing shows nothing. -/
theorem listing_anonymous (a : AuthRes) (ha : a.isOk = false) (rt : Route) (p : Permission)
    (hf : rt.filter = some (p, .listed)) (all : List Handle) :
    listingShown a rt all = [] := by
  refine List.eq_nil_iff_forall_not_mem.mpr fun h hm => ?_
  obtain ⟨_, id, role, rfl, _⟩ := (mem_listingShown a rt all h p hf).mp hm
  cases ha

def subset (a b : PermSet) : Bool := a.all fun p => b.contains p

/-- The built-in permission sets as they are in the source: `ANY` is every permission, admin ⊇
read-write ⊇ read-only, the read-only set contains no permission that changes anything, the
read-write set lacks the administrative permissions; the default role names map to these roles and
the admin token carries the admin role. -/
theorem builtin_roles :
    subset Permission.all (permSet .ANY) = true ∧
    permSet .NONE = [] ∧
    subset (permSet .READWRITE) (permSet .ANY) = true ∧
    subset (permSet .READONLY) (permSet .READWRITE) = true ∧
    (permSet .READONLY).all (fun p => !Spec.mutating p) = true ∧
    (permSet .READONLY).contains .Login = true ∧
    (permSet .CONF_READ).all (fun p => !Spec.mutating p) = true ∧
    subset (permSet .CONF_READ) (permSet .READONLY) = true ∧
    subset (permSet .CONF_UPDATE) (permSet .READWRITE) = true ∧
    ([Permission.CaAdmin, .PubAdmin, .CaDelete].all fun p => !(permSet .READWRITE).contains p) = true ∧
    builtinRoleSet .admin = .ANY ∧ builtinRoleSet .readwrite = .READWRITE ∧
    builtinRoleSet .readonly = .READONLY ∧ builtinRoleSet .anonymous = .NONE ∧
    defaultAuthRoles = [("admin", some .admin), ("readwrite", some .readwrite), ("readonly", some .readonly)] ∧
    adminTokenRole = some .admin := by
  decide +kernel

/-- The admin role passes every gate: whoever holds it is served every row that runs a handler. -/
theorem admin_allowed_everything (p : Permission) (res : Option Handle) :
    Role.admin.isAllowed p res = true := by
  rw [Role.admin, Role.builtin, isAllowed_simple]
  cases p <;> decide

/-! ## `wrong_credentials_refused`: the quantifier "wrong credentials" -/

/-- **Callers with wrong credentials.**  For every configuration (either provider as the primary
one), every reachable session state, and **every** bearer string `w` that is not a genuine
credential (`KM.Http.Genuine`: the admin token verbatim, or a session sealed under this instance's
key – so `w` may be *any* other string: unrelated, or a proper prefix, an extension, a re-cased or
one-character-off copy of the admin token or of a session token):

* the request is authenticated exactly like the same request without an `Authorization` header
  (a wrong credential is never worth more than none: on the Unix socket of a mapped peer both act as
  the peer, everywhere else both act as nobody);
* where that is nobody (TCP, or a socket peer that is not mapped), every row with a permission gate
  answers 401/403 and reaches no server operation – whatever the row, the method and the path. -/
theorem wrong_credentials_refused (cfg : Config) (st : SessState) (hs : CacheSound cfg.key st)
    (w : Wire) (hw : ¬ Genuine cfg w) (t : Transport) :
    (authenticate cfg st (.bearer w) t).1 = (authenticate cfg st .absent t).1 ∧
    ((unixProvider cfg t).isOk = false →
      ∀ (rt : Route) (segs : List String), rt.gates ≠ [] →
        (rt.testbedOnly = true → cfg.testbed = true) →
        (respond cfg.testbed (authenticate cfg st (.bearer w) t).1 rt segs = .unauthorized ∨
          respond cfg.testbed (authenticate cfg st (.bearer w) t).1 rt segs = .forbidden) ∧
        serverCalls cfg.testbed (authenticate cfg st (.bearer w) t).1 rt segs = []) := by
  have h1 := not_genuine_as_absent cfg st hs w hw t
  refine ⟨by rw [h1, authenticate_absent], ?_⟩
  intro hno rt segs hg htb
  rw [h1]
  exact unauthenticated_refused cfg.testbed _ hno rt segs hg htb

/-- Which strings are genuine is decided by the whole string: in particular no proper prefix and no
extension of the admin token is (the comparison is generated from admin_token.rs:
`adminTokenCompare = .equal`). -/
theorem near_admin_token_not_genuine (cfg : Config) (s : String) (hs : s ≠ cfg.adminToken) :
    adminTokenCompare = .equal ∧ ¬ Genuine cfg (.text s) :=
  ⟨by decide, not_genuine_of_not_sealed (fun h => hs (Wire.text.inj h)) fun _ _ => Wire.noConfusion⟩

/-! ## Non-vacuity -/

/-- The row for a path pattern and method. -/
def findRoute (path : List Seg) (m : Method) : Option Route :=
  routes.find? fun rt => rt.path == path && rt.method == m

/-- A role with the blanket grant `ca-read` + `ca-update` whose entry for `ca1` is empty, and which
grants `ca-delete` only on `ca2`. -/
def exRole : Role :=
  ⟨[.Login, .CaCreate], [.CaRead, .CaUpdate], [("ca1", []), ("ca2", [.CaRead, .CaDelete])]⟩

/-- `GET /api/v1/cas/{ca}`: per-CA denial overrides the blanket grant (`ca1`), the blanket grant
serves other CAs (`ca3`), `DELETE` is served on `ca2` only; without `login` nothing is served; an
authentication error answers 401; the operations reached are the row's. -/
example :
    ((findRoute [.lit .l_api, .lit .l_v1, .lit .l_cas, .param] .GET).any fun g =>
      (findRoute [.lit .l_api, .lit .l_v1, .lit .l_cas, .param] .DELETE).any fun d =>
        respond false (.ok "u" exRole) g ["api", "v1", "cas", "ca1"] == .forbidden &&
        respond false (.ok "u" exRole) g ["api", "v1", "cas", "ca3"] == .served &&
        respond false (.ok "u" exRole) d ["api", "v1", "cas", "ca2"] == .served &&
        respond false (.ok "u" exRole) d ["api", "v1", "cas", "ca3"] == .forbidden &&
        respond false (.ok "u" { exRole with none := [.CaCreate] }) g ["api", "v1", "cas", "ca3"] == .forbidden &&
        respond false .err g ["api", "v1", "cas", "ca3"] == .unauthorized &&
        respond false .none g ["api", "v1", "cas", "ca3"] == .forbidden &&
        (serverCalls false (.ok "u" exRole) d ["api", "v1", "cas", "ca2"]).map (·.op) == [.ca_delete] &&
        (serverCalls false (.ok "u" exRole) d ["api", "v1", "cas", "ca3"]).isEmpty) = true := by
  decide +kernel

/-- Public rows exist and are served to a caller without credentials; the testbed rows only in
testbed mode. -/
example :
    ((findRoute [.lit .l_health] .GET).any fun h =>
      (findRoute [.lit .l_testbed, .lit .l_enabled] .GET).any fun t =>
        respond false .none h ["health"] == .served &&
        respond true .none t ["testbed", "enabled"] == .served &&
        respond false .none t ["testbed", "enabled"] == .notFound) = true := by
  decide +kernel

/-- The listing rows exist; `exRole` sees `ca2` and `ca3` but not `ca1`. -/
example :
    ((findRoute [.lit .l_api, .lit .l_v1, .lit .l_cas] .GET).any fun l =>
      listingShown (.ok "u" exRole) l ["ca1", "ca2", "ca3"] == ["ca2", "ca3"]) = true := by
  decide +kernel

/-- There are rows of the versioned API with operations (the hypotheses of `every_op_gated` are
met by many rows). -/
example : (routes.filter fun rt => Spec.areaOf rt.path == .api && !rt.ops.isEmpty).length ≥ 60 := by
  decide +kernel

/-- `decision_iff` in action: the requirements of `DELETE /api/v1/cas/ca2` are
`[(login, none), (ca-read, ca2), (ca-delete, ca2)]`, all within `exRole`'s permissions (general set /
the entry of `ca2`); for `ca3` (no entry: blanket set) `ca-delete` is missing; the config-file role
`{permissions, cas = [ca2]}` may read `ca2` but nothing of `ca3`. -/
example :
    ((findRoute [.lit .l_api, .lit .l_v1, .lit .l_cas, .param] .DELETE).any fun d =>
      (findRoute [.lit .l_api, .lit .l_v1, .lit .l_cas, .param] .GET).any fun g =>
        requires d ["api", "v1", "cas", "ca2"] ==
          [(.Login, some none), (.CaRead, some (some "ca2")), (.CaDelete, some (some "ca2"))] &&
        (requires d ["api", "v1", "cas", "ca2"]).all (fun q =>
          match q.2 with
          | some res => (exRole.perms res).contains q.1
          | none => false) &&
        !(exRole.perms (some "ca3")).contains .CaDelete &&
        respond false (.ok "u" (Role.ofConf [.Login, .CaRead] (some ["ca2"]))) g ["api", "v1", "cas", "ca2"] == .served &&
        respond false (.ok "u" (Role.ofConf [.Login, .CaRead] (some ["ca2"]))) g ["api", "v1", "cas", "ca3"] == .forbidden &&
        respond false (.ok "u" (Role.ofConf [.Login, .CaRead] none)) g ["api", "v1", "cas", "ca3"] == .served) = true := by
  decide +kernel

/-- `wrong_credentials_refused` is not vacuous: with admin token `secret`, the strings `s`, `secre`,
`secret2`, `Secret` and `secret and then some` are not genuine (and `secret` is); over TCP they are
refused on the state-changing row `POST /api/v1/cas`, under either provider configuration. -/
example :
    let cfgOf : AuthType → Config := fun ty =>
      { authType := ty, adminToken := "secret", users := [], roles := [], unixUsers := [], key := 7,
        testbed := false }
    (∀ ty, Genuine (cfgOf ty) (.text "secret")) ∧
    (∀ ty, ∀ s ∈ ["s", "secre", "secret2", "Secret", "secret and then some"],
      ¬ Genuine (cfgOf ty) (.text s)) ∧
    ((findRoute [.lit .l_api, .lit .l_v1, .lit .l_cas] .POST).any fun p =>
      [AuthType.adminToken, .configFile].all fun ty =>
        ["s", "secre", "secret2", "Secret", "secret and then some"].all fun s =>
          respond false (authenticate (cfgOf ty) {} (.bearer (.text s)) .tcp).1 p ["api", "v1", "cas"]
            != .served &&
          respond false (authenticate (cfgOf ty) {} (.bearer (.text "secret")) .tcp).1 p
            ["api", "v1", "cas"] == .served) = true := by
  refine ⟨fun ty => Or.inl rfl, ?_, by decide +kernel⟩
  intro ty s hs
  apply (near_admin_token_not_genuine _ s _).2
  simp only [List.mem_cons, List.mem_nil_iff, or_false] at hs
  rcases hs with rfl | rfl | rfl | rfl | rfl <;> show _ ≠ "secret" <;> decide

end KM.Props.C13
