/-
C12 (source tie) — the hand-written model of the RFC 6492 entry point (`KM.Proto.rfc6492`,
Proto/Cms.lean) equals what the translator `pure_fns` regenerates on every run from the two Rust
functions that make the decision "for whom, under which key" (the RFC 8181 entry point and
`RepositoryManager::rfc8181` likewise: second half of the file):

* `CaManager::rfc6492` (`/repo/src/server/ca/manager.rs`): the TA takes no remote requests; the CA is
  the one NAMED IN THE REQUEST URI; the message is validated against THAT CA's child table; it is
  processed for THAT CA; the reply is signed with THAT CA's identity key;
* `CertAuth::verify_rfc6492` (`/repo/src/server/ca/certauth.rs`): the child is looked up under the
  sender handle inside the message, the CMS signature is checked against the identity key
  registered for that child, and only then is the content handed on.

`acts_only_for_registered_key`, `refused_no_change`, `reply_signed_by_current_id` (Props/C12.lean) are
about `rfc6492`.  With `gen_rfc6492_eq_model` the order and the operands of these steps are tied to
the Rust statements: processing for the CA named as *recipient* instead of the addressed one (the
round-4 seeded change), validating against another CA's child table, skipping `validate`, handing the
message on before the check, signing with another key – each such edit changes a generated
definition and this file stops checking.

Instantiation.  Errors carry the state the model returns with a refusal (`ε = Ca × Refusal`);
`get_ca` is the addressed CA (an unknown CA is refused before); `validate ca` is decoding followed by
the GENERATED `verify_rfc6492` over this CA's child table; `process` is the model's `processRequest`
for the child record of the sender; `sign` puts the addressed CA's identity key on the reply; the CMS
logger never fails.
-/
import KrillModel.Generated.PureFnsC12
import KrillModel.Proto.Cms
namespace KM.Props.C12Src
open KM.Proto

abbrev Err := Ca × Refusal

section
variable {Bytes : Type} (decode : Bytes → Option (Signed Msg)) (ca : Ca) (bytes : Bytes)

/-- `rfc6492_validate_request`: decode, then the generated `verify_rfc6492`. -/
def genValidate (ca' : Ca) : Except Err (Signed Msg) :=
  match decode bytes with
  | none => .error (ca', .undecodable)
  | some sg =>
    KM.Gen.C12.CertAuth.verify_rfc6492 (H := Handle) (C := ChildRec) (M := Signed Msg) (ε := Err)
      sg.body.sender
      (fun h => match lookup ca'.children h with
        | some c => .ok c
        | none => .error (ca', .unknownSender))
      (fun c => if sg.signer == c.idKey && sg.fresh then .ok () else .error (ca', .badSignature))
      sg id

/-- `rfc6492_process_request` for the CA with that handle: the model's `processRequest`, the reply
addressed to the sender in the name of that CA. -/
def genProcess (h : Handle) (sg : Signed Msg) : Except Err (Ca × Msg) :=
  match lookup ca.children sg.body.sender with
  | none => .error (ca, .unknownSender)
  | some c =>
    match processRequest ca sg.body.sender c sg.body.payload with
    | (ca2, none) => .error (ca2, .processing)
    | (ca2, some p) => .ok (ca2, { sender := h, recipient := sg.body.sender, payload := p })

/-- The generated entry point with the model plugged in. -/
def genRfc6492 : Except Err (Ca × Signed Msg) :=
  KM.Gen.C12.CaManager.rfc6492 (H := Handle) (CA := Ca) (Q := Signed Msg) (M := Ca × Msg) (B := Ca × Signed Msg)
    (ε := Err)
    ca.handle "ta" (ca, .taNotRemote) (fun _ => .ok ca) (genValidate decode bytes)
    (genProcess ca) (fun m => m.2.payload matches .listResponse _)
    (fun ca' m => .ok (m.1, { signer := ca'.idKey, body := m.2 }))
    (.ok ()) (fun _ => .ok ()) (fun _ => .ok ())

/-- The model's answer in the same form. -/
def modelRfc6492 : Except Err (Ca × Signed Msg) :=
  match rfc6492 decode ca bytes with
  | (ca', .refused k) => .error (ca', k)
  | (ca', .replied m) => .ok (ca', m)

/-- `CaManager::rfc6492` + `CertAuth::verify_rfc6492` as translated from the source = the model the
C12 theorems are about, for every CA state, every decoder and every byte string. -/
theorem gen_rfc6492_eq_model : genRfc6492 decode ca bytes = modelRfc6492 decode ca bytes := by
  unfold genRfc6492 modelRfc6492 KM.Gen.C12.CaManager.rfc6492 rfc6492
  by_cases hta : ca.handle = "ta"
  · rw [if_pos hta, if_pos hta]
  · rw [if_neg hta, if_neg hta]
    unfold genValidate
    cases decode bytes with
    | none => rfl
    | some sg =>
      dsimp only [KM.Gen.C12.CertAuth.verify_rfc6492]
      cases hl : lookup ca.children sg.body.sender with
      | none => rfl
      | some c =>
        cases hv : (sg.signer == c.idKey && sg.fresh) with
        | false => simp only [Except.mapError, hv, Bool.false_eq_true, if_false, id_eq, Bool.not_false, if_true]
        | true =>
          simp only [Except.mapError, hv, if_true, Bool.not_true, Bool.false_eq_true, if_false, genProcess, hl]
          cases processRequest ca sg.body.sender c sg.body.payload with
          | mk ca2 o =>
            cases o with
            | none => rfl
            | some p => cases p <;> rfl

end
/-! ## `RepositoryManager::rfc8181` (the publication twin)

The generated entry point (`KM.Gen.C12.RepositoryManager.rfc8181`: validate for the publisher NAMED IN THE URL, take the
query, process it for THAT publisher, turn a processing error into an error REPLY, sign, log) with the model's parts
plugged in is the model's `rfc8181` the 8181 twins of the C12 theorems are about (`acts_only_for_registered_key_8181`,
`refused_no_change_8181`, `reply_signed_by_current_id_8181`).  An edit of the entry point - the query processed for another
publisher than the validated one, a failed validation that goes on, an error returned instead of replied, the reply signed
before the error is mapped - changes the generated definition and the equality stops checking. -/

section
variable {Bytes : Type} (decode : Bytes → Option (Signed PMsg)) (srv : Server) (publisher : Handle) (bytes : Bytes)

/-- errors: the server state, the kind of refusal and (for a processing error that becomes an error reply) its code -/
abbrev Err8 := Server × Refusal × String

/-- `RepositoryAccessProxy::decode_and_validate` for the publisher of the URL. -/
def genValidate8 (h : Handle) : Except Err8 (Signed PMsg) :=
  match lookup srv.publishers h with
  | none => .error (srv, .unknownSender, "")
  | some p =>
    match decode bytes with
    | none => .error (srv, .undecodable, "")
    | some sg => if sg.signer == p.idKey && sg.fresh then .ok sg else .error (srv, .badSignature, "")

def genAsQuery (m : Server × PMsg) : Except Err8 PMsg :=
  match m.2 with
  | .listQuery => .ok .listQuery
  | .delta els => .ok (.delta els)
  | _ => .error (srv, .processing, "")

/-- `rfc8181_message`: list / publish for the publisher with that handle. -/
def genProcess8 (h : Handle) (q : PMsg) : Except Err8 (Server × PMsg) :=
  match lookup srv.publishers h with
  | none => .error (srv, .unknownSender, "")
  | some p =>
    match q with
    | .listQuery => .ok (srv, .listReply p.files)
    | .delta els =>
      match els.findSome? (elemError p) with
      | some code => .error (srv, .processing, code)
      | none =>
        .ok ({ srv with publishers := update srv.publishers h (fun _ => { p with files := els.foldl applyElem p.files }) }, .success)
    | _ => .error (srv, .processing, "")

/-- The generated entry point with the model plugged in. -/
def genRfc8181 : Except Err8 (Server × Signed PMsg) :=
  KM.Gen.C12.RepositoryManager.rfc8181 (H := Handle) (CMS := Signed PMsg) (MSG := Server × PMsg) (Q := PMsg)
    (B := Server × Signed PMsg) (ε := Err8)
    publisher (genValidate8 decode srv bytes) (fun sg => (srv, sg.body)) (genAsQuery srv)
    (fun q => q == .listQuery) (genProcess8 srv) (fun e => (e.1, .errorReply e.2.2))
    (fun m => .ok (m.1, { signer := srv.idKey, body := m.2 })) id (.ok ()) (fun _ => .ok ())

/-- The model's answer in the same form. -/
def modelRfc8181 : Except Err8 (Server × Signed PMsg) :=
  match rfc8181 decode srv publisher bytes with
  | (s, .refused k) => .error (s, k, "")
  | (s, .replied m) => .ok (s, m)

/-- `RepositoryManager::rfc8181` as translated from the source = the model, for every server state, decoder, publisher
handle and byte string. -/
theorem gen_rfc8181_eq_model : genRfc8181 decode srv publisher bytes = modelRfc8181 decode srv publisher bytes := by
  unfold genRfc8181 modelRfc8181 KM.Gen.C12.RepositoryManager.rfc8181 rfc8181 genValidate8
  cases hl : lookup srv.publishers publisher with
  | none => rfl
  | some p =>
    cases decode bytes with
    | none => rfl
    | some sg =>
      cases hv : (sg.signer == p.idKey && sg.fresh) with
      | false => simp only [Except.mapError, hv, Bool.false_eq_true, if_false, id_eq, Bool.not_false, if_true]
      | true =>
        simp only [Except.mapError, hv, if_true, id_eq, Bool.not_true, Bool.false_eq_true, if_false]
        cases sg.body with
        | delta els =>
          simp only [genAsQuery, genProcess8, hl]
          cases els.findSome? (elemError p) <;> rfl
        | listQuery =>
          simp only [genAsQuery, genProcess8, hl]
          rfl
        | _ => rfl

end
end KM.Props.C12Src
