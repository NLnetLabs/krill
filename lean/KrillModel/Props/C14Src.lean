/-
C14 (source tie) — the hand-written models of the "is re-issuance due" tests
(`KeyObjectSet.requiresReissuance`, `ClassObjects.requiresReissuance`, Ca/Objects.lean) equal the
definitions that the translator `pure_fns` regenerates from `/repo/src/server/ca/publishing.rs` on
every run (`Generated/PureFnsC14.lean`: `KM.Gen.C14.KeyObjectSet.requires_reissuance`,
`KM.Gen.C14.ResourceClassObjects.requires_re_issuance`).

`due_is_reissued`, `nothing_due_nothing_changes` (Props/C14.lean) are about the model's tests.  With
the first two theorems below these are tied to the Rust bodies (the third tie, `ObjectSetRevision::next`, is
described where it stands): `>` vs `>=`, `-` vs `+` of the margin,
which set of a key state is consulted, `||` vs `&&` – each such edit changes the generated definition
and this file stops checking.

Differences that do not matter, bridged here:
* the model counts times and the margin in `Nat` (seconds since the epoch / hours ≥ 0) and tests
  `now + hours·3600 > next_update`; the Rust code computes `now > next_update - hours` on signed
  values, generated over `Int`.  The statement casts the model's naturals into `Int`; on them the
  two tests agree (no truncated subtraction is involved on the model side).  Negative `hours` (i64)
  are outside the model: the configuration value is unsigned.
* the generated `ResourceClassKeyState` has no payload; `shape` forgets the sets of the model's
  `ClassObjects`, the sets are passed separately.  Each arm reads only sets its variant has; for the
  absent ones the statement quantifies over an arbitrary default `d`.
-/
import KrillModel.Generated.PureFnsC14
import KrillModel.Ca.Objects
namespace KM.Props.C14Src
open KM.Ca.Pub

/-- `KeyObjectSet::requires_reissuance`: generated definition (over `Int`) = model (over `Nat`),
for every set, every clock value and every margin. -/
theorem gen_requires_reissuance_eq_model (s : KeyObjectSet) (now hours : Nat) :
    KM.Gen.C14.KeyObjectSet.requires_reissuance (now : Int) (s.revision.nextUpdate : Int) (hours : Int) =
      s.requiresReissuance now hours := by
  unfold KM.Gen.C14.KeyObjectSet.requires_reissuance KeyObjectSet.requiresReissuance
  rw [decide_eq_decide]
  omega

/-- Model key state ↦ Rust variant. -/
def shape : ClassObjects → KM.Gen.C14.ResourceClassKeyState
  | .current _ => .Current
  | .staging _ _ => .Staging
  | .old _ _ => .Old

def stagingSet (d : KeyObjectSet) : ClassObjects → KeyObjectSet
  | .staging s _ => s
  | _ => d

def oldSet (d : KeyObjectSet) : ClassObjects → KeyObjectSet
  | .old _ o => o
  | _ => d

/-- The generated class-level test over any set-level test that agrees with the model's is the model's class-level
test.  (The set-level test is a variable here: next to its unfolded form the kernel would evaluate it as far as
integer comparison goes.) -/
theorem gen_class_test_eq_model (due : KeyObjectSet → Int → Bool) (now hours : Nat)
    (hd : ∀ s : KeyObjectSet, due s hours = s.requiresReissuance now hours) (co : ClassObjects) (d : KeyObjectSet) :
    KM.Gen.C14.ResourceClassObjects.requires_re_issuance due (shape co) co.cur (oldSet d co) (stagingSet d co) hours =
      co.requiresReissuance now hours := by
  cases co with
  | current c => exact hd c
  | staging s c => exact congr (congrArg or (hd s)) (hd c)
  | old c o => exact congr (congrArg or (hd o)) (hd c)

/-- `ResourceClassObjects::requires_re_issuance`: generated definition, with the generated
set-level test as `due`, = model, for every key state, clock value and margin. -/
theorem gen_requires_re_issuance_eq_model (co : ClassObjects) (now hours : Nat) (d : KeyObjectSet) :
    KM.Gen.C14.ResourceClassObjects.requires_re_issuance
        (fun (s : KeyObjectSet) (h : Int) =>
          KM.Gen.C14.KeyObjectSet.requires_reissuance (now : Int) (s.revision.nextUpdate : Int) h)
        (shape co) co.cur (oldSet d co) (stagingSet d co) (hours : Int) =
      co.requiresReissuance now hours :=
  gen_class_test_eq_model _ now hours (fun s => gen_requires_reissuance_eq_model s now hours) co d

/-- Non-vacuity: both answers occur, and the boundary is strict (`now = next_update - margin` is
not yet due). -/
example :
    KM.Gen.C14.KeyObjectSet.requires_reissuance 100 (100 + 7200) 2 = false ∧
    KM.Gen.C14.KeyObjectSet.requires_reissuance 101 (100 + 7200) 2 = true ∧
    KM.Gen.C14.ResourceClassObjects.requires_re_issuance (fun (s : Bool) _ => s) .Old false true false 0 = true ∧
    KM.Gen.C14.ResourceClassObjects.requires_re_issuance (fun (s : Bool) _ => s) .Current false true true 0 = false := by
  decide

/-! ### `ObjectSetRevision::next`

`number_plus_one`, `mft_crl_numbers_agree`, `numbers_strictly_increase` (Props/C14.lean) and the TA theorems of C15 run
on `Revision.next` / `Revision.nextWith`: the number of the next manifest AND CRL (both are built from this one
revision) is the old number plus one, or the operator's override; the validity window is taken from the arguments. -/

/-- `ObjectSetRevision::next` as translated from the source = the model's `nextWith`, for every revision, window and
override. -/
theorem gen_next_eq_model (r : Revision) (thisUpdate nextUpdate : Nat) (override : Option Nat) :
    KM.Gen.C14.ObjectSetRevision.next r.number r.thisUpdate r.nextUpdate thisUpdate nextUpdate override
      = ((r.nextWith thisUpdate nextUpdate override).number, (r.nextWith thisUpdate nextUpdate override).thisUpdate,
         (r.nextWith thisUpdate nextUpdate override).nextUpdate) := by
  cases override <;> rfl

/-- Without override (all the daemon itself ever passes): exactly one more. -/
theorem gen_next_plus_one (n : Nat) (a b c d : Nat) :
    (KM.Gen.C14.ObjectSetRevision.next n a b c d none).1 = n + 1 := rfl

/-- … and `Revision.next` (CA key sets) is `nextWith` without override at the issuing instant. -/
theorem next_is_nextWith (r : Revision) (t : Timing) (i : IssueIn) :
    r.next t i = r.nextWith (fiveMinutesAgo i.now) (publishNext t i) none := rfl

end KM.Props.C14Src
