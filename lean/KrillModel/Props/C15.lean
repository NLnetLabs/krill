/-
C15 — Trust-anchor proxy and signer only accept each other's fresh messages; each child request
forwarded to the signer yields exactly one response delivered once; the trust anchor's manifest
and CRL numbers only increase.

Model: `KrillModel.Ta.{Proxy,Signer,System}`; the invariants over runs are in `Ta/Invariant.lean` and
`Ta/Numbers.lean`.
-/
import KrillModel.Ta.Numbers
import KrillModel.Ta.Pinned
namespace KM.Props.C15
open KM.Ta

/-! ## Proxy and signer accept only each other's fresh messages; at most one signer request is open -/

/-- `process_signer_response` accepts a message **iff** a signer request is open, the message
carries exactly that nonce, and it is validly signed (signature, validity, clear text equal to
the signed text) by the signer the proxy is associated with.  For every state and message. -/
theorem response_accepted_iff (p : Proxy) (m : Signed RespBody) :
    (∃ evs, process p (.processSignerResponse m) = .ok evs) ↔
      ∃ n i, p.openNonce = some n ∧ m.clear.nonce = n ∧ p.signer = some i ∧
        m.signer = i.idKey ∧ m.fresh = true ∧ m.body = m.clear := by
  constructor
  · rintro ⟨evs, h⟩
    obtain ⟨i, h1, h3, h4, _⟩ := processSignerResponse_ok_iff.mp h
    exact ⟨_, i, h1, rfl, h3, (validFor_iff m i.idKey).mp h4⟩
  · rintro ⟨n, i, h1, rfl, h3, hv⟩
    exact ⟨_, processSignerResponse_ok_iff.mpr ⟨i, h1, h3, (validFor_iff m i.idKey).mpr hv, rfl⟩⟩

/-- A refused command – any command, in particular a refused signer response – leaves the proxy
exactly as it was. -/
theorem refused_no_change (p : Proxy) (c : Cmd) (e : Err) (h : process p c = .error e) :
    (exec p c).1 = p := by
  rw [exec_error p c e h]

/-- Which refusal: no open request, then wrong nonce, then no signer, then a bad signature – and
none of them changes anything (previous theorem). -/
theorem response_refusal_reason (p : Proxy) (m : Signed RespBody) :
    process p (.processSignerResponse m) =
      match p.openNonce, p.signer with
      | none, _ => .error .hasNoRequest
      | some n, none => if m.clear.nonce ≠ n then .error .nonceMismatch else .error .noSigner
      | some n, some i =>
        if m.clear.nonce ≠ n then .error .nonceMismatch
        else if m.validFor i.idKey then .ok [.signerResponseReceived m.clear]
        else .error .invalidSignature := by
  simp only [process, processSignerResponse]
  cases p.openNonce <;> cases p.signer <;> rfl

/-- Accepting closes the request and takes over the signer's objects: the same message (or any
other with that nonce) is refused from then on. -/
theorem accepted_closes (p : Proxy) (m : Signed RespBody) (evs : List Ev)
    (h : process p (.processSignerResponse m) = .ok evs) :
    (applyAll p evs).openNonce = none ∧
    (applyAll p evs).number = some m.clear.objects.number ∧
    ∀ m', process (applyAll p evs) (.processSignerResponse m') = .error .hasNoRequest := by
  obtain ⟨i, _, h3, _, rfl⟩ := processSignerResponse_ok_iff.mp h
  obtain ⟨a1, a2, _⟩ := apply_response p m.clear
  refine ⟨a1, ?_, fun m' => ?_⟩
  · show Option.map _ (apply p (.signerResponseReceived m.clear)).signer = _
    rw [a2, h3]; rfl
  · show processSignerResponse (apply p (.signerResponseReceived m.clear)) m' = _
    rw [processSignerResponse, a1]

example : ∃ p m, (∃ evs, process p (.processSignerResponse m) = .ok evs) :=
  ⟨{ idKey := 1, signer := some ⟨2, 3, ⟨5, [], []⟩⟩, openNonce := some 7 },
   { signer := 2, body := ⟨7, ⟨6, [], []⟩, []⟩, clear := ⟨7, ⟨6, [], []⟩, []⟩ }, _, rfl⟩

/-- Replayed (nonce of an earlier request), cross-wired (other signer's key), stale (expired) and
modified (clear text differs) messages, concretely. -/
example :
    let p : Proxy := { idKey := 1, signer := some ⟨2, 3, ⟨5, [], []⟩⟩, openNonce := some 7 }
    let body : RespBody := ⟨7, ⟨6, [], []⟩, []⟩
    process p (.processSignerResponse { signer := 2, body := { body with nonce := 4 }, clear := { body with nonce := 4 } })
      = .error .nonceMismatch ∧
    process p (.processSignerResponse { signer := 9, body := body, clear := body }) = .error .invalidSignature ∧
    process p (.processSignerResponse { signer := 2, body := body, clear := body, fresh := false })
      = .error .invalidSignature ∧
    process p (.processSignerResponse { signer := 2, body := body, clear := { body with objects := ⟨1, [], []⟩ } })
      = .error .invalidSignature ∧
    process { p with openNonce := none } (.processSignerResponse { signer := 2, body := body, clear := body })
      = .error .hasNoRequest := by decide

/-- `process_signer_request` goes through **iff** the message is validly signed by the proxy the
signer was initialised for, a forced manifest number (if any) exceeds the current one, and every
child request in it can be honoured; otherwise the signer is unchanged (`Signer.exec`).  For every
signer state, message and number override. -/
theorem request_processed_iff_signed_by_proxy (s : Signer) (m : Signed ReqBody) (ovr : Option Nat) :
    (∃ r, processSignerRequest s m ovr = .ok r) ↔
      (m.signer = s.proxyKey ∧ m.fresh = true ∧ m.body = m.clear) ∧
      (∀ v, ovr = some v → s.objects.number < v) ∧
      ∃ a, signAll m.clear.resources { objects := s.objects, serial := s.nextSerial }
              m.clear.entries = .ok a := by
  rw [← validFor_iff]
  constructor
  · rintro ⟨⟨s', r⟩, h⟩
    obtain ⟨hv, ho, a, ha, _⟩ := processSignerRequest_ok_iff.mp h
    exact ⟨hv, ho, a, ha⟩
  · rintro ⟨hv, ho, a, ha⟩
    exact ⟨(_, _), processSignerRequest_ok_iff.mpr ⟨hv, ho, a, ha, rfl, rfl⟩⟩

/-- Not signed by the associated proxy (another proxy's key, expired, clear text altered):
refused whatever the content, signer unchanged. -/
theorem request_refused_unless_signed_by_proxy (s : Signer) (m : Signed ReqBody) (ovr : Option Nat)
    (h : ¬ (m.signer = s.proxyKey ∧ m.fresh = true ∧ m.body = m.clear)) :
    s.exec m ovr = (s, .error .invalidSignature) := by
  rw [← validFor_iff, Bool.not_eq_true] at h
  rw [Signer.exec, processSignerRequest, h]
  rfl

/-- Any refusal leaves the signer as it was. -/
theorem signer_refused_no_change (s : Signer) (m : Signed ReqBody) (ovr : Option Nat) (e : SErr)
    (h : processSignerRequest s m ovr = .error e) : (s.exec m ovr).1 = s := by
  simp [Signer.exec, h]

/-- A processed request is answered under its own nonce, entry for entry, signed with the
signer's ID key. -/
theorem processed_answers_request (s s' : Signer) (m : Signed ReqBody) (ovr : Option Nat)
    (r : Signed RespBody) (h : processSignerRequest s m ovr = .ok (s', r)) :
    r.signer = s.idKey ∧ r.body = r.clear ∧ r.body.nonce = m.clear.nonce ∧
    keysOf r.body.entries = keysOf m.clear.entries := by
  have ans := processSignerRequest_ok s s' m ovr r h
  exact ⟨ans.signer, ans.clear, ans.nonce, ans.keys⟩

/-- Every request forwarded to the signer gets exactly one answer (previous theorem: the answers'
children and keys are the requests', in order) and the answer is of the request's kind – a
certificate for an issuance request, a revocation confirmation for a revocation request – never
the `Error` placeholder; if any request cannot be honoured the whole signer request is refused
(`request_processed_iff_signed_by_proxy`). -/
theorem signer_answers_in_kind (s s' : Signer) (m : Signed ReqBody) (ovr : Option Nat)
    (r : Signed RespBody) (h : processSignerRequest s m ovr = .ok (s', r)) :
    ∀ o ∈ r.body.entries, ∃ e ∈ m.clear.entries,
      e.1 = o.1 ∧ e.2.matchesResponse o.2 = true ∧ o.2 ≠ .error :=
  (processSignerRequest_ok s s' m ovr r h).inKind

example :
    let s : Signer := Signer.init 2 1 3 none
    let b : ReqBody := { nonce := 7, entries := [(("a", 10), { kind := .issue, key := 10 })],
                         resources := [("a", [1, 2])] }
    (∃ r, processSignerRequest s { signer := 1, body := b, clear := b } none = .ok r) ∧
    s.exec { signer := 5, body := b, clear := b } none = (s, .error .invalidSignature) ∧
    s.exec { signer := 1, body := b, clear := { b with nonce := 8 } } none = (s, .error .invalidSignature) := by
  intro s b
  refine ⟨⟨_, rfl⟩, ?_, ?_⟩ <;> decide

/-- `MakeSignerRequest` is refused **iff** a request is open. -/
theorem make_refused_iff_open (p : Proxy) (n : Nonce) :
    process p (.makeSignerRequest n) = .error .hasRequest ↔ p.openNonce.isSome = true := by
  simp only [process]
  cases p.openNonce <;> simp

/-- `UpdateSigner` is refused while a signer request is open, nothing changes. -/
theorem update_signer_refused_while_open (p : Proxy) (i : SignerInfo) (n : Nonce)
    (h : p.openNonce = some n) : exec p (.updateSigner i) = (p, .error .hasRequest) := by
  simp [exec, process, h]

/-- Over every history of commands (any commands, any messages): the number of signer requests
made so far exceeds the number of responses accepted by exactly the number of open requests,
which is 0 or 1.  So there is never more than one request open, every accepted response closes
one, and two requests are never made without an accepted response in between. -/
theorem one_open_request (p : Proxy) (cs : List Cmd) :
    (execAll p cs).made + openN p = (execAll p cs).accepted + openN (execAll p cs).proxy ∧
    openN (execAll p cs).proxy ≤ 1 := by
  refine ⟨execAll_balance cs { proxy := p }, ?_⟩
  unfold openN
  split <;> omega

example :
    let p : Proxy := { idKey := 1, signer := some ⟨2, 3, ⟨5, [], []⟩⟩ }
    let ok : Signed RespBody := { signer := 2, body := ⟨7, ⟨6, [], []⟩, []⟩, clear := ⟨7, ⟨6, [], []⟩, []⟩ }
    let t := execAll p [.makeSignerRequest 7, .makeSignerRequest 8, .processSignerResponse ok,
                        .processSignerResponse ok, .makeSignerRequest 9]
    t.made = 2 ∧ t.accepted = 1 ∧ t.proxy.openNonce = some 9 := by decide +kernel

/-! ## Every child request forwarded to the signer is answered exactly once, and the answer delivered once -/

/-- Over all histories of the whole system – children's requests arriving through the manager
(including while a signer request is open), signer requests made and fetched any number of
times, any number of honest signers (re-initialised ones, other proxies' signers), and a network
that replays, re-orders, cross-wires and forges whatever it can (`admissible`: only signatures
of honest keys on contents those keys never signed are out of reach) – for every child and key:

* every response the proxy accepted for it has either been handed to that child, once, or is
  still waiting for it: `#answered = #given + #waiting-responses` – none is lost, none is handed
  over twice, and handing over removes it;
* every accepted response used up one stored request of that child for that key:
  `#answered + #waiting-requests ≤ #requests stored` (a repeated request for the same key
  replaces the stored one; nothing is answered that was not asked).
-/
theorem exactly_once (k : Key) (ops : List Op) (s : Sys) (h : run (Sys.init k) ops = some s)
    (ck : CK) :
    cntK s.answered ck = cntK s.given ck + openRespN s.proxy ck ∧
    cntK s.answered ck + openReqN s.proxy ck ≤ cnt s.added ck :=
  (inv_run _ _ ops (inv_init k) h).acct ck

/-- The same in the executable form the driver evaluates on observed traces. -/
theorem exactly_once_exec (k : Key) (ops : List Op) (s : Sys) (h : run (Sys.init k) ops = some s)
    (ck : CK) : exactlyOnceAt s ck = true := by
  obtain ⟨a, b⟩ := exactly_once k ops s h ck
  simp only [exactlyOnceAt, Bool.and_eq_true, beq_iff_eq, decide_eq_true_eq]
  exact ⟨a, b⟩

/-- A response is handed to the child named as sender of the request, it is the stored one for
that child and key, and it is gone afterwards (a second identical request is a new request). -/
theorem delivered_to_that_child_and_removed (p p' : Proxy) (c : Child) (r : Req) (x : Resp)
    (h : taSlowRequest p c r = (p', .response x)) :
    aget p.openResp (c, r.key) = some x ∧ ahas p'.openResp (c, r.key) = false ∧
    (∀ ck, ck ≠ (c, r.key) → aget p'.openResp ck = aget p.openResp ck) ∧
    p'.openReq = p.openReq := by
  have hc := taSlow_cases p c r
  rw [h] at hc
  cases hc with
  | unchanged rep h1 h2 => exact absurd rfl (h1 x)
  | given x' hx hk hm =>
    refine ⟨hx, ?_, ?_, rfl⟩
    · simp [ahas_adel]
    · intro ck hne
      simp only [aget_adel, hne, if_false]

/-- Never a request and a response waiting for the same child and key. -/
theorem no_request_and_response (k : Key) (ops : List Op) (s : Sys)
    (h : run (Sys.init k) ops = some s) (ck : CK) (hr : ahas s.proxy.openReq ck = true) :
    ahas s.proxy.openResp ck = false :=
  (inv_run _ _ ops (inv_init k) h).disj ck hr

/-- Several children, several outstanding requests folded into one signer request: when the proxy
accepts the response – at any point of any admissible history – the response answers pairwise
different (child, key) pairs, each of which had a request waiting and no response waiting; after
it each entry is *the* waiting response of its child and key, with the signer's value; the
answered requests are gone; all other children's and keys' requests and responses are untouched
(in particular requests that arrived while the signer request was open keep waiting). -/
theorem exactly_once_batch (k : Key) (ops : List Op) (s : Sys) (m : Signed RespBody) (evs : List Ev)
    (h : run (Sys.init k) ops = some s) (ha : admissible s (.respond m) = true)
    (hp : process s.proxy (.processSignerResponse m) = .ok evs) :
    (keysOf m.clear.entries).Nodup ∧
    (∀ ck ∈ keysOf m.clear.entries, ahas s.proxy.openReq ck = true ∧
        ahas s.proxy.openResp ck = false ∧ s.proxy.known ck.1 = true) ∧
    (∀ e ∈ m.clear.entries, aget (step s (.respond m)).proxy.openResp e.1 = some e.2) ∧
    (∀ ck, ahas (step s (.respond m)).proxy.openReq ck = true ↔
        ahas s.proxy.openReq ck = true ∧ ck ∉ keysOf m.clear.entries) ∧
    (∀ ck, ck ∉ keysOf m.clear.entries →
        aget (step s (.respond m)).proxy.openResp ck = aget s.proxy.openResp ck) :=
  respond_batch s m evs (inv_run _ _ ops (inv_init k) h) ha hp

/-- Non-vacuity of the batch theorem: children `a` and `b`; `a` has two requests outstanding (a new
key and a revocation of its old one), `b` one; all three are folded into one signer request and
answered by one response; `c`'s request arrives while the signer request is open and keeps
waiting; every child then collects exactly its own answers, once. -/
example :
    let issue (k : Key) : Req := { kind := .issue, key := k }
    let revoke (k : Key) : Req := { kind := .revoke, key := k }
    let sg (b : ReqBody) : Signed ReqBody := { signer := 1, body := b, clear := b }
    let r0 : ReqBody := { nonce := 5, entries := [(("a", 10), issue 10)],
                          resources := [("c", [3]), ("b", [2]), ("a", [1])] }
    let p0 : RespBody := { nonce := 5, objects := { number := 2, issued := [(10, 1)] },
                           entries := [(("a", 10), .issued 1)] }
    let r1 : ReqBody := { nonce := 7, resources := [("c", [3]), ("b", [2]), ("a", [1])],
                          entries := [(("b", 20), issue 20), (("a", 10), revoke 10), (("a", 11), issue 11)] }
    let p1 : RespBody := { nonce := 7, objects := { number := 3, issued := [(11, 3), (20, 2)], revoked := [1] },
                           entries := [(("b", 20), .issued 2), (("a", 10), .revoked), (("a", 11), .issued 3)] }
    let ops : List Op := [
      .signerInit 2 1 3 none, .addSigner 2, .addChild "a" [1], .addChild "b" [2], .addChild "c" [3],
      .childRequest "a" (issue 10), .makeRequest 5, .getRequest, .sign 2 (sg r0) none,
      .respond { signer := 2, body := p0, clear := p0 }, .childRequest "a" (issue 10),
      -- three outstanding requests of two children
      .childRequest "a" (issue 11), .childRequest "a" (revoke 10), .childRequest "b" (issue 20),
      .makeRequest 7, .getRequest,
      .childRequest "c" (issue 30),                -- arrives while the signer request is open
      .sign 2 (sg r1) none,
      .respond { signer := 2, body := p1, clear := p1 },
      .childRequest "b" (issue 20), .childRequest "a" (revoke 10), .childRequest "a" (issue 11),
      .childRequest "b" (issue 20)]                -- asked again: a new request
    (run (Sys.init 1) ops).map (fun s =>
      (s.given.map (·.1), keysOf s.proxy.openResp, keysOf s.proxy.openReq, s.proxy.number)) =
    some ([("a", 11), ("a", 10), ("b", 20), ("a", 10)], [], [("b", 20), ("c", 30)], some 3) := by
  intro issue revoke sg r0 p0 r1 p1 ops
  decide +kernel

/-- Non-vacuity: two children, a request added while the signer request is open, the request
fetched twice, both signed, responses delivered out of order, replays, a forged response.  The
run is admissible; `a`'s request is answered once and handed over once, its repetition is a new
request, `b`'s request (added while the signer request was open, not in the accepted response)
is still waiting. -/
example :
    let issue (k : Key) : Req := { kind := .issue, key := k }
    let r1 : ReqBody := { nonce := 7, entries := [(("a", 10), issue 10)],
                          resources := [("b", [2]), ("a", [1])] }
    let r2 : ReqBody := { nonce := 7, entries := [(("b", 20), issue 20), (("a", 10), issue 10)],
                          resources := [("b", [2]), ("a", [1])] }
    let sg (b : ReqBody) : Signed ReqBody := { signer := 1, body := b, clear := b }
    let pb : RespBody := { nonce := 7, objects := { number := 2, issued := [(10, 1)] },
                           entries := [(("a", 10), .issued 1)] }
    let p1 : Signed RespBody := { signer := 2, body := pb, clear := pb }
    let ops : List Op := [
      .signerInit 2 1 3 none, .addSigner 2, .addChild "a" [1], .addChild "b" [2],
      .childRequest "a" (issue 10),            -- stored, 1104
      .makeRequest 7, .getRequest,
      .childRequest "b" (issue 20),            -- stored while the signer request is open
      .childRequest "a" (issue 10),            -- same again: 1101
      .getRequest,
      .sign 2 (sg r1) none, .sign 2 (sg r2) none, .sign 2 (sg r1) none,
      .respond { p1 with signer := 9 },        -- forged: refused
      .respond p1,                             -- accepted
      .respond p1,                             -- replay: refused
      .childRequest "a" (issue 10),            -- handed over
      .childRequest "a" (issue 10),            -- a new request
      .childRequest "b" (issue 20)]            -- still waiting: 1101
    (run (Sys.init 1) ops).map (fun s' =>
      (s'.reqs, [cntK s'.answered ("a", 10), cntK s'.given ("a", 10), cnt s'.added ("a", 10),
       openReqN s'.proxy ("a", 10), cntK s'.answered ("b", 20), openReqN s'.proxy ("b", 20)],
       s'.proxy.openNonce, s'.proxy.number)) =
    some ([r2, r1], [1, 1, 2, 1, 0, 1], none, some 2) := by
  intro issue r1 r2 sg pb p1 ops
  decide +kernel

/-! ## The manifest and CRL number only increases, the recorded re-association apart -/

/-- A processed request without a forced number raises the signer's number by exactly one. -/
theorem signer_number_next (s s' : Signer) (m : Signed ReqBody) (r : Signed RespBody)
    (h : processSignerRequest s m none = .ok (s', r)) :
    s'.objects.number = s.objects.number + 1 ∧ r.body.objects.number = s.objects.number + 1 := by
  have ans := processSignerRequest_ok s s' m none r h
  rw [ans.objects]; exact ⟨ans.number, ans.number⟩

/-- The signer's own number rises with every processed request, forced number or not. -/
theorem signer_number_increases (s s' : Signer) (m : Signed ReqBody) (ovr : Option Nat)
    (r : Signed RespBody) (h : processSignerRequest s m ovr = .ok (s', r)) :
    s.objects.number < s'.objects.number := by
  have ans := processSignerRequest_ok s s' m ovr r h
  rw [ans.objects]; exact ans.rises

theorem benign_iff (s : Sys) (o : Op) :
    benign s o = true ↔ regular s o = true ∧ lowReassociation s o = false := by
  simp [benign]

/- Full statement (false of the code, see `ta_numbers_decrease_by_reinit` below, open finding
   F-C15-2):
     for every admissible run, the number the proxy publishes never decreases.
   What is proved: the same for all runs in which the proxy is not re-associated (`UpdateSigner`)
   with a signer whose manifest number is behind the one the proxy publishes – a signer initialised
   again with the same TA key and a too low initial number; refusing that in the code would stand
   in the way of disaster recovery, so it is left to the maintainers – and in which the first
   association happens while no request is open (`benign`).  Forced manifest numbers, signer
   updates at any time, all replays, re-orderings, cross-wirings, forgeries, concurrent children,
   additional and re-initialised signers are inside the statement. -/
/-- Over every benign history (the comment above says what that leaves out) the number of the TA's manifest and CRL,
as published by the proxy, never decreases between any two instants … -/
theorem ta_numbers_increase_partial (k : Key) (ops1 ops2 : List Op) (s1 s2 : Sys)
    (h1 : runWith benign (Sys.init k) ops1 = some s1) (h2 : runWith benign s1 ops2 = some s2) :
    numLe s1.proxy.number s2.proxy.number = true := by
  obtain ⟨hi, hn⟩ := numInv_runWith benign benign_regular _ _ ops1 (inv_init k) (numInv_init k) h1
  exact number_runWith _ _ ops2 hi hn h2

/-- … and every accepted signer response raises it strictly. -/
theorem ta_numbers_increase_on_accept (k : Key) (ops : List Op) (s : Sys) (m : Signed RespBody)
    (evs : List Ev) (h : runWith benign (Sys.init k) ops = some s)
    (ha : admissible s (.respond m) = true)
    (hp : process s.proxy (.processSignerResponse m) = .ok evs) :
    numLt s.proxy.number (step s (.respond m)).proxy.number = true := by
  obtain ⟨hi, hn⟩ := numInv_runWith benign benign_regular _ _ ops (inv_init k) (numInv_init k) h
  exact number_accept s m evs hi hn ha hp

/-- **Arbitrary histories.**  Take any history of the proxy, any number of signers (initialised,
re-initialised, belonging to other proxies), the children and the network adversary (replay,
re-order, stale, cross-wired, forged, altered) – `regular` only fixes that the proxy's first
association happens while no signer request is open.  Then at every step the published number
stays or rises, **or** the step is the recorded exception F-C15-2 (`lowReassociation`: the
operator re-associates the proxy with a signer whose manifest number is behind).  The guard is
explicit, nothing else is excluded. -/
theorem ta_numbers_decrease_only_by_reinit (k : Key) (ops : List Op) (s : Sys) (o : Op)
    (h : runWith regular (Sys.init k) ops = some s)
    (ha : admissible s o = true) (hr : regular s o = true) :
    numLe s.proxy.number (step s o).proxy.number = true ∨ lowReassociation s o = true := by
  obtain ⟨hi, hn⟩ := numInv_runWith regular (fun _ _ h => h) _ _ ops (inv_init k) (numInv_init k) h
  cases hl : lowReassociation s o with
  | true => exact .inr rfl
  | false => exact .inl (number_step s o hi hn ha (by rw [benign, hr, hl]; rfl))

/-- Outside the guard the statement is false: whenever the exception is taken and the update is
accepted (same TA key, no request open), the published number drops strictly – in every state. -/
theorem reinit_behind_decreases (s : Sys) (id : Key) (t : Signer) (evs : List Ev)
    (ht : aget s.signers id = some t) (hl : lowReassociation s (.updateSigner id) = true)
    (hp : process s.proxy (.updateSigner t.info) = .ok evs) :
    numLt (step s (.updateSigner id)).proxy.number s.proxy.number = true := by
  obtain ⟨⟨_, s0, hs0, _⟩, rfl⟩ := process_ok_iff.mp hp
  simp only [step, ht]
  rw [exec_ok _ _ _ hp]
  simp only [lowReassociation, Proxy.number, hs0, Option.map_some, ht] at hl ⊢
  exact hl

/-- Non-vacuity: a regular history with a cross-wired signer (6, initialised for proxy 9: refuses
proxy 1's request), a replayed request, a stale response, and a signer initialised again with the
same TA key and the default number; in the state reached the guard is true for `updateSigner 4`
(the exception, admissible and regular), false for every other step shown. -/
example :
    let b (n : Nat) : ReqBody := { nonce := n }
    let sg (n : Nat) : Signed ReqBody := { signer := 1, body := b n, clear := b n }
    let rs (id n num : Nat) : Signed RespBody :=
      { signer := id, body := { nonce := n, objects := { number := num } },
        clear := { nonce := n, objects := { number := num } } }
    (runWith regular (Sys.init 1) [
        .signerInit 2 1 3 (some 5), .addSigner 2, .signerInit 6 9 8 none,
        .makeRequest 7, .getRequest, .sign 6 (sg 7) none, .sign 2 (sg 7) none, .sign 2 (sg 7) none,
        .respond (rs 2 7 7), .respond (rs 2 7 6),
        .signerInit 4 1 3 none]).map
      (fun s => (s.proxy.number, s.resps.length,
        [lowReassociation s (.updateSigner 4), admissible s (.updateSigner 4), regular s (.updateSigner 4),
         lowReassociation s (.updateSigner 2), lowReassociation s (.makeRequest 8)],
        (step s (.updateSigner 4)).proxy.number)) =
    some (some 7, 2, [true, true, true, false, false], some 1) := by decide +kernel

/-- Counter-example (open finding F-C15-2, signer re-initialisation): a signer initialised again
with the same TA key starts at number 1 unless told otherwise, `UpdateSigner` checks the TA key
only and takes over the new signer's objects: 5 → 1. -/
theorem ta_numbers_decrease_by_reinit :
    ∃ ops s1 s2 o, run (Sys.init 1) ops = some s1 ∧ admissible s1 o = true ∧ step s1 o = s2 ∧
      s1.proxy.number = some 5 ∧ s2.proxy.number = some 1 := by
  refine ⟨[.signerInit 2 1 3 (some 5), .addSigner 2, .signerInit 4 1 3 none], _, _,
      .updateSigner 4, rfl, by decide, rfl, by decide, by decide⟩

/-! The pinned tree (e4e0506a), for the record: fixed findings F-C15-1 and F-C15-3. -/

/-- Pinned tree, F-C15-1 (fixed by 109701d8): `krillta signer process --ta-mft-number-override N`
with `N` below the current number was taken as is, the proxy accepted the response, the published
number went from 5 to 3. -/
theorem pinned_numbers_decrease_by_override :
    ∃ ops s1 s2 o, Pinned.run (Sys.init 1) ops = some s1 ∧ admissible s1 o = true ∧
      Pinned.step s1 o = s2 ∧ s1.proxy.number = some 5 ∧ s2.proxy.number = some 3 := by
  let b : ReqBody := { nonce := 7 }
  let rb : RespBody := { nonce := 7, objects := { number := 3 } }
  refine ⟨[.signerInit 2 1 3 (some 5), .addSigner 2, .makeRequest 7, .getRequest,
      .sign 2 { signer := 1, body := b, clear := b } (some 3)], _, _,
      .respond { signer := 2, body := rb, clear := rb }, rfl, by decide, rfl, by decide, by decide⟩

/-- The same history on the current code: the signer refuses, the response does not exist (it is
not admissible), the number stays. -/
example :
    let b : ReqBody := { nonce := 7 }
    let rb : RespBody := { nonce := 7, objects := { number := 3 } }
    (run (Sys.init 1) [.signerInit 2 1 3 (some 5), .addSigner 2, .makeRequest 7, .getRequest,
        .sign 2 { signer := 1, body := b, clear := b } (some 3)]).map
      (fun s => (s.proxy.number, s.resps.length, admissible s (.respond { signer := 2, body := rb, clear := rb })))
      = some (some 5, 0, false) := by decide +kernel

/-- Pinned tree, F-C15-3 (fixed by 764cd480): the signer answers the same request twice (numbers
6 and 7), the proxy is updated with the signer's current info (7) while the request is still open,
then the older response (6) – right nonce, right signer – is accepted: 7 → 6. -/
theorem pinned_numbers_decrease_by_stale_response_after_update :
    ∃ ops s1 s2 o, Pinned.run (Sys.init 1) ops = some s1 ∧ admissible s1 o = true ∧
      Pinned.step s1 o = s2 ∧ s1.proxy.number = some 7 ∧ s2.proxy.number = some 6 := by
  let b : ReqBody := { nonce := 7 }
  let sg : Signed ReqBody := { signer := 1, body := b, clear := b }
  let rb : RespBody := { nonce := 7, objects := { number := 6 } }
  refine ⟨[.signerInit 2 1 3 (some 5), .addSigner 2, .makeRequest 7, .getRequest,
      .sign 2 sg none, .sign 2 sg none, .updateSigner 2], _, _,
      .respond { signer := 2, body := rb, clear := rb }, rfl, by decide, rfl, by decide, by decide⟩

/-- The same history on the current code: the update is refused, the older response raises the
number from 5 to 6, the newer one is then refused (no open request). -/
example :
    let b : ReqBody := { nonce := 7 }
    let sg : Signed ReqBody := { signer := 1, body := b, clear := b }
    let rs (num : Nat) : Signed RespBody :=
      { signer := 2, body := { nonce := 7, objects := { number := num } },
        clear := { nonce := 7, objects := { number := num } } }
    (run (Sys.init 1) [.signerInit 2 1 3 (some 5), .addSigner 2, .makeRequest 7, .getRequest,
        .sign 2 sg none, .sign 2 sg none, .updateSigner 2, .respond (rs 6), .respond (rs 7)]).map
      (·.proxy.number) = some (some 6) := by decide +kernel

/-- Non-vacuity of the partial theorem: a benign run with two exchanges, a forced number, a replay
at the signer, a signer update between exchanges and a re-initialised signer taken into use with
an adequate initial number: 5, 6, 10, 20, 21. -/
example :
    let b (n : Nat) : ReqBody := { nonce := n }
    let sg (n : Nat) : Signed ReqBody := { signer := 1, body := b n, clear := b n }
    let rs (id n num : Nat) : Signed RespBody :=
      { signer := id, body := { nonce := n, objects := { number := num } },
        clear := { nonce := n, objects := { number := num } } }
    (runWith benign (Sys.init 1) [
        .signerInit 2 1 3 (some 5), .addSigner 2,
        .makeRequest 7, .getRequest, .sign 2 (sg 7) none, .respond (rs 2 7 6),
        .updateSigner 2,
        .makeRequest 8, .getRequest, .sign 2 (sg 8) (some 10), .sign 2 (sg 8) (some 3),
        .sign 2 (sg 8) none, .respond (rs 2 8 10), .respond (rs 2 8 11),
        .signerInit 4 1 3 (some 20), .updateSigner 4,
        .makeRequest 9, .getRequest, .sign 4 (sg 9) none, .respond (rs 4 9 21)]).map
      (·.proxy.number) = some (some 21) := by decide +kernel

end KM.Props.C15
