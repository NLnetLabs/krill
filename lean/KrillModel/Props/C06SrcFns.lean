/-
C06 (source tie, function body) — `Aggregate::apply_command`, the provided method of `trait Aggregate` every
event-sourced entity is replayed with ("apply_command bumps version then applies events in order",
src/commons/eventsourcing/agg.rs), is regenerated from the source on every run
(`Generated/PureFnsC06.lean`, `KM.Gen.C06.Aggregate.apply_command`) and proved equal to the model's `applyStored`
(ES/AggStore.lean) that `replay_eq_live`, `snapshot_any_point` and `replay_total` (Props/C06.lean) are about.

The model's `apply` is PARTIAL (`none` = the Rust `apply` panics on that event in that state); the generated
definition is over a total `apply`.  The statement instantiates the aggregate value with `Option (Ver A)` (`none` = a panic
happened, and stays): `increment_version` bumps the version of a value that is there, `apply` is the model's partial
`A.apply` on the state component.  What is tied: the version is bumped exactly once and FIRST (also for a stored refusal and
for an init command, which carry no events), the events are applied in stored order, nothing else happens - an edit that
skips the bump for a command without events, applies the events in reverse, or bumps once per event changes the generated
definition and this file stops checking.
-/
import KrillModel.Generated.PureFnsC06
import KrillModel.ES.Lemmas
namespace KM.Props.C06SrcFns
open KM.ES

variable {A : Agg}

/-- `increment_version` on a value that is there. -/
def incr (o : Option (Ver A)) : Option (Ver A) := o.map fun v => ⟨v.version + 1, v.st⟩

/-- The model's partial `apply` on the state component; a panic stays a panic. -/
def applyO (o : Option (Ver A)) (ev : A.Ev) : Option (Ver A) :=
  o.bind fun v => (A.apply v.st ev).map fun s => ⟨v.version, s⟩

/-- `StoredCommand::into_events`: the events of a stored success, nothing for an init command or a stored refusal. -/
def intoEvents (c : Stored A) : Option (List A.Ev) :=
  match c.effect with
  | .success evs => some evs
  | _ => none

theorem loop_none (io : Option (List A.Ev)) (o0 : Option (Ver A)) (l : List A.Ev) :
    KM.Gen.C06.Aggregate.apply_command.loop incr applyO io o0 (none : Option (Ver A)) l = none := by
  induction l generalizing o0 with
  | nil => rfl
  | cons e tl ih => simp [KM.Gen.C06.Aggregate.apply_command.loop, applyO, ih]

theorem loop_eq (io : Option (List A.Ev)) (l : List A.Ev) :
    ∀ (o0 : Option (Ver A)) (v : Ver A),
    KM.Gen.C06.Aggregate.apply_command.loop incr applyO io o0 (some v) l =
      (applyEvents A v.st l).map fun s => ⟨v.version, s⟩ := by
  induction l with
  | nil => intro o0 v; simp [KM.Gen.C06.Aggregate.apply_command.loop, KM.Gen.C06.Aggregate.apply_command.after, applyEvents]
  | cons e tl ih =>
    intro o0 v
    simp only [KM.Gen.C06.Aggregate.apply_command.loop, applyO, applyEvents, Option.bind_some]
    cases h : A.apply v.st e with
    | none => simp [loop_none]
    | some s => simp [ih]

/-- `Aggregate::apply_command` as translated from the source = the model's
`applyStored`, for every aggregate, every value and every stored command (success, refusal, init). -/
theorem gen_apply_command_eq_model (v : Ver A) (c : Stored A) :
    KM.Gen.C06.Aggregate.apply_command incr applyO (intoEvents c) (some v) = applyStored v c := by
  unfold KM.Gen.C06.Aggregate.apply_command applyStored intoEvents
  cases c.effect with
  | init ev => rfl
  | error e => rfl
  | success evs => simp [incr, loop_eq]

/-- The version after a replayed command is the version before plus one, whatever the command carried. -/
theorem apply_command_bumps_once (v v' : Ver A) (c : Stored A)
    (h : KM.Gen.C06.Aggregate.apply_command incr applyO (intoEvents c) (some v) = some v') :
    v'.version = v.version + 1 :=
  applyStored_version ((gen_apply_command_eq_model v c).symm.trans h)

end KM.Props.C06SrcFns
