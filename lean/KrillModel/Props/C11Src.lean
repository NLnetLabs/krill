/-
C11 (source tie) — the hand-written model of `RrdpServer::find_deltas_truncate_age`
(`KM.Pubd.findTruncateAge` / `truncLoop`, Pubd/Rrdp.lean) equals the definition that the translator
`pure_fns` regenerates from `/repo/src/server/pubd/rrdp.rs` on every run
(`Generated/PureFnsC11.lean`, `KM.Gen.C11.RrdpServer.find_deltas_truncate_age`).  After it, the same
for `deltas_truncate_size` (= `take (keepBySize …)`) and a characterisation of `update_rrdp_needed`.

`deltas_le_max_partial` (Props/C11.lean) and the manager model (`Pubd/Manager.lean`) are about
`findTruncateAge`.  With `gen_find_deltas_truncate_age_eq_model` that function is tied to the Rust
loop statement by statement: `<` vs `<=`, `min_nr` vs `max_nr`, `saturating_sub(1)`, which of the
two age limits goes to which age test, `break` vs keep – each such edit changes the generated
definition and this file stops checking.

Differences that do not matter, bridged here: the model takes the list of pairs
`(younger than min_secs, older than max_secs)` per delta (that is what the harness observes);
the generated definition takes abstract deltas `Δ`, the two wall-clock tests as parameter
functions and all four configuration numbers.  The statement maps each delta to its pair.
-/
import KrillModel.Generated.PureFnsC11
import KrillModel.Pubd.Rrdp
namespace KM.Props.C11Src
open KM.Pubd

/-- The loop: for every carried `keep` and every remaining list. -/
theorem gen_loop_eq_model {Δ : Type} (younger older : Δ → Nat → Bool) (all : List Δ)
    (minNr minSecs maxNr maxSecs : Nat) (l : List Δ) :
    ∀ keep : Nat,
      KM.Gen.C11.RrdpServer.find_deltas_truncate_age.loop younger older all minNr minSecs maxNr maxSecs keep l =
        truncLoop minNr maxNr keep (l.map fun d => (younger d minSecs, older d maxSecs)) := by
  induction l with
  | nil =>
    intro keep
    simp [KM.Gen.C11.RrdpServer.find_deltas_truncate_age.loop, KM.Gen.C11.RrdpServer.find_deltas_truncate_age.after,
      truncLoop]
  | cons d tl ih =>
    intro keep
    simp only [KM.Gen.C11.RrdpServer.find_deltas_truncate_age.loop, KM.Gen.C11.RrdpServer.find_deltas_truncate_age.after,
      List.map_cons, truncLoop, ih]
    simp only [Bool.or_eq_true, decide_eq_true_eq, beq_iff_eq]

/-- The definition generated from the body of `find_deltas_truncate_age` is the model function
applied to the per-delta age pairs – for every list of deltas, every pair of age tests and all
four configuration numbers. -/
theorem gen_find_deltas_truncate_age_eq_model {Δ : Type} (younger older : Δ → Nat → Bool)
    (deltas : List Δ) (minNr minSecs maxNr maxSecs : Nat) :
    KM.Gen.C11.RrdpServer.find_deltas_truncate_age younger older deltas minNr minSecs maxNr maxSecs =
      findTruncateAge minNr maxNr (deltas.map fun d => (younger d minSecs, older d maxSecs)) := by
  simp only [KM.Gen.C11.RrdpServer.find_deltas_truncate_age, findTruncateAge]
  exact gen_loop_eq_model younger older deltas minNr minSecs maxNr maxSecs deltas 0

/-- Non-vacuity: with `Δ = Bool × Bool` and the projections as age tests the generated function is
the model function itself; it reaches the three arms (keep by number, stop at `max_nr - 1`, stop
by age, keep the remainder). -/
example :
    KM.Gen.C11.RrdpServer.find_deltas_truncate_age (fun d _ => d.1) (fun d _ => d.2)
        [(false, false), (false, false), (false, false)] 1 0 3 0 = 2 ∧
    KM.Gen.C11.RrdpServer.find_deltas_truncate_age (fun d _ => d.1) (fun d _ => d.2)
        [(true, false), (false, false), (false, true), (false, false)] 0 0 9 0 = 2 ∧
    KM.Gen.C11.RrdpServer.find_deltas_truncate_age (fun d _ => d.1) (fun d _ => d.2)
        [(false, false), (false, false)] 0 0 0 0 = 0 := by
  decide

/-! ## `RrdpServer::deltas_truncate_size` and `RrdpServer::update_rrdp_needed` -/

/-- The loop of `deltas_truncate_size`: for every carried total and count.  The loop breaks at the
first delta that does not fit, so the count is a `foldr` to a function of the running total. -/
theorem size_loop_eq {Δ : Type} (size_of : Δ → Nat) (limit : Nat) (all : List Δ) (l : List Δ) :
    ∀ (d0 : List Δ) (total keep : Nat),
    KM.Gen.C11.RrdpServer.deltas_truncate_size.loop size_of limit d0 all total keep l =
      all.take (keep + (l.foldr (fun d (k : Nat → Nat) => fun t => if t + size_of d > limit then 0 else 1 + k (t + size_of d))
                          (fun _ => 0)) total) := by
  induction l with
  | nil =>
      intro d0 total keep
      simp [KM.Gen.C11.RrdpServer.deltas_truncate_size.loop, KM.Gen.C11.RrdpServer.deltas_truncate_size.after]
  | cons d tl ih =>
      intro d0 total keep
      simp only [KM.Gen.C11.RrdpServer.deltas_truncate_size.loop, List.foldr_cons]
      by_cases h : total + size_of d > limit
      · simp [h, KM.Gen.C11.RrdpServer.deltas_truncate_size.after]
      · simp only [h, if_false, ih]
        congr 1
        omega

theorem keepBySize_eq_foldr (limit : Nat) (l : List DeltaRec) :
    ∀ total, keepBySize limit total l =
      (l.foldr (fun d (k : Nat → Nat) => fun t => if t + d.size > limit then 0 else 1 + k (t + d.size)) (fun _ => 0)) total := by
  induction l with
  | nil => intro total; simp [keepBySize]
  | cons d tl ih => intro total; simp [keepBySize, ih]

/-- `deltas_truncate_size`: generated definition = the model's `take (keepBySize …)` – the newest deltas
whose summed size does not exceed the size of the snapshot are kept (`deltas_le_max_partial`,
`client_catches_up` use `keepBySize` through `Rrdp.applyUpdated`). -/
theorem gen_deltas_truncate_size_eq_model (limit : Nat) (deltas : List DeltaRec) :
    KM.Gen.C11.RrdpServer.deltas_truncate_size DeltaRec.size limit deltas =
      deltas.take (keepBySize limit 0 deltas) := by
  unfold KM.Gen.C11.RrdpServer.deltas_truncate_size
  simp only [size_loop_eq, keepBySize_eq_foldr, Nat.zero_add]

/-- `update_rrdp_needed` is characterised outright: an update is due NOW exactly when something is staged
and the minimal interval since the last update has passed; it is postponed to exactly `last_update +
interval` when something is staged and the interval has not passed; nothing staged: no update.  So a
staged change is never answered with `No` (the task that would publish it is re-scheduled, never dropped),
and with an interval of zero (what `Rrdp.hasStaged` models) staged content is always due. -/
theorem gen_update_rrdp_needed_iff (has_staged : Bool) (last_update interval now : Int) :
    (KM.Gen.C11.RrdpServer.update_rrdp_needed has_staged last_update interval now = .Yes ↔
        has_staged = true ∧ last_update + interval ≤ now) ∧
    (∀ t, KM.Gen.C11.RrdpServer.update_rrdp_needed has_staged last_update interval now = .Later t ↔
        has_staged = true ∧ now < last_update + interval ∧ t = last_update + interval) ∧
    (KM.Gen.C11.RrdpServer.update_rrdp_needed has_staged last_update interval now = .No ↔ has_staged = false) := by
  unfold KM.Gen.C11.RrdpServer.update_rrdp_needed
  cases has_staged
  · simp
  · by_cases h : last_update + interval > now
    · simp [h]
      intro t
      exact eq_comm
    · simp [h]
      omega

/-- With no minimal interval (and a clock that does not run backwards past the last update) the generated
decision is the model's `Rrdp.hasStaged`. -/
theorem gen_update_rrdp_needed_eq_model (r : Rrdp) (last_update now : Int) (h : last_update ≤ now) :
    KM.Gen.C11.RrdpServer.update_rrdp_needed r.hasStaged last_update 0 now =
      if r.hasStaged then .Yes else .No := by
  unfold KM.Gen.C11.RrdpServer.update_rrdp_needed
  cases r.hasStaged <;> simp
  omega

/-- A staged change is published at the latest when the minimal interval has passed: whatever was answered before
(`Later t` re-schedules the task for `t`), from `t = last_update + interval` on the answer is `Yes` for as long as the
change is still staged and no other update intervened (`last_update` unchanged). -/
theorem staged_update_due_after_interval (last_update interval now : Int) (t : Int)
    (h : KM.Gen.C11.RrdpServer.update_rrdp_needed true last_update interval now = .Later t) :
    ∀ now' ≥ t, KM.Gen.C11.RrdpServer.update_rrdp_needed true last_update interval now' = .Yes := by
  intro now' hn
  have ht := ((gen_update_rrdp_needed_iff true last_update interval now).2.1 t).mp h
  exact (gen_update_rrdp_needed_iff true last_update interval now').1.mpr ⟨rfl, by omega⟩

end KM.Props.C11Src
