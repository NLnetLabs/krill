/-
Lemmas for the status model (the property statements are in `Props/C19.lean`).

An event is one call of the store (`Ev.op`, `step_eq_apply`), so what `step` does to cache and storage
and to what is shown is proved on the eight operations.  What an event does to one entry is then
restated with the classifiers of the specification (`parentProj`, `repoProj`, `childProj`).  What is
shown after a history is a fold over what was shown before (`view_run`), and on the fields shown the
last writer wins (`LastWriter`, with the specification's `…Says` classifier; a child's last success and
the list of published files apart): every fact about "the most recent event that …" is an instance of
that.  The list of published files and the server's content are compared URI by URI (`entries`, `PerUri`).
-/
import KrillModel.Status.Status
import KrillModel.Base.Assoc
import KrillModel.Base.Fold
namespace KM.Status

/-! ## the association lists of the store

`aset` replaces in place or else appends, which is none of the insertions of `Base/Assoc`: `alookup_aset` has its own
induction, the other look-ups go through `List.lookup`. -/

theorem alookup_aset {α} (l : AList α) (k k' : String) (v : α) :
    alookup (aset l k v) k' = if k = k' then some v else alookup l k' := by
  induction l with
  | nil => simp [aset, alookup]
  | cons h t ih =>
    obtain ⟨hk, hv⟩ := h
    by_cases h1 : hk = k
    · subst h1
      by_cases h2 : hk = k' <;> simp [aset, alookup, h2]
    · have h1' : ¬ k = hk := fun h => h1 h.symm
      by_cases h2 : hk = k'
      · subst h2
        simp [aset, alookup, h1, h1']
      · simp [aset, alookup, h1, h2, ih]

theorem alookup_eq_lookup {α} (l : AList α) (k : String) : alookup l k = l.lookup k :=
  Assoc.eq_lookup_of_eqns alookup (fun _ => rfl) (fun _ _ _ _ => rfl) l k

theorem aerase_eq_filter {α} (l : AList α) (k : String) : aerase l k = l.filter fun p => p.1 != k := by
  induction l with
  | nil => rfl
  | cons p t ih =>
    rw [aerase, ih, List.filter_cons]
    by_cases h : p.1 = k <;> simp [h]

theorem alookup_aerase {α} (l : AList α) (k k' : String) :
    alookup (aerase l k) k' = if k = k' then none else alookup l k' := by
  rw [alookup_eq_lookup, alookup_eq_lookup, aerase_eq_filter, Assoc.ite_eq_comm]; exact Assoc.lookup_erase l k k'

theorem aerase_of_lookup_none {α} (l : AList α) (k : String) (h : alookup l k = none) :
    aerase l k = l :=
  (aerase_eq_filter l k).trans (Assoc.erase_eq_self (Assoc.lookup_eq_none.mp ((alookup_eq_lookup l k).symm.trans h)))

theorem alookup_map {α β} (l : AList α) (f : α → β) (k : String) :
    alookup (l.map fun (x : String × α) => (x.1, f x.2)) k = (alookup l k).map f := by
  rw [alookup_eq_lookup, alookup_eq_lookup]; exact Assoc.lookup_map_snd l f k

/-! ## the shadow list of published files

`InSync` and `Covers` compare the list shown with the server's content URI by URI (`entries`), and a
delta element acts on the contents listed for a URI by a function of those contents (`entries_applyEl`):
so the same delta applied to both lists keeps either relation. -/

theorem entries_append (p q : List File) (u : String) :
    entries (p ++ q) u = entries p u ++ entries q u := by
  simp [entries, List.filter_append]

theorem entries_eq_nil_iff (l : List File) (u : String) : entries l u = [] ↔ ∀ f ∈ l, f.1 ≠ u := by
  simp only [entries, List.map_eq_nil_iff, List.filter_eq_nil_iff, decide_eq_true_eq, ne_eq]

theorem entries_filter_ne (p : List File) (u v : String) :
    entries (p.filter fun e => e.1 != u) v = if u = v then [] else entries p v := by
  unfold entries
  rw [List.filter_filter]
  split
  · rename_i h
    simp [h]
  · rename_i h
    refine congrArg _ (List.filter_congr fun a _ => ?_)
    by_cases ha : a.1 = v <;> simp [ha, Ne.symm h]

theorem entries_applyEl (p : List File) (el : DeltaEl) (v : String) :
    entries (applyEl p el) v =
      if el.uri = v then
        match el with
        | .publish _ c | .update _ c => [c]
        | .withdraw _ => []
      else entries p v := by
  cases el with
  | publish u c | update u c =>
    simp only [applyEl, DeltaEl.uri, entries_append, entries_filter_ne]
    by_cases h : u = v <;> simp [entries, h]
  | withdraw u => exact entries_filter_ne p u v

/-- The list shown and the server's content compared URI by URI: `InSync` is `PerUri Eq`, `Covers` is
`PerUri fun a b => b ≠ [] → a = b`. -/
def PerUri (R : List String → List String → Prop) (p m : List File) : Prop := ∀ u, R (entries p u) (entries m u)

/-- An element gives the contents of its URI the same value in both lists and leaves the other URIs alone: a
reflexive relation is kept. -/
theorem perUri_applyDelta {R : List String → List String → Prop} (hR : ∀ c, R c c) (p m : List File)
    (d : List DeltaEl) (h : PerUri R p m) : PerUri R (applyDelta p d) (applyDelta m d) := by
  induction d generalizing p m with
  | nil => exact h
  | cons el t ih =>
    refine ih _ _ fun v => ?_
    rw [entries_applyEl, entries_applyEl]
    split
    · exact hR _
    · exact h v

theorem inSync_refl (p : List File) : InSync p p := fun _ => rfl

theorem covers_nil (p : List File) : Covers p [] :=
  fun u hu => absurd ((entries_eq_nil_iff [] u).mpr fun _ hf => nomatch hf) hu

theorem covers_of_inSync (p m : List File) (h : InSync p m) : Covers p m := fun u _ => h u

theorem inSyncB_iff (p m : List File) : inSyncB p m = true ↔ InSync p m := by
  refine ⟨fun h u => ?_, fun h => List.all_eq_true.mpr fun u _ => beq_iff_eq.mpr (h u)⟩
  by_cases hu : u ∈ p.map (·.1) ++ m.map (·.1)
  · exact beq_iff_eq.mp (List.all_eq_true.mp h u hu)
  · -- a URI that neither list mentions has no contents in either
    simp only [List.mem_append, List.mem_map, not_or, not_exists, not_and] at hu
    rw [(entries_eq_nil_iff p u).mpr hu.1, (entries_eq_nil_iff m u).mpr hu.2]

theorem coversB_iff (p m : List File) : coversB p m = true ↔ Covers p m := by
  constructor
  · intro h u hu
    obtain ⟨f, hf, rfl⟩ : ∃ f ∈ m, f.1 = u := Classical.byContradiction fun hn =>
      hu ((entries_eq_nil_iff m u).mpr fun f hf hfu => hn ⟨f, hf, hfu⟩)
    exact beq_iff_eq.mp (List.all_eq_true.mp h f hf)
  · exact fun h => List.all_eq_true.mpr fun f hf => beq_iff_eq.mpr
      (h f.1 fun he => (entries_eq_nil_iff m f.1).mp he f hf rfl)

/-- The server applies an accepted element exactly as the shadow list does (the refusals are what
keeps the server's own list free of duplicates). -/
theorem srvApplyEl_eq (m m' : List File) (el : DeltaEl) (h : srvApplyEl m el = some m') :
    m' = applyEl m el := by
  cases el with
  | publish u c =>
    simp only [srvApplyEl] at h
    split at h
    · cases h
    · -- the URI is absent, so the shadow list's removal before the push removes nothing
      rename_i hany
      cases h
      exact congrArg (· ++ [(u, c)]) (List.filter_eq_self.mpr fun a ha => by
        simpa using fun hau => hany (List.any_eq_true.mpr ⟨a, ha, by simpa using hau⟩)).symm
  | update u c | withdraw u =>
    simp only [srvApplyEl] at h
    split at h <;> cases h
    rfl

theorem srvApply_eq (m m' : List File) (d : List DeltaEl) (h : srvApply m d = some m') :
    m' = applyDelta m d := by
  induction d generalizing m with
  | nil => exact (Option.some.inj h).symm
  | cons el t ih =>
    obtain ⟨m1, h1, h2⟩ := Option.bind_eq_some_iff.mp h
    rw [ih m1 h2, srvApplyEl_eq m m1 el h1]
    rfl

theorem nodup_applyEl (p : List File) (el : DeltaEl) (h : (p.map (·.1)).Nodup) :
    ((applyEl p el).map (·.1)).Nodup := by
  cases el with
  | publish u c => exact Assoc.nodup_put h u c
  | update u c => exact Assoc.nodup_put h u c
  | withdraw u => exact Assoc.nodup_erase h u

theorem nodup_applyDelta (p : List File) (d : List DeltaEl) (h : (p.map (·.1)).Nodup) :
    ((applyDelta p d).map (·.1)).Nodup :=
  List.foldlRecOn (motive := fun p => (p.map (·.1)).Nodup) d applyEl h fun p h el _ => nodup_applyEl p el h

/-! ## cache and storage -/

theorem toCa_of_isEmpty (d : DiskCa) (h : d.isEmpty = true) : d.toCa = {} := by
  obtain ⟨r, p, c⟩ := d
  simp only [DiskCa.isEmpty, Bool.and_eq_true, Option.isNone_iff_eq_none, List.isEmpty_iff] at h
  obtain ⟨⟨rfl, rfl⟩, rfl⟩ := h
  rfl

/-- A scope left without keys disappears, and a missing scope loads as the default: what a scope
loads as does not depend on which of the two happened. -/
theorem diskOr_diskUpdate (disk : AList DiskCa) (ca ca' : String) (g : DiskCa → DiskCa) :
    (diskOr (diskUpdate disk ca g) ca').toCa =
      if ca = ca' then (g (diskOr disk ca)).toCa else (diskOr disk ca').toCa := by
  unfold diskUpdate
  simp only
  split
  · rename_i he
    simp only [diskOr, alookup_aerase]
    split
    · exact (toCa_of_isEmpty _ he).symm
    · rfl
  · simp only [diskOr, alookup_aset]
    split <;> rfl

/-- The cache shows what a reload of the storage would show. -/
def Consistent (s : Store) : Prop := ∀ ca, s.view ca = (diskOr s.disk ca).toCa

theorem consistent_empty : Consistent Store.empty := fun _ => rfl

theorem view_restart (s : Store) (ca : String) : s.restart.view ca = (diskOr s.disk ca).toCa := by
  unfold Store.restart Store.view diskOr
  simp only
  rw [alookup_map s.disk DiskCa.toCa ca]
  cases alookup s.disk ca <;> rfl

theorem view_restart_of_consistent (s : Store) (h : Consistent s) (ca : String) :
    s.restart.view ca = s.view ca := by
  rw [view_restart, h ca]

/-- The shape of every writing operation of the store: the cache entry of `ca` becomes `v`, its
scope is changed by `g`. -/
def Store.write (s : Store) (ca : String) (v : CaStatus) (g : DiskCa → DiskCa) : Store :=
  { cache := aset s.cache ca v, disk := diskUpdate s.disk ca g }

theorem consistent_write (s : Store) (h : Consistent s) (ca : String) (v : CaStatus)
    (g : DiskCa → DiskCa) (hg : (g (diskOr s.disk ca)).toCa = v) : Consistent (s.write ca v g) := by
  intro ca'
  simp only [Store.write, Store.view, alookup_aset, diskOr_diskUpdate]
  split
  · exact hg.symm
  · exact h ca'

theorem view_write (s : Store) (ca ca' : String) (F : CaStatus → CaStatus) (g : DiskCa → DiskCa) :
    (s.write ca (F (s.view ca)) g).view ca' = if ca = ca' then F (s.view ca') else s.view ca' := by
  simp only [Store.write, Store.view, alookup_aset]
  split
  · rename_i h
    rw [h]
    rfl
  · rfl

/-- The removals: the write is only made if there is an entry, and without one it would change
nothing that is shown. -/
theorem view_write_if (s : Store) (ca ca' : String) (F : CaStatus → CaStatus) (g : DiskCa → DiskCa)
    (c : Prop) [Decidable c] (hF : ¬ c → F (s.view ca) = s.view ca) :
    (if c then s.write ca (F (s.view ca)) g else s).view ca' =
      if ca = ca' then F (s.view ca') else s.view ca' := by
  split
  · exact view_write s ca ca' F g
  · rename_i hn
    refine (ite_eq_right_iff.mpr fun hca => ?_).symm
    subst hca
    exact hF hn

/-- `remove_parent` is a write, made only if the cache shows the entry. -/
theorem removeParent_eq (s : Store) (ca p : String) :
    s.removeParent ca p =
      if (s.parent? ca p).isSome then
        s.write ca ((s.view ca).setParents (aerase (s.view ca).parents p))
          fun d => { d with parents := aerase d.parents p }
      else s := by
  unfold Store.removeParent Store.parent? Store.view
  split
  · rename_i h
    rw [h]
    rfl
  · rename_i cs h
    split <;> rename_i hp <;> simp [h, hp, Store.write]

theorem removeChild_eq (s : Store) (ca c : String) :
    s.removeChild ca c =
      if (s.child? ca c).isSome then
        s.write ca ((s.view ca).setChildren (aerase (s.view ca).children c))
          fun d => { d with children := aerase d.children c }
      else s := by
  unfold Store.removeChild Store.child? Store.view
  split
  · rename_i h
    rw [h]
    rfl
  · rename_i cs h
    split <;> rename_i hp <;> simp [h, hp, Store.write]

/-! ## events as calls of the store -/

/-- One call of the store's interface. -/
inductive Op where
  | repo (ca : String) (f : RepoStatus → RepoStatus)
  | parent (ca p : String) (f : ParentStatus → ParentStatus)
  | child (ca c : String) (f : ChildStatus → ChildStatus)
  | rmParent (ca p : String)
  | rmChild (ca c : String)
  | rmCa (ca : String)
  | restart
  | nop

def Store.apply (s : Store) : Op → Store
  | .repo ca f => s.updateRepo ca f
  | .parent ca p f => s.updateParent ca p f
  | .child ca c f => s.updateChild ca c f
  | .rmParent ca p => s.removeParent ca p
  | .rmChild ca c => s.removeChild ca c
  | .rmCa ca => s.removeCa ca
  | .restart => s.restart
  | .nop => s

/-- The call an event makes (`step`, arm by arm). -/
def Ev.op : Ev → Op
  | .repoList ca uri (.ok ()) now => .repo ca fun r => r.setLastUpdated uri now
  | .repoList ca uri (.error e) now => .repo ca fun r => r.setFailure uri e now
  | .repoDelta ca uri d (.ok ()) now => .repo ca fun r => r.updatePublished uri d now
  | .repoDelta ca uri _ (.error e) now => .repo ca fun r => r.setFailure uri e now
  | .parentList ca p uri _ (.ok ent) now => .parent ca p fun x => x.setEntitlements uri ent now
  | .parentList ca p uri true (.error e) now => .parent ca p fun x => x.setFailure uri e now
  | .parentList _ _ _ false (.error _) _ => .nop
  | .parentRevokes ca p uri _ (.ok ()) now => .parent ca p fun x => x.setLastUpdated uri now
  | .parentRevokes ca p uri _ (.error e) now => .parent ca p fun x => x.setFailure uri e now
  | .parentCerts ca p uri (.ok ()) now => .parent ca p fun x => x.setLastUpdated uri now
  | .parentCerts ca p uri (.error e) now => .parent ca p fun x => x.setFailure uri e now
  | .childRequest ca c agent (.ok ()) now => .child ca c fun x => x.setSuccess agent now
  | .childRequest ca c agent (.error e) now => .child ca c fun x => x.setFailure agent e now
  | .childSuspended ca c now => .child ca c fun x => x.setSuspended now
  | .parentRemove ca p => .rmParent ca p
  | .childRemove ca c => .rmChild ca c
  | .caRemove ca => .rmCa ca
  | .restart => .restart

theorem step_eq_apply (s : Store) (e : Ev) : step s e = s.apply e.op := by
  fun_cases Ev.op e <;> rfl

theorem consistent_apply (s : Store) (h : Consistent s) (o : Op) : Consistent (s.apply o) := by
  cases o with
  | repo ca f | parent ca p f | child ca c f =>
    refine consistent_write s h ca _ _ ?_
    rw [h ca]
    rfl
  | rmParent ca x | rmChild ca x =>
    simp only [Store.apply, removeParent_eq, removeChild_eq]
    split
    · refine consistent_write s h ca _ _ ?_
      rw [h ca]
      rfl
    · exact h
  | rmCa ca =>
    intro ca'
    simp only [Store.apply, Store.removeCa, Store.view, diskOr, alookup_aerase]
    split
    · rfl
    · exact h ca'
  | restart => exact fun ca => view_restart s ca
  | nop => exact h

theorem consistent_step (s : Store) (h : Consistent s) (e : Ev) : Consistent (step s e) :=
  step_eq_apply s e ▸ consistent_apply s h e.op

/-! ## what an operation does to what is shown -/

def Op.onView (ca : String) (v : CaStatus) : Op → CaStatus
  | .repo ca' f => if ca' = ca then v.setRepo (f v.repo) else v
  | .parent ca' p f =>
      if ca' = ca then v.setParents (aset v.parents p (f ((alookup v.parents p).getD {}))) else v
  | .child ca' c f =>
      if ca' = ca then v.setChildren (aset v.children c (f ((alookup v.children c).getD {}))) else v
  | .rmParent ca' p => if ca' = ca then v.setParents (aerase v.parents p) else v
  | .rmChild ca' c => if ca' = ca then v.setChildren (aerase v.children c) else v
  | .rmCa ca' => if ca' = ca then {} else v
  | .restart => v
  | .nop => v

theorem view_apply (s : Store) (h : Consistent s) (o : Op) (ca : String) :
    (s.apply o).view ca = o.onView ca (s.view ca) := by
  cases o with
  | repo ca' f => exact view_write s ca' ca (fun v => v.setRepo (f v.repo)) _
  | parent ca' p f =>
    exact view_write s ca' ca
      (fun v => v.setParents (aset v.parents p (f ((alookup v.parents p).getD {})))) _
  | child ca' c f =>
    exact view_write s ca' ca
      (fun v => v.setChildren (aset v.children c (f ((alookup v.children c).getD {})))) _
  | rmParent ca' p =>
    rw [Store.apply, removeParent_eq]
    exact view_write_if s ca' ca (fun v => v.setParents (aerase v.parents p)) _ _ fun hn =>
      congrArg _ (aerase_of_lookup_none _ _ (by simpa [Store.parent?] using hn))
  | rmChild ca' c =>
    rw [Store.apply, removeChild_eq]
    exact view_write_if s ca' ca (fun v => v.setChildren (aerase v.children c)) _ _ fun hn =>
      congrArg _ (aerase_of_lookup_none _ _ (by simpa [Store.child?] using hn))
  | rmCa ca' =>
    simp only [Store.apply, Store.removeCa, Op.onView, Store.view, alookup_aerase]
    split <;> rfl
  | restart => exact view_restart_of_consistent s h ca
  | nop => rfl

theorem view_step (s : Store) (h : Consistent s) (e : Ev) (ca : String) :
    (step s e).view ca = e.op.onView ca (s.view ca) :=
  step_eq_apply s e ▸ view_apply s h e.op ca

/-- What an operation does to one parent entry.  "This CA and this entry" is spelt as the
specification spells it (`∧` where it classifies attempts, `&&` and `decide` where it classifies
removals), so that `onParent_op` holds arm by arm by `rfl`; likewise `onChild`, `onRepo`. -/
def Op.onParent (ca p : String) (o : Option ParentStatus) : Op → Option ParentStatus
  | .parent ca' p' f => if ca' = ca ∧ p' = p then some (f (o.getD {})) else o
  | .rmParent ca' p' => if ca' = ca && p' = p then none else o
  | .rmCa ca' => if decide (ca' = ca) then none else o
  | _ => o

def Op.onChild (ca c : String) (o : Option ChildStatus) : Op → Option ChildStatus
  | .child ca' c' f => if ca' = ca ∧ c' = c then some (f (o.getD {})) else o
  | .rmChild ca' c' => if ca' = ca && c' = c then none else o
  | .rmCa ca' => if decide (ca' = ca) then none else o
  | _ => o

def Op.onRepo (ca : String) (r : RepoStatus) : Op → RepoStatus
  | .repo ca' f => if ca' = ca then f r else r
  | .rmCa ca' => if decide (ca' = ca) then {} else r
  | _ => r

theorem parents_onView (o : Op) (ca p : String) (v : CaStatus) :
    alookup (o.onView ca v).parents p = o.onParent ca p (alookup v.parents p) := by
  cases o with
  | parent ca' p' f =>
    by_cases h : ca' = ca <;> by_cases h2 : p' = p <;>
      simp [Op.onView, Op.onParent, CaStatus.setParents, alookup_aset, h, h2]
  | rmParent ca' p' =>
    by_cases h : ca' = ca <;> simp [Op.onView, Op.onParent, CaStatus.setParents, alookup_aerase, h]
  | rmCa ca' => by_cases h : ca' = ca <;> simp [Op.onView, Op.onParent, alookup, h]
  | repo ca' f | child ca' c f | rmChild ca' c =>
    exact (apply_ite (fun x : CaStatus => alookup x.parents p) ..).trans (ite_self _)
  | restart | nop => rfl

theorem children_onView (o : Op) (ca c : String) (v : CaStatus) :
    alookup (o.onView ca v).children c = o.onChild ca c (alookup v.children c) := by
  cases o with
  | child ca' c' f =>
    by_cases h : ca' = ca <;> by_cases h2 : c' = c <;>
      simp [Op.onView, Op.onChild, CaStatus.setChildren, alookup_aset, h, h2]
  | rmChild ca' c' =>
    by_cases h : ca' = ca <;> simp [Op.onView, Op.onChild, CaStatus.setChildren, alookup_aerase, h]
  | rmCa ca' => by_cases h : ca' = ca <;> simp [Op.onView, Op.onChild, alookup, h]
  | repo ca' f | parent ca' p f | rmParent ca' p =>
    exact (apply_ite (fun x : CaStatus => alookup x.children c) ..).trans (ite_self _)
  | restart | nop => rfl

theorem repo_onView (o : Op) (ca : String) (v : CaStatus) :
    (o.onView ca v).repo = o.onRepo ca v.repo := by
  cases o with
  | repo ca' f => exact apply_ite CaStatus.repo ..
  | rmCa ca' => by_cases h : ca' = ca <;> simp [Op.onView, Op.onRepo, h]
  | parent ca' p f | rmParent ca' p | child ca' c f | rmChild ca' c =>
    exact (apply_ite CaStatus.repo ..).trans (ite_self _)
  | restart | nop => rfl

/-! ## what an event does to one entry, in the terms of the specification

The projections below are written with the classifiers the statements use (`parentAttempt?`,
`removesParent`, …), so that what they do to a field can be compared with what a classifier says
without looking at the event. -/

/-- What a recorded exchange leaves in a parent's entry: the exchange, the time of a success,
and the entitlements if the reply carried any (`Ev.entitlements?`: only a successful list query
does). -/
def ParentStatus.record (st : ParentStatus) (x : Exchange) (ent : Option Entitlements) :
    ParentStatus :=
  { lastExchange := some x
    lastSuccess := if x.result = .success then some x.time else st.lastSuccess
    classes := ent.getD st.classes
    allResources :=
      (ent.map fun l => l.foldl (fun acc c => unionAtoms acc c.2) []).getD st.allResources }

/-- What a recorded exchange leaves in the repository status: a successful delta is applied to
the list. -/
def RepoStatus.record (st : RepoStatus) (x : Exchange) (d : Option (List DeltaEl)) : RepoStatus :=
  { lastExchange := some x
    lastSuccess := if x.result = .success then some x.time else st.lastSuccess
    published := if x.result = .success then (d.map (applyDelta st.published)).getD st.published
      else st.published }

/-- What a processed request leaves in a child's entry: either outcome clears the suspension
marker. -/
def ChildStatus.record (st : ChildStatus) (x : ChildExchange) : ChildStatus :=
  { lastExchange := some x
    lastSuccess := if x.result = .success then some x.time else st.lastSuccess
    suspended := none }

def Ev.entitlements? : Ev → Option Entitlements
  | .parentList _ _ _ _ (.ok ent) _ => some ent
  | _ => none

def Ev.delta? : Ev → Option (List DeltaEl)
  | .repoDelta _ _ d _ _ => some d
  | _ => none

def parentProj (e : Ev) (ca p : String) (o : Option ParentStatus) : Option ParentStatus :=
  match e.parentAttempt? with
  | some (ca', p', x) =>
      if ca' = ca ∧ p' = p then some ((o.getD {}).record x e.entitlements?) else o
  | none => if e.removesParent ca p then none else o

def repoProj (e : Ev) (ca : String) (r : RepoStatus) : RepoStatus :=
  match e.repoAttempt? with
  | some (ca', x) => if ca' = ca then r.record x e.delta? else r
  | none => if e.removesCa ca then {} else r

/-- The child an inactivity check marks, and when. -/
def Ev.suspends? : Ev → Option (String × String × Nat)
  | .childSuspended ca c now => some (ca, c, now)
  | _ => none

def childProj (e : Ev) (ca c : String) (o : Option ChildStatus) : Option ChildStatus :=
  match e.childAttempt? with
  | some (ca', c', x) => if ca' = ca ∧ c' = c then some ((o.getD {}).record x) else o
  | none =>
    if e.removesChild ca c then none else
    match e.suspends? with
    | some (ca', c', now) => if ca' = ca ∧ c' = c then some ((o.getD {}).setSuspended now) else o
    | none => o

theorem onParent_op (e : Ev) (ca p : String) (o : Option ParentStatus) :
    e.op.onParent ca p o = parentProj e ca p o := by
  fun_cases Ev.op e <;> rfl

theorem onRepo_op (e : Ev) (ca : String) (r : RepoStatus) : e.op.onRepo ca r = repoProj e ca r := by
  fun_cases Ev.op e <;> rfl

theorem onChild_op (e : Ev) (ca c : String) (o : Option ChildStatus) :
    e.op.onChild ca c o = childProj e ca c o := by
  fun_cases Ev.op e <;> rfl

theorem parents_ev (e : Ev) (ca p : String) (v : CaStatus) :
    alookup (e.op.onView ca v).parents p = parentProj e ca p (alookup v.parents p) :=
  (parents_onView ..).trans (onParent_op ..)

theorem children_ev (e : Ev) (ca c : String) (v : CaStatus) :
    alookup (e.op.onView ca v).children c = childProj e ca c (alookup v.children c) :=
  (children_onView ..).trans (onChild_op ..)

theorem repo_ev (e : Ev) (ca : String) (v : CaStatus) : (e.op.onView ca v).repo = repoProj e ca v.repo :=
  (repo_onView ..).trans (onRepo_op ..)

theorem parent?_step (s : Store) (h : Consistent s) (e : Ev) (ca p : String) :
    (step s e).parent? ca p = parentProj e ca p (s.parent? ca p) := by
  rw [Store.parent?, view_step s h, parents_ev]; rfl

theorem repo_step (s : Store) (h : Consistent s) (e : Ev) (ca : String) :
    (step s e).repo ca = repoProj e ca (s.repo ca) := by
  rw [Store.repo, view_step s h, repo_ev]; rfl

theorem run_append (s : Store) (a b : List Ev) : run s (a ++ b) = run (run s a) b :=
  List.foldl_append ..

theorem run_cons (s : Store) (e : Ev) (t : List Ev) : run s (e :: t) = run (step s e) t := rfl

theorem consistent_run (s : Store) (h : Consistent s) (evs : List Ev) : Consistent (run s evs) :=
  List.foldlRecOn evs step h fun s hs e _ => consistent_step s hs e

/-- What is shown after a history is a fold over what was shown before. -/
theorem view_run (s : Store) (h : Consistent s) (evs : List Ev) (ca : String) :
    (run s evs).view ca = evs.foldl (fun v e => e.op.onView ca v) (s.view ca) := by
  induction evs generalizing s with
  | nil => rfl
  | cons e t ih => rw [run_cons, ih _ (consistent_step s h e), view_step s h]; rfl

theorem view_untouched {γ : Type} (g : CaStatus → γ) {evs : List Ev} {ca : String}
    (hkeep : ∀ e ∈ evs, ∀ v, g (e.op.onView ca v) = g v) {s : Store} (h : Consistent s) :
    g ((run s evs).view ca) = g (s.view ca) :=
  view_run s h evs ca ▸ Fold.foldl_keeps g hkeep _

/-- What is observed after `pre ++ e :: post` when no event of `post` changes the observation: what `e` made of
the view after `pre`. -/
theorem view_split {γ : Type} (g : CaStatus → γ) {s : Store} (h : Consistent s) (pre post : List Ev) (e : Ev)
    {ca : String} (hpost : ∀ e' ∈ post, ∀ v, g (e'.op.onView ca v) = g v) :
    g ((run s (pre ++ e :: post)).view ca) = g (e.op.onView ca ((run s pre).view ca)) := by
  have hc := consistent_run s h pre
  rw [run_append, run_cons, view_untouched g hpost (consistent_step _ hc e), view_step _ hc]

/-! ## the view is what the most recent event says -/

/-- `Fold.foldl_lastSome` for events: the specification's `lastTouch` is `Fold.lastSome`. -/
theorem foldl_lastTouch {σ γ} (proj : Ev → σ → σ) (obs : σ → γ) (cls : Ev → Option γ)
    (h : ∀ e o, obs (proj e o) = (cls e).getD (obs o))
    (evs : List Ev) (o0 : σ) :
    obs (evs.foldl (fun o e => proj e o) o0) = (lastTouch cls evs).getD (obs o0) :=
  Fold.foldl_lastSome (fun o e => proj e o) obs cls (fun o e => h e o) evs o0

theorem lastTouch_snoc {β} (cls : Ev → Option β) (evs : List Ev) (e : Ev) (d : β) :
    (lastTouch cls (evs ++ [e])).getD d = (cls e).getD ((lastTouch cls evs).getD d) := by
  rw [lastTouch, ← Fold.lastSome, Fold.lastSome_append, Fold.lastSome_cons]
  cases cls e <;> rfl

/-- The last writer wins: `read` is something the view of `ca` shows that every event either settles outright
(`says e = some x`) or leaves alone.  Eight of the ten fields of the status views are of this kind, with the classifier
of the specification as `says`; a child's `lastSuccess` has no classifier there (`childProj_keeps_lastSuccess`), and
`published` is compared with the server's content through `PerUri`.  That a later event leaves a field alone is
`says e = none` (`keeps`, from the `…Says_none` lemmas) where the hypothesis is about that field, and `touches… = false`
(`parents_untouched`, `repo_untouched`, `children_untouched`) where the event does not concern the entry at all. -/
def LastWriter {γ : Type} (ca : String) (read : CaStatus → γ) (says : Ev → Option γ) : Prop :=
  ∀ e v, read (e.op.onView ca v) = (says e).getD (read v)

namespace LastWriter
variable {γ : Type} {ca : String} {read : CaStatus → γ} {says : Ev → Option γ} (F : LastWriter ca read says)
  {s : Store}
include F

theorem run (h : Consistent s) (evs : List Ev) :
    read ((Status.run s evs).view ca) = (lastTouch says evs).getD (read (s.view ca)) :=
  view_run s h evs ca ▸ foldl_lastTouch (fun e v => e.op.onView ca v) read says F evs _

theorem snoc (h : Consistent s) {evs : List Ev} {d : γ} (hs : read (s.view ca) = (lastTouch says evs).getD d)
    (e : Ev) : read ((step s e).view ca) = (lastTouch says (evs ++ [e])).getD d := by
  rw [view_step s h, F, lastTouch_snoc, hs]

theorem keeps {e : Ev} (he : says e = none) (v : CaStatus) : read (e.op.onView ca v) = read v :=
  (F e v).trans (he ▸ rfl)

/-- After `pre ++ e :: post`, when `e` settles the field and no event of `post` changes it: what `e` said. -/
theorem split (h : Consistent s) (pre post : List Ev) (e : Ev) (x : γ)
    (hpost : ∀ e' ∈ post, ∀ v, read (e'.op.onView ca v) = read v) (he : says e = some x) :
    read ((Status.run s (pre ++ e :: post)).view ca) = x :=
  (view_split read h pre post e hpost).trans ((F e _).trans (he ▸ rfl))

end LastWriter

/-! ## what the classifiers say about the projections -/

theorem Exchange.optFailure_eq_some (x : Exchange) (err : String) :
    x.optFailure = some err ↔ x.result = .failure err := by
  unfold Exchange.optFailure
  cases x.result <;> simp

theorem wasSuccess_iff (r : Result) : r.wasSuccess = true ↔ r = .success := by
  cases r <;> simp [Result.wasSuccess]

/-- The classifiers test "this CA and this entry" as a Boolean, the projections as a proposition. -/
theorem not_and_of_band_false {a b : Prop} [Decidable a] [Decidable b]
    (h : (decide a && decide b) = false) : ¬ (a ∧ b) :=
  fun hab => by simp [hab.1, hab.2] at h

theorem parents_untouched {e : Ev} {ca p : String} (h : e.touchesParent ca p = false) (v : CaStatus) :
    alookup (e.op.onView ca v).parents p = alookup v.parents p := by
  rw [parents_ev]
  cases e with
  | parentList ca' p' _ ex r _ =>
    have h' : ¬ (ca' = ca ∧ p' = p) := not_and_of_band_false h
    cases r with
    | ok _ => exact if_neg h'
    | error _ => cases ex with
      | true => exact if_neg h'
      | false => rfl
  | parentRevokes | parentCerts => exact if_neg (not_and_of_band_false h)
  | parentRemove | caRemove => exact if_neg (Bool.eq_false_iff.mp h)
  | _ => rfl

theorem parentExchange (ca p : String) :
    LastWriter ca (fun v => (alookup v.parents p).bind (·.lastExchange)) (Ev.parentExchangeSays ca p) := fun e v => by
  simp only [parents_ev]
  unfold parentProj Ev.parentExchangeSays
  cases e.parentAttempt? with
  | none => dsimp only; split <;> rfl
  | some t => dsimp only; split <;> rfl

theorem parentSuccess (ca p : String) :
    LastWriter ca (fun v => (alookup v.parents p).bind (·.lastSuccess)) (Ev.parentSuccessSays ca p) := fun e v => by
  simp only [parents_ev]
  generalize alookup v.parents p = o
  unfold parentProj Ev.parentSuccessSays
  cases e.parentAttempt? with
  | none => dsimp only; split <;> rfl
  | some t =>
    obtain ⟨ca', p', x⟩ := t
    dsimp only
    by_cases h : ca' = ca ∧ p' = p
    · by_cases hx : x.result = .success
      · rw [if_pos h, if_pos ⟨h.1, h.2, hx⟩]; exact if_pos hx
      · rw [if_pos h, if_neg (fun hh => hx hh.2.2)]
        exact (if_neg hx).trans (by cases o <;> rfl)
    · rw [if_neg h, if_neg (fun hh => h ⟨hh.1, hh.2.1⟩)]; rfl

/-- `entitlementsSay` in the terms of `parentProj`. -/
theorem entitlementsSay_eq (e : Ev) (ca p : String) :
    e.entitlementsSay ca p =
      match e.parentAttempt? with
      | some (ca', p', _) => if ca' = ca ∧ p' = p then e.entitlements? else none
      | none => if e.removesParent ca p then some [] else none := by
  cases e with
  | parentList _ _ _ ex r _ =>
    cases r with
    | ok _ => rfl
    | error _ => cases ex with
      | true => exact (ite_self _).symm
      | false => rfl
  | parentRevokes | parentCerts => exact (ite_self _).symm
  | _ => rfl

theorem entitlements?_of_failed (e : Ev) (ca p : String) (x : Exchange)
    (h : e.parentAttempt? = some (ca, p, x)) (hx : x.result ≠ .success) : e.entitlements? = none := by
  cases e with
  | parentList _ _ _ ex r _ =>
    cases r with
    | ok _ => cases h; exact absurd rfl hx
    | error _ => rfl
  | _ => rfl

theorem parentProj_entitlementsSay (e : Ev) (ca p : String) (o : Option ParentStatus) :
    ((parentProj e ca p o).getD {}).classes = (e.entitlementsSay ca p).getD (o.getD {}).classes ∧
    ((parentProj e ca p o).getD {}).allResources =
      ((e.entitlementsSay ca p).map fun l => l.foldl (fun acc c => unionAtoms acc c.2) []).getD
        (o.getD {}).allResources := by
  rw [entitlementsSay_eq]
  unfold parentProj
  cases e.parentAttempt? with
  | none => dsimp only; split <;> exact ⟨rfl, rfl⟩
  | some t => dsimp only; split <;> exact ⟨rfl, rfl⟩

theorem entitlements (ca p : String) :
    LastWriter ca (fun v => ((alookup v.parents p).getD {}).classes) (Ev.entitlementsSay ca p) :=
  fun e v => by simpa only [parents_ev] using (parentProj_entitlementsSay e ca p _).1

theorem allResources (ca p : String) :
    LastWriter ca (fun v => ((alookup v.parents p).getD {}).allResources)
      fun e => (e.entitlementsSay ca p).map fun l => l.foldl (fun acc c => unionAtoms acc c.2) [] :=
  fun e v => by simpa only [parents_ev] using (parentProj_entitlementsSay e ca p _).2

theorem parentSuccessSays_none (e : Ev) (ca p : String)
    (h1 : e.parentSuccess ca p = false) (h2 : e.removesParent ca p = false) :
    e.parentSuccessSays ca p = none := by
  unfold Ev.parentSuccessSays
  unfold Ev.parentSuccess at h1
  cases ha : e.parentAttempt? with
  | none => dsimp only; rw [h2]; rfl
  | some t =>
    obtain ⟨ca', p', x⟩ := t
    rw [ha] at h1
    refine if_neg fun hh => ?_
    simp [hh.1, hh.2.1, (wasSuccess_iff _).mpr hh.2.2] at h1

theorem entitlementsSay_none (e : Ev) (ca p : String)
    (h1 : e.parentListSuccess ca p = false) (h2 : e.removesParent ca p = false) :
    e.entitlementsSay ca p = none := by
  unfold Ev.entitlementsSay
  unfold Ev.parentListSuccess at h1
  split
  · exact if_neg (by simpa using h1)
  · rw [h2]; rfl

theorem repo_untouched {e : Ev} {ca : String} (h : e.touchesRepo ca = false) (v : CaStatus) :
    (e.op.onView ca v).repo = v.repo := by
  rw [repo_ev]
  cases e with
  | repoList | repoDelta => exact if_neg (of_decide_eq_false h)
  | caRemove => exact if_neg (Bool.eq_false_iff.mp h)
  | _ => rfl

theorem repoExchange (ca : String) :
    LastWriter ca (fun v => v.repo.lastExchange) (Ev.repoExchangeSays ca) := fun e v => by
  simp only [repo_ev]
  unfold repoProj Ev.repoExchangeSays
  cases e.repoAttempt? with
  | none => dsimp only; split <;> rfl
  | some t => dsimp only; split <;> rfl

theorem repoSuccess (ca : String) :
    LastWriter ca (fun v => v.repo.lastSuccess) (Ev.repoSuccessSays ca) := fun e v => by
  simp only [repo_ev]
  unfold repoProj Ev.repoSuccessSays
  cases e.repoAttempt? with
  | none => dsimp only; split <;> rfl
  | some t =>
    obtain ⟨ca', x⟩ := t
    dsimp only
    by_cases h : ca' = ca
    · by_cases hx : x.result = .success
      · rw [if_pos h, if_pos ⟨h, hx⟩]; exact if_pos hx
      · rw [if_pos h, if_neg (fun hh => hx hh.2)]; exact if_neg hx
    · rw [if_neg h, if_neg (fun hh => h hh.1)]; rfl

theorem repoSuccessSays_none (e : Ev) (ca : String)
    (h1 : e.repoSuccess ca = false) (h2 : e.removesCa ca = false) :
    e.repoSuccessSays ca = none := by
  unfold Ev.repoSuccessSays
  unfold Ev.repoSuccess at h1
  cases ha : e.repoAttempt? with
  | none => dsimp only; rw [h2]; rfl
  | some t =>
    obtain ⟨ca', x⟩ := t
    rw [ha] at h1
    refine if_neg fun hh => ?_
    simp [hh.1, (wasSuccess_iff _).mpr hh.2] at h1

theorem repoProj_keeps_nodup (e : Ev) (ca : String) (r : RepoStatus)
    (hr : (r.published.map (·.1)).Nodup) : ((repoProj e ca r).published.map (·.1)).Nodup := by
  fun_cases repoProj e ca r
  · unfold RepoStatus.record
    dsimp only
    split
    · cases e.delta? with
      | none => exact hr
      | some d => exact nodup_applyDelta r.published d hr
    · exact hr
  · exact hr
  · exact List.nodup_nil
  · exact hr

theorem published_repoList (ca uri : String) (r : Except String Unit) (now : Nat) (st : RepoStatus) :
    (repoProj (.repoList ca uri r now) ca st).published = st.published := by
  simp [repoProj, Ev.repoAttempt?, RepoStatus.record, Ev.delta?]

theorem published_repoDelta (ca uri : String) (d : List DeltaEl) (r : Except String Unit) (now : Nat)
    (st : RepoStatus) :
    (repoProj (.repoDelta ca uri d r now) ca st).published =
      match r with
      | .ok _ => applyDelta st.published d
      | .error _ => st.published := by
  cases r <;> simp [repoProj, Ev.repoAttempt?, RepoStatus.record, Ev.delta?, resultOf]

theorem children_untouched {e : Ev} {ca c : String} (h : e.touchesChild ca c = false) (v : CaStatus) :
    alookup (e.op.onView ca v).children c = alookup v.children c := by
  rw [children_ev]
  generalize alookup v.children c = o
  cases e with
  | childRequest => exact if_neg (not_and_of_band_false h)
  | childSuspended ca' c' now =>
    show (if false = true then none else if ca' = ca ∧ c' = c then _ else o) = o
    rw [if_neg Bool.false_ne_true, if_neg (not_and_of_band_false h)]
  | childRemove | caRemove => exact if_neg (Bool.eq_false_iff.mp h)
  | _ => rfl

theorem childExchange (ca c : String) :
    LastWriter ca (fun v => (alookup v.children c).bind (·.lastExchange)) (Ev.childExchangeSays ca c) := fun e v => by
  simp only [children_ev]
  generalize alookup v.children c = o
  unfold childProj Ev.childExchangeSays
  cases e.childAttempt? with
  | some t => dsimp only; split <;> rfl
  | none =>
    dsimp only
    split
    · rfl
    · cases e.suspends? with
      | none => rfl
      | some t =>
        dsimp only
        split
        · cases o <;> rfl
        · rfl

theorem childRequestOf_eq (e : Ev) (ca c : String) :
    e.childRequestOf ca c =
      match e.childAttempt? with
      | some (ca', c', _) => decide (ca' = ca) && decide (c' = c)
      | none => false := by
  cases e <;> rfl

theorem childExchangeSays_none (e : Ev) (ca c : String)
    (h1 : e.childRequestOf ca c = false) (h2 : e.removesChild ca c = false) :
    e.childExchangeSays ca c = none := by
  unfold Ev.childExchangeSays
  rw [childRequestOf_eq] at h1
  cases ha : e.childAttempt? with
  | none => dsimp only; rw [h2]; rfl
  | some t =>
    obtain ⟨ca', c', x⟩ := t
    rw [ha] at h1
    exact if_neg (not_and_of_band_false h1)

/-- `suspendedSays` in the terms of `childProj`. -/
theorem suspendedSays_eq (e : Ev) (ca c : String) :
    e.suspendedSays ca c =
      match e.childAttempt? with
      | some (ca', c', _) => if ca' = ca ∧ c' = c then some none else none
      | none =>
        if e.removesChild ca c then some none else
        match e.suspends? with
        | some (ca', c', now) => if ca' = ca ∧ c' = c then some (some now) else none
        | none => none := by
  cases e <;> rfl

theorem suspended (ca c : String) :
    LastWriter ca (fun v => (alookup v.children c).bind (·.suspended)) (Ev.suspendedSays ca c) := fun e v => by
  simp only [children_ev, suspendedSays_eq]
  unfold childProj
  cases e.childAttempt? with
  | some t => dsimp only; split <;> rfl
  | none =>
    dsimp only
    split
    · rfl
    · cases e.suspends? with
      | none => rfl
      | some t => dsimp only; split <;> rfl

theorem childProj_keeps_lastSuccess (e : Ev) (ca c : String) (o : Option ChildStatus)
    (h1 : e.childSuccess ca c = false) (h2 : e.removesChild ca c = false) :
    (childProj e ca c o).bind (·.lastSuccess) = o.bind (·.lastSuccess) := by
  unfold Ev.childSuccess at h1
  fun_cases childProj e ca c o
  · -- a processed request of this child: not a success, so the time of the last success stays
    rename_i ca' c' x ha hh
    have hx : ¬ x.result = .success := fun hx => by
      simp [ha, hh.1, hh.2, (wasSuccess_iff _).mpr hx] at h1
    exact (if_neg hx).trans (by cases o <;> rfl)
  · rfl
  · rename_i hr
    cases h2.symm.trans hr
  · cases o <;> rfl
  · rfl
  · rfl

/-! ## the invariant -/

/-- **The invariant of the status store.**  `s` is the store after history `evs` (any events:
exchanges with any outcome, removals, re-adding – which is just a new exchange –, restarts):
cache and storage agree, and each of the seven fields it has a clause for is what the most recent event
concerning it says; no URI is listed twice. -/
structure StatusInv (evs : List Ev) (s : Store) : Prop where
  consistent : Consistent s
  parentExchange : ∀ ca p, (s.parent? ca p).bind (·.lastExchange) =
    (lastTouch (Ev.parentExchangeSays ca p) evs).getD none
  parentSuccess : ∀ ca p, (s.parent? ca p).bind (·.lastSuccess) =
    (lastTouch (Ev.parentSuccessSays ca p) evs).getD none
  entitlements : ∀ ca p, ((s.parent? ca p).getD {}).classes =
    (lastTouch (Ev.entitlementsSay ca p) evs).getD []
  repoExchange : ∀ ca, (s.repo ca).lastExchange = (lastTouch (Ev.repoExchangeSays ca) evs).getD none
  repoSuccess : ∀ ca, (s.repo ca).lastSuccess = (lastTouch (Ev.repoSuccessSays ca) evs).getD none
  childExchange : ∀ ca c, (s.child? ca c).bind (·.lastExchange) =
    (lastTouch (Ev.childExchangeSays ca c) evs).getD none
  suspended : ∀ ca c, (s.child? ca c).bind (·.suspended) =
    (lastTouch (Ev.suspendedSays ca c) evs).getD none
  noDuplicates : ∀ ca, ((s.repo ca).published.map (·.1)).Nodup

theorem statusInv_init : StatusInv [] Store.empty where
  consistent := consistent_empty
  parentExchange := fun _ _ => rfl
  parentSuccess := fun _ _ => rfl
  entitlements := fun _ _ => rfl
  repoExchange := fun _ => rfl
  repoSuccess := fun _ => rfl
  childExchange := fun _ _ => rfl
  suspended := fun _ _ => rfl
  noDuplicates := fun _ => List.nodup_nil

theorem statusInv_step (evs : List Ev) (s : Store) (h : StatusInv evs s) (e : Ev) :
    StatusInv (evs ++ [e]) (step s e) where
  consistent := consistent_step s h.consistent e
  parentExchange ca p := (parentExchange ca p).snoc h.consistent (h.parentExchange ca p) e
  parentSuccess ca p := (parentSuccess ca p).snoc h.consistent (h.parentSuccess ca p) e
  entitlements ca p := (entitlements ca p).snoc h.consistent (h.entitlements ca p) e
  repoExchange ca := (repoExchange ca).snoc h.consistent (h.repoExchange ca) e
  repoSuccess ca := (repoSuccess ca).snoc h.consistent (h.repoSuccess ca) e
  childExchange ca c := (childExchange ca c).snoc h.consistent (h.childExchange ca c) e
  suspended ca c := (suspended ca c).snoc h.consistent (h.suspended ca c) e
  noDuplicates ca := repo_step s h.consistent e ca ▸ repoProj_keeps_nodup e ca _ (h.noDuplicates ca)

theorem statusInv_run_from (pre evs : List Ev) (s : Store) (h : StatusInv pre s) :
    StatusInv (pre ++ evs) (run s evs) := by
  induction evs generalizing pre s with
  | nil => exact (List.append_nil pre).symm ▸ h
  | cons e t ih =>
    exact List.append_cons pre e t ▸ ih (pre ++ [e]) (step s e) (statusInv_step pre s h e)

theorem statusInv_run (evs : List Ev) : StatusInv evs (run Store.empty evs) :=
  statusInv_run_from [] evs Store.empty statusInv_init

/-! ## status store next to the publication server -/

/-- One synchronisation applies one delta, possibly the empty one, to the list shown, and the same
delta to the server's content if the server knows the publisher: an accepted delta is applied by
the server as the shadow list applies it (`srvApply_eq`), a refused one by neither. -/
theorem wstep_sync (ca uri : String) (w : World) (hc : Consistent w.store)
    (objects : List File) (now : Nat) :
    Consistent (wstep ca uri w (.sync objects now)).store ∧
    ∃ d, (wstep ca uri w (.sync objects now)).server = w.server.map (applyDelta · d) ∧
      ((wstep ca uri w (.sync objects now)).store.repo ca).published =
        applyDelta (w.store.repo ca).published d := by
  refine ⟨consistent_run _ hc _, ?_⟩
  have pub1 : ((run w.store [Ev.repoList ca uri (.ok ()) now]).repo ca).published =
      (w.store.repo ca).published := by
    rw [run_cons, run, List.foldl_nil, repo_step _ hc, published_repoList]
  have pub : ∀ d r, ((run w.store [Ev.repoList ca uri (.ok ()) now, .repoDelta ca uri d r now]).repo ca).published =
      match r with
      | .ok _ => applyDelta (w.store.repo ca).published d
      | .error _ => (w.store.repo ca).published := fun d r => by
    rw [run_cons, run_cons, run, List.foldl_nil, repo_step _ (consistent_step _ hc _), repo_step _ hc,
      published_repoDelta, published_repoList]
  simp only [wstep, repoSyncEvents]
  cases w.server with
  | none =>
    simp only [↓reduceIte]
    split
    · exact ⟨[], rfl, pub1⟩
    · exact ⟨[], rfl, pub ..⟩
  | some m =>
    dsimp only
    split
    · exact ⟨[], rfl, pub1⟩
    · cases hacc : srvApply m (diffDelta m objects) with
      | some m' => exact ⟨_, congrArg some (srvApply_eq m m' _ hacc), pub ..⟩
      | none => exact ⟨[], rfl, pub ..⟩

/-- The invariant of the status store next to the server: what the server holds is shown, up to `R`. -/
def WorldRel (R : List String → List String → Prop) (ca : String) (w : World) : Prop :=
  Consistent w.store ∧ ∀ m, w.server = some m → PerUri R (w.store.repo ca).published m

/-- Kept by every event that is no repository exchange of its own.  A publisher added without content needs
`R c []`: covering has it, equality has not, and that is all that sets the two apart. -/
theorem wstep_keeps {R : List String → List String → Prop} (hR : ∀ c, R c c) (ca uri : String) (w : World)
    (h : WorldRel R ca w) (e : WEv) (he : e.foreign ca = false)
    (hadd : e = .publisherAdded → ∀ c, R c []) : WorldRel R ca (wstep ca uri w e) := by
  obtain ⟨hc, hrel⟩ := h
  cases e with
  | publisherRemoved => exact ⟨hc, fun m hm => nomatch hm⟩
  | publisherAdded =>
    refine ⟨hc, fun m hm => ?_⟩
    cases Option.some.inj hm
    cases hs : w.server with
    | none => exact fun u => hadd rfl _
    | some m0 => exact hrel m0 hs
  | other ev =>
    refine ⟨consistent_step _ hc ev, fun m hm => ?_⟩
    show PerUri R ((step w.store ev).repo ca).published m
    rw [Store.repo, view_step _ hc, repo_untouched he]
    exact hrel m hm
  | sync objects now =>
    obtain ⟨hc', d, h1, h2⟩ := wstep_sync ca uri w hc objects now
    refine ⟨hc', fun m hm => ?_⟩
    obtain ⟨m0, hs, rfl⟩ := Option.map_eq_some_iff.mp (h1 ▸ hm)
    exact h2 ▸ perUri_applyDelta hR _ m0 d (hrel m0 hs)

/-- The server keeps knowing the publisher unless it is removed out of band. -/
theorem wstep_server_isSome (ca uri : String) (w : World) (hc : Consistent w.store) (e : WEv)
    (he : e.outOfBand = false) (h : w.server.isSome) : (wstep ca uri w e).server.isSome := by
  cases e with
  | publisherRemoved | publisherAdded => cases he
  | other ev => exact h
  | sync objects now =>
    obtain ⟨_, d, h1, _⟩ := wstep_sync ca uri w hc objects now
    rw [h1, Option.isSome_map]; exact h

end KM.Status
