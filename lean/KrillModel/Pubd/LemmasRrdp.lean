/-
`update_rrdp_files` at every cut (`rrdp_cut_facts`): data files are only added, consistency depends
only on the files the notification names, the clean-up spares them; and the invariant relating the
state of the RRDP server to the files (`FsInv` per mutation, `FInv`).
-/
import KrillModel.Pubd.LemmasLog
import KrillModel.Pubd.LemmasAggregate
namespace KM.Pubd

/-! ## the files as a map, and what a mutation does to it -/

theorem RrdpFs.get?_remove (fs : RrdpFs) (q p : Path) :
    (fs.remove q).get? p = if p = q then none else fs.get? p :=
  Assoc.lookup_erase fs q p

theorem RrdpFs.get?_removeTree (fs : RrdpFs) (q p : Path) :
    (fs.removeTree q).get? p = if q.isPrefixOf p then none else fs.get? p := by
  rw [RrdpFs.get?, RrdpFs.removeTree, Assoc.lookup_filter fs (fun x => !(q.isPrefixOf x))]
  cases q.isPrefixOf p <;> rfl

theorem RrdpFs.get?_set (fs : RrdpFs) (q p : Path) (c : FileC) :
    (fs.set q c).get? p = if p = q then some c else fs.get? p :=
  Assoc.lookup_insert fs q p c

theorem RrdpFs.get?_some_mem {fs : RrdpFs} {p : Path} {c : FileC} (h : fs.get? p = some c) :
    (p, c) ∈ fs :=
  Assoc.mem_of_lookup h

theorem mem_set_path {fs : RrdpFs} {q : Path} {c : FileC} {e : Path × FileC}
    (h : e ∈ fs.set q c) : e.1 = q ∨ e ∈ fs := by
  unfold RrdpFs.set at h
  rcases List.mem_cons.mp h with rfl | h
  · exact Or.inl rfl
  · exact Or.inr (List.mem_filter.mp h).1

theorem RrdpFs.applyAll_append (fs : RrdpFs) (a b : List Mut) :
    fs.applyAll (a ++ b) = (fs.applyAll a).applyAll b := by
  unfold RrdpFs.applyAll; rw [List.foldl_append]

def Mut.removes : Mut → Path → Bool
  | .create _ _, _ => false
  | .rename _ _, _ => false
  | .removeTree q, p => q.isPrefixOf p
  | .removeFile q, p => p == q
  | .removeAny q, p => q.isPrefixOf p

def Mut.isRemoval : Mut → Bool
  | .removeTree _ => true
  | .removeFile _ => true
  | .removeAny _ => true
  | _ => false

theorem get?_apply_rename_ne (fs : RrdpFs) {a b p : Path} (ha : p ≠ a) (hb : p ≠ b) :
    (fs.apply (.rename a b)).get? p = fs.get? p := by
  rw [RrdpFs.apply]
  split
  · rw [RrdpFs.get?_set, if_neg hb, RrdpFs.get?_remove, if_neg ha]
  · rfl

theorem get?_apply_removal (fs : RrdpFs) {m : Mut} (hr : m.isRemoval = true) (p : Path) :
    (fs.apply m).get? p = if m.removes p then none else fs.get? p := by
  cases m with
  | create _ _ => cases hr
  | rename _ _ => cases hr
  | removeTree q => exact RrdpFs.get?_removeTree fs q p
  | removeFile q => simp only [RrdpFs.apply, Mut.removes, RrdpFs.get?_remove, beq_iff_eq]
  | removeAny q => exact RrdpFs.get?_removeTree fs q p

theorem get?_applyAll_removals (ms : List Mut) (p : Path)
    (h : ∀ m ∈ ms, m.isRemoval = true ∧ m.removes p = false) (fs : RrdpFs) :
    (fs.applyAll ms).get? p = fs.get? p :=
  List.foldlRecOn (motive := fun fs' : RrdpFs => fs'.get? p = fs.get? p) ms _ rfl fun fs' hfs m hm => by
    rw [get?_apply_removal fs' (h m hm).1, (h m hm).2]
    exact hfs

def Mut.target : Mut → Option Path
  | .create p _ => some p
  | .rename _ b => some b
  | _ => none

theorem mem_apply_path {fs : RrdpFs} {m : Mut} {e : Path × FileC} (h : e ∈ fs.apply m) :
    (∃ e' ∈ fs, e'.1 = e.1) ∨ m.target = some e.1 := by
  revert h
  fun_cases RrdpFs.apply fs m with
  | case1 p c =>
    intro h
    rcases mem_set_path h with h | h
    · exact Or.inr (by rw [h]; rfl)
    · exact Or.inl ⟨e, h, rfl⟩
  | case2 a b c hg =>
    intro h
    rcases mem_set_path h with h | h
    · exact Or.inr (by rw [h]; rfl)
    · exact Or.inl ⟨e, (List.mem_filter.mp h).1, rfl⟩
  | case3 a b hg => exact fun h => Or.inl ⟨e, h, rfl⟩
  | _ => exact fun h => Or.inl ⟨e, (List.mem_filter.mp h).1, rfl⟩

/-- What holds of the paths there are and of the targets of the mutations holds of the paths
afterwards. -/
theorem paths_applyAll {P : Path → Prop} {fs : RrdpFs} (h : ∀ e ∈ fs, P e.1) (ms : List Mut)
    (hms : ∀ m ∈ ms, ∀ q, m.target = some q → P q) : ∀ e ∈ fs.applyAll ms, P e.1 :=
  List.foldlRecOn (motive := fun fs' : RrdpFs => ∀ e ∈ fs', P e.1) ms _ h fun _ hfs m hm _ he =>
    (mem_apply_path he).elim (fun ⟨e', he', hp⟩ => hp ▸ hfs e' he') (hms m hm _)

/-! ## consistency depends on the notification and on the files it names -/

def Notif.refs (n : Notif) : List DataRef := n.snap :: n.deltas.map (·.2)

/-- The files a notification names exist with the stated content. -/
def RefsOk (fs : RrdpFs) (n : Notif) : Prop := ∀ x ∈ n.refs, fs.get? x.path = some (.data x.data)

theorem notification_eq_some {fs : RrdpFs} {n : Notif} :
    fs.notification = some n ↔ fs.get? notifPath = some (.notif n) := by
  unfold RrdpFs.notification
  split
  · next m heq => rw [heq]; exact ⟨fun h => by cases h; rfl, fun h => by cases h; rfl⟩
  · next hne => exact ⟨nofun, fun h => absurd h (hne n)⟩

theorem consistent_iff (fs : RrdpFs) :
    fs.consistent = true ↔
      (fs.get? notifPath = none ∨ ∃ n, fs.get? notifPath = some (.notif n) ∧ RefsOk fs n) := by
  unfold RrdpFs.consistent RefsOk Notif.refs
  cases fs.get? notifPath with
  | none => exact ⟨fun _ => .inl rfl, fun _ => rfl⟩
  | some c =>
    cases c with
    | notif n =>
      simp only [RrdpFs.refOk, Bool.and_eq_true, beq_iff_eq, List.all_eq_true, List.forall_mem_cons,
        List.forall_mem_map]
      exact ⟨fun h => .inr ⟨n, rfl, h⟩, fun h => by
        rcases h with h | ⟨n', hn, h⟩
        · cases h
        · cases hn; exact h⟩
    | _ => exact ⟨(fun h => nomatch h), fun h => by
        rcases h with h | ⟨n, hn, _⟩
        · cases h
        · cases hn⟩

/-- Consistency depends only on the notification and on the files it names. -/
theorem consistent_mono {fs fs' : RrdpFs} (hn : fs'.get? notifPath = fs.get? notifPath)
    (hkeep : ∀ n, fs.get? notifPath = some (.notif n) → ∀ x ∈ n.refs, ∀ c,
      fs.get? x.path = some c → fs'.get? x.path = some c)
    (hc : fs.consistent = true) : fs'.consistent = true := by
  rw [consistent_iff] at hc ⊢
  rcases hc with h | ⟨n, h, hrefs⟩
  · exact .inl (hn.trans h)
  · exact .inr ⟨n, hn.trans h, fun x hx => hkeep n h x hx _ (hrefs x hx)⟩

/-! ## data files are only added -/

/-- `(path, content)` pairs that may be (re)written: whatever is at such a path already has
that content, and a path determines the content. -/
structure SafeSet (fs : RrdpFs) (S : List (Path × DataFile)) : Prop where
  safe : ∀ e ∈ S, ∀ c, fs.get? e.1 = some c → c = .data e.2
  func : ∀ e ∈ S, ∀ e' ∈ S, e.1 = e'.1 → e.2 = e'.2

theorem SafeSet.set {fs : RrdpFs} {S : List (Path × DataFile)} (hs : SafeSet fs S)
    {a : Path × DataFile} (ha : a ∈ S) :
    SafeSet (fs.set a.1 (.data a.2)) S ∧
      ∀ q c, fs.get? q = some c → (fs.set a.1 (.data a.2)).get? q = some c := by
  refine ⟨⟨fun e he c hc => ?_, hs.func⟩, fun q c hq => ?_⟩
  · rw [RrdpFs.get?_set] at hc
    split at hc
    · next hp => rw [← Option.some.inj hc, hs.func e he a ha hp]
    · exact hs.safe e he c hc
  · rw [RrdpFs.get?_set]
    split
    · next hp => rw [hs.safe a ha c (hp ▸ hq)]
    · exact hq

/-- Writing data files of a safe set, in any order, with repetitions: nothing that was there
changes, what is written is there. -/
theorem data_creates (S : List (Path × DataFile)) : ∀ (ms : List Mut),
    (∀ m ∈ ms, ∃ e ∈ S, m = .create e.1 (.data e.2)) → ∀ (fs : RrdpFs), SafeSet fs S →
    SafeSet (fs.applyAll ms) S ∧
    (∀ q c, fs.get? q = some c → (fs.applyAll ms).get? q = some c) ∧
    (∀ q, (∀ e ∈ S, q ≠ e.1) → (fs.applyAll ms).get? q = fs.get? q) ∧
    (∀ e : Path × DataFile, Mut.create e.1 (.data e.2) ∈ ms →
      (fs.applyAll ms).get? e.1 = some (.data e.2)) := by
  intro ms
  induction ms with
  | nil => intro _ fs hs; exact ⟨hs, fun _ _ h => h, fun _ _ => rfl, fun _ h => nomatch h⟩
  | cons m t ih =>
    intro hall fs hs
    obtain ⟨a, ha, rfl⟩ := hall _ List.mem_cons_self
    obtain ⟨hs1, hkeep⟩ := hs.set ha
    obtain ⟨h1, h2, h3, h4⟩ := ih (fun m hm => hall m (List.mem_cons_of_mem _ hm)) _ hs1
    refine ⟨h1, fun q c hq => h2 q c (hkeep q c hq), fun q hq => ?_, fun e he => ?_⟩
    · exact (h3 q hq).trans (by rw [RrdpFs.get?_set, if_neg (hq a ha)])
    · rcases List.mem_cons.mp he with heq | het
      · injection heq with h1' h2'
        injection h2' with h2'
        exact h2 _ _ (by rw [h1', h2', RrdpFs.get?_set, if_pos rfl])
      · exact h4 e het

/-- The data files the writer may (re)write. -/
def safeSetOf (r : Rrdp) : List (Path × DataFile) :=
  (snapshotPath r, snapshotFile r) ::
    r.deltas.map (fun d => (deltaPath r.session d, deltaFile r.session d))

theorem mem_safeSetOf {r : Rrdp} {e : Path × DataFile} : e ∈ safeSetOf r ↔
    e = (snapshotPath r, snapshotFile r) ∨
      ∃ d ∈ r.deltas, (deltaPath r.session d, deltaFile r.session d) = e := by
  rw [safeSetOf, List.mem_cons, List.mem_map]

/-- A path of the safe set determines the content: the deltas have distinct serials. -/
theorem safeSetOf_func {r : Rrdp} (hc : Contig r) :
    ∀ e ∈ safeSetOf r, ∀ e' ∈ safeSetOf r, e.1 = e'.1 → e.2 = e'.2 := by
  intro e he e' he' hp
  rcases mem_safeSetOf.mp he with rfl | ⟨d, hd, rfl⟩ <;>
    rcases mem_safeSetOf.mp he' with rfl | ⟨d', hd', rfl⟩
  · rfl
  · simp [snapshotPath, deltaPath] at hp
  · simp [snapshotPath, deltaPath] at hp
  · simp only [deltaPath, List.cons.injEq, Seg.num.injEq, Seg.rnd.injEq, and_true, true_and] at hp
    rw [contigFrom_serial_inj hc.2 hd hd' hp.1]

theorem safeSet_path_len {r : Rrdp} {e : Path × DataFile} (he : e ∈ safeSetOf r) :
    e.1.length = 4 := by
  rcases mem_safeSetOf.mp he with rfl | ⟨d, _, rfl⟩ <;> rfl

theorem safeSet_shape {r : Rrdp} (hc : Contig r) {e : Path × DataFile} (he : e ∈ safeSetOf r) :
    ∃ k rnd nm, e.1 = [.sess r.session, .num k, .rnd rnd, .name nm] ∧ k ≤ r.serial := by
  rcases mem_safeSetOf.mp he with rfl | ⟨d, hd, rfl⟩
  · exact ⟨r.serial, r.snapRnd, "snapshot.xml", rfl, Nat.le_refl _⟩
  · exact ⟨d.serial, d.rnd, "delta.xml", rfl, contigFrom_le hc.2 hd⟩

/-- Shape of the file names of a notification: `<session>/<serial>/<random>/…`. -/
def RefShape (n : Notif) : Prop :=
  (∃ rnd, n.snap.path = [.sess n.session, .num n.serial, .rnd rnd, .name "snapshot.xml"]) ∧
  ∀ d ∈ n.deltas, ∃ rnd, d.2.path = [.sess n.session, .num d.1, .rnd rnd, .name "delta.xml"]

theorem RefShape.length {n : Notif} (h : RefShape n) : ∀ x ∈ n.refs, x.path.length = 4 := by
  intro x hx
  rcases List.mem_cons.mp hx with rfl | hx
  · obtain ⟨rnd, hp⟩ := h.1
    rw [hp]; rfl
  · obtain ⟨d, hd, rfl⟩ := List.mem_map.mp hx
    obtain ⟨rnd, hp⟩ := h.2 d hd
    rw [hp]; rfl

/-- What `update_rrdp_files` needs of the files it finds. -/
structure RrdpPre (r : Rrdp) (fs : RrdpFs) : Prop where
  shape : ∀ n, fs.notification = some n → RefShape n
  /-- the deltas the notification names are not from the future -/
  past : ∀ n, fs.notification = some n → n.session = r.session → ∀ d ∈ n.deltas, d.1 ≤ r.serial
  contig : Contig r
  /-- a file that already sits at the path of a delta or of the snapshot is that file -/
  safe : ∀ e ∈ safeSetOf r, ∀ c, fs.get? e.1 = some c → c = .data e.2
  /-- `notification.xml` is a file -/
  flat : ∀ e ∈ fs, e.1.head? = some (.name "notification.xml") → e.1 = notifPath

/-- Writing data files (any of them, in any order) keeps what is there, the notification and its
consistency. -/
theorem after_data_writes {r : Rrdp} {fs : RrdpFs} (hpre : RrdpPre r fs)
    (hc : fs.consistent = true) {ms : List Mut}
    (hms : ∀ m ∈ ms, ∃ e ∈ safeSetOf r, m = .create e.1 (.data e.2)) :
    (fs.applyAll ms).consistent = true ∧ (fs.applyAll ms).get? notifPath = fs.get? notifPath ∧
    (∀ q c, fs.get? q = some c → (fs.applyAll ms).get? q = some c) ∧
    (∀ e : Path × DataFile, Mut.create e.1 (.data e.2) ∈ ms →
      (fs.applyAll ms).get? e.1 = some (.data e.2)) := by
  obtain ⟨_, hkeep, hoth, hwr⟩ := data_creates (safeSetOf r) ms hms fs
    ⟨hpre.safe, safeSetOf_func hpre.contig⟩
  have h1 := hoth notifPath fun e he heq => by
    have := safeSet_path_len he
    rw [← heq] at this
    cases this
  exact ⟨consistent_mono h1 (fun _ _ x _ c => hkeep x.path c) hc, h1, hkeep, hwr⟩

/-! ## what `update_rrdp_files` writes and what the new notification names -/

theorem mem_insertAsc {x y : Nat × DataRef} {l : List (Nat × DataRef)} :
    y ∈ insertAsc x l ↔ y = x ∨ y ∈ l := by
  induction l with
  | nil => simp [insertAsc]
  | cons a t ih =>
    simp only [insertAsc]
    split
    · simp
    · rw [List.mem_cons, ih, List.mem_cons, or_left_comm]

theorem mem_sortAsc {y : Nat × DataRef} {l : List (Nat × DataRef)} : y ∈ sortAsc l ↔ y ∈ l := by
  induction l with
  | nil => simp [sortAsc]
  | cons a t ih =>
    simp only [sortAsc, List.foldr_cons] at ih ⊢
    rw [mem_insertAsc, ih]
    simp

/-- What is re-used comes from the old notification of the same session, and is not older than
the oldest retained delta. -/
theorem mem_reusable {r : Rrdp} {old : Option Notif} {x : Nat × DataRef}
    (hx : x ∈ reusable r old) :
    ∃ n, old = some n ∧ n.session = r.session ∧ x ∈ n.deltas ∧ r.deltas ≠ [] ∧
      (r.deltas.getLast?.map (·.serial)).getD 0 ≤ x.1 := by
  revert hx
  fun_cases reusable r old with
  | case4 n hs sorted hg last hl =>
    intro hx
    obtain ⟨h1, h2⟩ := List.mem_filter.mp hx
    refine ⟨n, rfl, by simpa using hs, mem_sortAsc.mp h1, fun he => ?_, ?_⟩
    · rw [he] at hl
      cases hl
    · rw [hl]
      simpa using h2
  | _ => exact fun hx => nomatch hx

theorem mem_deltasToWrite {r : Rrdp} {reused : List (Nat × DataRef)} {d : DeltaRec}
    (h : d ∈ deltasToWrite r reused) : d ∈ r.deltas := by
  revert h
  fun_cases deltasToWrite r reused with
  | case1 last hl => exact fun h => (List.mem_filter.mp h).1
  | case2 hl => exact id

/-- The data files written: the missing deltas, then the snapshot. -/
def dataWrites (r : Rrdp) (old : Option Notif) : List (Path × DataFile) :=
  (deltasToWrite r (reusable r old)).map (fun d => (deltaPath r.session d, deltaFile r.session d))
    ++ [(snapshotPath r, snapshotFile r)]

theorem dataWrites_sub (r : Rrdp) (old : Option Notif) :
    ∀ e ∈ dataWrites r old, e ∈ safeSetOf r := by
  intro e he
  unfold dataWrites at he
  rcases List.mem_append.mp he with he | he
  · obtain ⟨d, hd, rfl⟩ := List.mem_map.mp he
    exact mem_safeSetOf.mpr (.inr ⟨d, mem_deltasToWrite hd, rfl⟩)
  · exact mem_safeSetOf.mpr (.inl (List.mem_singleton.mp he))

theorem dataWrites_class (r : Rrdp) (old : Option Notif) :
    ∀ m ∈ (dataWrites r old).map (fun e => Mut.create e.1 (.data e.2)),
      ∃ e ∈ safeSetOf r, m = .create e.1 (.data e.2) := by
  intro m hm
  obtain ⟨e, he, rfl⟩ := List.mem_map.mp hm
  exact ⟨e, dataWrites_sub r old e he, rfl⟩

theorem mem_newNotification_deltas {r : Rrdp} {old : Option Notif} {x : Nat × DataRef}
    (hx : x ∈ (newNotification r old).deltas) :
    (∃ d ∈ deltasToWrite r (reusable r old),
        x = (d.serial, ⟨deltaPath r.session d, deltaFile r.session d⟩)) ∨
    x ∈ reusable r old := by
  unfold newNotification at hx
  simp only [List.mem_append, List.mem_map, List.mem_reverse] at hx
  rcases hx with ⟨d, hd, rfl⟩ | hx
  · exact Or.inl ⟨d, hd, rfl⟩
  · exact Or.inr hx

theorem newNotification_delta_shape {r : Rrdp} {fs : RrdpFs} (hpre : RrdpPre r fs)
    {x : Nat × DataRef} (hx : x ∈ (newNotification r fs.notification).deltas) :
    (∃ rnd, x.2.path = [.sess r.session, .num x.1, .rnd rnd, .name "delta.xml"]) ∧
    (r.deltas.getLast?.map (·.serial)).getD 0 ≤ x.1 ∧
    x.1 ≤ (r.deltas.head?.map (·.serial)).getD 0 := by
  rcases mem_newNotification_deltas hx with ⟨d, hd, rfl⟩ | hre
  · have hmem := mem_deltasToWrite hd
    refine ⟨⟨d.rnd, rfl⟩, contigFrom_last_le hpre.contig.2 hmem, ?_⟩
    rw [contigFrom_head hpre.contig.2 (List.ne_nil_of_mem hmem)]
    exact contigFrom_le hpre.contig.2 hmem
  · obtain ⟨n, hn, hsess, hmem, hne, hlow⟩ := mem_reusable hre
    obtain ⟨rnd, hp⟩ := (hpre.shape n hn).2 x hmem
    refine ⟨⟨rnd, by rw [hp, hsess]⟩, hlow, ?_⟩
    rw [contigFrom_head hpre.contig.2 hne]
    exact hpre.past n hn hsess x hmem

/-- All files the new notification names are there once the data files are written: the new ones
were written, the re-used ones were there because the old notification was consistent. -/
theorem new_refs_present {r : Rrdp} {fs : RrdpFs} (hpre : RrdpPre r fs)
    (hc : fs.consistent = true) :
    RefsOk (fs.applyAll ((dataWrites r fs.notification).map (fun e => Mut.create e.1 (.data e.2))))
      (newNotification r fs.notification) := by
  obtain ⟨_, _, hkeep, hwr⟩ := after_data_writes hpre hc (dataWrites_class r fs.notification)
  have hwr' : ∀ e ∈ dataWrites r fs.notification, _ := fun e he =>
    hwr e (List.mem_map.mpr ⟨e, he, rfl⟩)
  intro x hx
  rcases List.mem_cons.mp hx with rfl | hx
  · exact hwr' (snapshotPath r, snapshotFile r) (by simp [dataWrites])
  · obtain ⟨y, hy, rfl⟩ := List.mem_map.mp hx
    rcases mem_newNotification_deltas hy with ⟨d, hd, rfl⟩ | hre
    · exact hwr' (deltaPath r.session d, deltaFile r.session d)
        (List.mem_append_left _ (List.mem_map.mpr ⟨d, hd, rfl⟩))
    · obtain ⟨n, hn, _, hmem, _, _⟩ := mem_reusable hre
      rcases (consistent_iff fs).mp hc with h | ⟨n', hn', hrefs⟩
      · rw [notification_eq_some.mp hn] at h; cases h
      · rw [notification_eq_some.mp hn] at hn'
        cases hn'
        exact hkeep _ _ (hrefs _ (List.mem_cons_of_mem _ (List.mem_map_of_mem hmem)))

/-! ## the two steps that install the new notification -/

theorem len4_ne {p : Path} (hp : p.length = 4) : p ≠ newNotifPath ∧ p ≠ notifPath := by
  constructor <;> (rintro rfl; cases hp)

/-- Writing `new-notification.xml` leaves the notification and the files it names. -/
theorem consistent_set_newNotif {fs : RrdpFs}
    (hshape : ∀ n, fs.get? notifPath = some (.notif n) → RefShape n) (hc : fs.consistent = true)
    (c : FileC) : (fs.set newNotifPath c).consistent = true ∧
      (fs.set newNotifPath c).get? notifPath = fs.get? notifPath := by
  have hget : ∀ p, p ≠ newNotifPath → (fs.set newNotifPath c).get? p = fs.get? p :=
    fun p hp => by rw [RrdpFs.get?_set, if_neg hp]
  refine ⟨consistent_mono (hget _ (by decide)) (fun n hn x hx c' hx' => ?_) hc, hget _ (by decide)⟩
  rw [hget _ (len4_ne ((hshape n hn).length x hx)).1]
  exact hx'

/-- Writing `new-notification.xml` and renaming it over `notification.xml` installs it and leaves
the data files. -/
theorem rename_newNotif (fs : RrdpFs) (new : Notif) :
    ∃ fs3, fs.applyAll [.create newNotifPath (.notif new), .rename newNotifPath notifPath] = fs3 ∧
      fs3.get? notifPath = some (.notif new) ∧ ∀ p, p.length = 4 → fs3.get? p = fs.get? p := by
  refine ⟨((fs.set newNotifPath (.notif new)).remove newNotifPath).set notifPath (.notif new), ?_,
    by rw [RrdpFs.get?_set, if_pos rfl], fun p hp => ?_⟩
  · have : (fs.set newNotifPath (.notif new)).get? newNotifPath = some (.notif new) := by
      rw [RrdpFs.get?_set, if_pos rfl]
    simp only [RrdpFs.applyAll, List.foldl_cons, List.foldl_nil, RrdpFs.apply, this]
  · rw [RrdpFs.get?_set, if_neg (len4_ne hp).2, RrdpFs.get?_remove, if_neg (len4_ne hp).1,
      RrdpFs.get?_set, if_neg (len4_ne hp).1]

/-! ## what the clean-up removes -/

theorem mem_cleanupSessions {r : Rrdp} {fs : RrdpFs} {c : Mut} (h : c ∈ cleanupSessions r fs) :
    ∃ s, c = .removeTree [s] ∧ s ≠ .sess r.session ∧
      ∃ e ∈ fs, ∃ x rest, e.1 = s :: x :: rest := by
  unfold cleanupSessions at h
  obtain ⟨⟨s, isDir⟩, hmem, hf⟩ := List.mem_filterMap.mp h
  simp only at hf
  by_cases hs : (s == Seg.sess r.session) = true
  · simp [hs] at hf
  · simp only [hs, Bool.false_eq_true, ↓reduceIte] at hf
    cases isDir with
    | false => simp at hf
    | true =>
      simp only [↓reduceIte, Option.some.injEq] at hf
      refine ⟨s, hf.symm, by simpa using hs, ?_⟩
      unfold RrdpFs.children at hmem
      rw [List.mem_eraseDups] at hmem
      obtain ⟨e, he, hfe⟩ := List.mem_filterMap.mp hmem
      simp only [List.isPrefixOf_nil_left, ↓reduceIte, List.length_nil, List.drop_zero] at hfe
      cases hp : e.1 with
      | nil => rw [hp] at hfe; cases hfe
      | cons a t =>
        rw [hp] at hfe
        cases t with
        | nil => simp at hfe
        | cons x rest =>
          simp only [Option.some.injEq, Prod.mk.injEq, and_true] at hfe
          exact ⟨e, he, x, rest, by rw [hp, hfe]⟩

theorem snapshotIn_shape {fs : RrdpFs} {session serial : Nat} {p : Path}
    (h : fs.snapshotIn session serial = some p) :
    ∃ x, p = [.sess session, .num serial, x, .name "snapshot.xml"] := by
  unfold RrdpFs.snapshotIn at h
  rw [Option.map_eq_some_iff] at h
  obtain ⟨e, hf, rfl⟩ := h
  have hp := List.find?_some hf
  split at hp
  · rename_i s n x f heq
    simp only [Bool.and_eq_true, beq_iff_eq] at hp
    obtain ⟨⟨rfl, rfl⟩, rfl⟩ := hp
    exact ⟨x, heq⟩
  · cases hp

/-- `notification.xml` is a file: nothing lies below it. -/
def Flat (fs : RrdpFs) : Prop :=
  ∀ e ∈ fs, e.1.head? = some (.name "notification.xml") → e.1 = notifPath

/-- The data files the clean-up has to leave alone: the snapshot of the current serial and the
deltas of the retained range. -/
def KeptData (r : Rrdp) (p : Path) : Prop :=
  ∃ k rnd nm, p = [.sess r.session, .num k, .rnd rnd, .name nm] ∧
    ((k = r.serial ∧ nm = "snapshot.xml") ∨
     (nm = "delta.xml" ∧ (r.deltas.getLast?.map (·.serial)).getD 0 ≤ k ∧
       k ≤ (r.deltas.head?.map (·.serial)).getD 0))

theorem newNotification_kept {r : Rrdp} {fs : RrdpFs} (hpre : RrdpPre r fs) :
    ∀ x ∈ (newNotification r fs.notification).refs, KeptData r x.path := by
  intro x hx
  rcases List.mem_cons.mp hx with rfl | hx
  · exact ⟨r.serial, r.snapRnd, "snapshot.xml", rfl, .inl ⟨rfl, rfl⟩⟩
  · obtain ⟨y, hy, rfl⟩ := List.mem_map.mp hx
    obtain ⟨⟨rnd, hpath⟩, hlo, hhi⟩ := newNotification_delta_shape hpre hy
    exact ⟨y.1, rnd, "delta.xml", hpath, .inr ⟨rfl, hlo, hhi⟩⟩

theorem cleanupSessions_keeps {r : Rrdp} {fs : RrdpFs} {c : Mut} {p : Path} (hflat : Flat fs)
    (hc : c ∈ cleanupSessions r fs) (hp : p = notifPath ∨ KeptData r p) :
    c.isRemoval = true ∧ c.removes p = false := by
  obtain ⟨s, rfl, hs, e, he, x, rest', hep⟩ := mem_cleanupSessions hc
  refine ⟨rfl, ?_⟩
  rcases hp with rfl | ⟨k, rnd, nm, rfl, _⟩
  · -- a directory `notification.xml` would have an entry below it
    simp only [Mut.removes, notifPath, List.isPrefixOf, Bool.and_true, beq_eq_false_iff_ne, ne_eq]
    rintro rfl
    have := hflat e he (by rw [hep]; rfl)
    rw [hep] at this
    simp [notifPath] at this
  · simp only [Mut.removes, List.isPrefixOf, Bool.and_true, beq_eq_false_iff_ne, ne_eq]
    exact hs

theorem cleanupSerials_keeps {r : Rrdp} {fs : RrdpFs} {c : Mut} {p : Path}
    (hc : c ∈ cleanupSerials r fs) (hp : p = notifPath ∨ KeptData r p) :
    c.isRemoval = true ∧ c.removes p = false := by
  unfold cleanupSerials at hc
  obtain ⟨⟨s, isDir⟩, _, hf⟩ := List.mem_filterMap.mp hc
  cases s with
  | num n =>
    simp only at hf
    by_cases hn : (n == r.serial) = true
    · simp [hn] at hf
    · simp only [hn, Bool.false_eq_true, ↓reduceIte] at hf
      have hne : n ≠ r.serial := by simpa using hn
      split at hf
      · -- a serial outside the retained range: its directory (or a file of that name) goes
        next hrange =>
        simp only [Bool.or_eq_true, decide_eq_true_eq] at hrange
        rcases hp with rfl | ⟨k, rnd, nm, rfl, hk⟩
        · cases isDir <;> cases hf <;> exact ⟨rfl, by simp [Mut.removes, notifPath, List.isPrefixOf]⟩
        · have hnk : n ≠ k := by
            rcases hk with ⟨rfl, _⟩ | ⟨_, hlo, hhi⟩
            · exact hne
            · omega
          cases isDir <;> cases hf
          · exact ⟨rfl, by simp [Mut.removes]⟩
          · exact ⟨rfl, by simp [Mut.removes, List.isPrefixOf, hnk]⟩
      · -- a retained serial other than the current one: only its snapshot goes
        obtain ⟨q, hsnap, rfl⟩ := Option.map_eq_some_iff.mp hf
        obtain ⟨x, rfl⟩ := snapshotIn_shape hsnap
        refine ⟨rfl, ?_⟩
        rcases hp with rfl | ⟨k, rnd, nm, rfl, hk⟩
        · simp [Mut.removes, notifPath]
        · simp only [Mut.removes, beq_eq_false_iff_ne, ne_eq, List.cons.injEq, Seg.num.injEq,
            Seg.name.injEq, and_true, true_and, not_and]
          intro hkn _
          rcases hk with ⟨rfl, _⟩ | ⟨rfl, _⟩
          · exact absurd hkn.symm hne
          · decide  -- `"delta.xml" ≠ "snapshot.xml"`
  | _ =>
    -- anything that is not a serial goes, whatever it is
    cases hf
    refine ⟨rfl, ?_⟩
    rcases hp with rfl | ⟨k, rnd, nm, rfl, _⟩
    · simp [Mut.removes, notifPath, List.isPrefixOf]
    · simp [Mut.removes, List.isPrefixOf]

/-! ## the plan and the mutations in it -/

/-- The full plan: the writes in order, then the two clean-up phases computed from the files as
they are after the writes. -/
theorem rrdpPlanFrom_eq (r : Rrdp) (fs : RrdpFs) (old : Option Notif) :
    ∃ fs', fs' = fs.applyAll ((dataWrites r old).map (fun e => Mut.create e.1 (.data e.2)) ++
        [.create newNotifPath (.notif (newNotification r old)), .rename newNotifPath notifPath]) ∧
      rrdpPlan.rrdpPlanFrom r fs old =
        [(true, (dataWrites r old).map (fun e => Mut.create e.1 (.data e.2)) ++
          [.create newNotifPath (.notif (newNotification r old)), .rename newNotifPath notifPath]),
         (false, cleanupSessions r fs'), (false, cleanupSerials r fs')] := by
  refine ⟨_, rfl, ?_⟩
  unfold rrdpPlan.rrdpPlanFrom dataWrites
  simp only [List.map_append, List.map_map, List.map_cons, List.map_nil, List.append_assoc,
    List.cons_append, List.nil_append, Function.comp_def]

/-- Nothing to do when the notification on disk is the one of the state; else the full plan. -/
theorem rrdpPlan_cases (r : Rrdp) (fs : RrdpFs) :
    (rrdpPlan r fs = [] ∧ ∃ n, fs.notification = some n ∧ n.serial = r.serial ∧
        n.session = r.session) ∨
      rrdpPlan r fs = rrdpPlan.rrdpPlanFrom r fs fs.notification := by
  fun_cases rrdpPlan r fs with
  | case1 old n hn h =>
    simp only [Bool.and_eq_true, beq_iff_eq] at h
    exact Or.inl ⟨rfl, n, hn, h.1, h.2⟩
  | case2 => exact Or.inr rfl
  | case3 => exact Or.inr rfl

/-- The kinds of mutation `update_rrdp_files` performs. -/
def MutClass (r : Rrdp) (m : Mut) : Prop :=
  (∃ e ∈ safeSetOf r, m = .create e.1 (.data e.2)) ∨ (∃ n, m = .create newNotifPath (.notif n)) ∨
  m = .rename newNotifPath notifPath ∨ m.isRemoval = true

theorem mem_rrdpPlan_class {r : Rrdp} {fs : RrdpFs} {m : Mut} (hm : m ∈ planMuts (rrdpPlan r fs)) :
    MutClass r m := by
  rcases rrdpPlan_cases r fs with ⟨h, _⟩ | h <;> rw [h] at hm
  · cases hm
  obtain ⟨fs', _, hplan⟩ := rrdpPlanFrom_eq r fs fs.notification
  rw [hplan] at hm
  simp only [planMuts, List.flatMap_cons, List.flatMap_nil, List.append_nil, List.mem_append,
    List.mem_map, List.mem_cons, List.mem_nil_iff, or_false] at hm
  rcases hm with (⟨e, he, rfl⟩ | rfl | rfl) | hm | hm
  · exact .inl ⟨e, dataWrites_sub r _ e he, rfl⟩
  · exact .inr (.inl ⟨_, rfl⟩)
  · exact .inr (.inr (.inl rfl))
  · obtain ⟨s, rfl, _⟩ := mem_cleanupSessions hm
    exact .inr (.inr (.inr rfl))
  · exact .inr (.inr (.inr (cleanupSerials_keeps hm (.inl rfl)).1))

theorem MutClass.target {r : Rrdp} {m : Mut} (hc : Contig r) (hm : MutClass r m) {q : Path}
    (ht : m.target = some q) : q = notifPath ∨ q = newNotifPath ∨
      ∃ k rnd nm, q = [.sess r.session, .num k, .rnd rnd, .name nm] ∧ k ≤ r.serial := by
  rcases hm with ⟨e0, he0, rfl⟩ | ⟨n, rfl⟩ | rfl | hrem
  · cases ht; exact .inr (.inr (safeSet_shape hc he0))
  · cases ht; exact .inr (.inl rfl)
  · cases ht; exact .inl rfl
  · cases m with
    | create _ _ => cases hrem
    | rename _ _ => cases hrem
    | _ => cases ht

theorem flat_of_class {r : Rrdp} (hc : Contig r) {fs : RrdpFs} (hflat : Flat fs) {ms : List Mut}
    (hcl : ∀ m ∈ ms, MutClass r m) : Flat (fs.applyAll ms) :=
  paths_applyAll (P := fun q => q.head? = some (.name "notification.xml") → q = notifPath) hflat ms
    fun m hm q ht hh => by
    rcases (hcl m hm).target hc ht with rfl | rfl | ⟨k, rnd, nm, rfl, _⟩
    · rfl
    · exact absurd hh (by decide)
    · cases hh

/-! ## the notification stays consistent at every cut -/

/-- What an interrupted or complete run of `update_rrdp_files` leaves: a consistent
notification, which is the old one or the new one, and one that names the state's session
and serial if the run was complete. -/
theorem rrdp_cut_facts {r : Rrdp} {fs : RrdpFs} (hpre : RrdpPre r fs)
    (hc : fs.consistent = true) {log : List Sig} {ms : List Mut} {rest : Plan}
    (hm : matchLog Mut.sig (rrdpPlan r fs) log = some (ms, rest)) :
    (fs.applyAll ms).consistent = true ∧
    ((fs.applyAll ms).get? notifPath = fs.get? notifPath ∨
      (fs.applyAll ms).get? notifPath = some (.notif (newNotification r fs.notification))) ∧
    (planDone rest = true → ∃ n, (fs.applyAll ms).get? notifPath = some (.notif n) ∧
      n.session = r.session ∧ n.serial = r.serial) := by
  have hclass := fun m (h : m ∈ planMuts (rrdpPlan r fs)) => mem_rrdpPlan_class h
  rcases rrdpPlan_cases r fs with ⟨hp, n0, hn0, hser0, hsess0⟩ | hp
  · rw [hp] at hm
    obtain ⟨rfl, _⟩ := matchLog_nil_plan Mut.sig hm
    exact ⟨hc, Or.inl rfl, fun _ => ⟨n0, notification_eq_some.mp hn0, hsess0, hser0⟩⟩
  obtain ⟨fs', hfs', hplan⟩ := rrdpPlanFrom_eq r fs fs.notification
  rw [hp, hplan] at hm hclass
  -- `W`: the data writes; `fs3`: the files after all writes
  have hrefs1 := new_refs_present hpre hc
  have hkept := newNotification_kept hpre
  have hW := dataWrites_class r fs.notification
  have hnewid : (newNotification r fs.notification).session = r.session ∧
      (newNotification r fs.notification).serial = r.serial := ⟨rfl, rfl⟩
  generalize (dataWrites r fs.notification).map (fun e => Mut.create e.1 (.data e.2)) = W
    at hm hfs' hclass hrefs1 hW
  generalize newNotification r fs.notification = new at hm hfs' hclass hrefs1 hkept hnewid
  obtain ⟨hc1, hnp1, -, -⟩ := after_data_writes hpre hc hW
  obtain ⟨fs3, hstep3, hnotif3, hget3⟩ := rename_newNotif (fs.applyAll W) new
  rw [← RrdpFs.applyAll_append] at hstep3
  rw [hstep3] at hfs'
  have hlen : ∀ x ∈ new.refs, x.path.length = 4 := fun x hx => by
    obtain ⟨k, rnd, nm, hp, _⟩ := hkept x hx
    rw [hp]; rfl
  have hrefs3 : RefsOk fs3 new := fun x hx => (hget3 _ (hlen x hx)).trans (hrefs1 x hx)
  obtain ⟨ss, rem, -, hord, hcase⟩ := matchLog_phase Mut.sig hm
  have hord := hord rfl
  rcases hcase with ⟨rfl, rfl⟩ | ⟨rfl, cs, log', rfl, hcs⟩
  · -- cut during the writes: after some data files, after `new-notification.xml`, or after the rename
    have hab : (fs.applyAll ms).consistent = true ∧
        ((fs.applyAll ms).get? notifPath = fs.get? notifPath ∨
          (fs.applyAll ms).get? notifPath = some (.notif new)) := by
      rw [List.append_cons] at hord
      rcases List.prefix_concat_iff.mp ⟨rem, hord⟩ with rfl | h
      · rw [← List.append_cons, hstep3]
        exact ⟨(consistent_iff _).mpr (.inr ⟨new, hnotif3, hrefs3⟩), .inr hnotif3⟩
      · rcases List.prefix_concat_iff.mp h with rfl | h
        · obtain ⟨hc2, hnp2⟩ := consistent_set_newNotif
            (fun n hn => hpre.shape n (notification_eq_some.mpr (hnp1 ▸ hn))) hc1 (.notif new)
          rw [RrdpFs.applyAll_append]
          exact ⟨hc2, .inl (hnp2.trans hnp1)⟩
        · obtain ⟨h1, h2, -, -⟩ := after_data_writes hpre hc fun m hm => hW m (h.subset hm)
          exact ⟨h1, .inl h2⟩
    refine ⟨hab.1, hab.2, fun hd => ?_⟩
    -- a complete run has performed all of them
    rw [(planDone_cons.mp hd).1, List.append_nil] at hord
    rw [hord, hstep3]
    exact ⟨new, hnotif3, hnewid⟩
  · -- all writes done, some of the clean-up: it spares the notification and what it names
    rw [List.append_nil] at hord
    rw [RrdpFs.applyAll_append, hord, hstep3]
    rw [hfs'] at hcs
    have hflat3 : Flat fs3 := hstep3 ▸ flat_of_class hpre.contig hpre.flat fun m hm =>
      hclass m (List.mem_append_left _ hm)
    have hprot : ∀ p, p = notifPath ∨ KeptData r p → (fs3.applyAll cs).get? p = fs3.get? p :=
      fun p hp => get?_applyAll_removals cs p (fun c hcmem => by
        have hmem := matchLog_mem Mut.sig hcs c hcmem
        simp only [planMuts, List.flatMap_cons, List.flatMap_nil, List.append_nil,
          List.mem_append] at hmem
        exact hmem.elim (cleanupSessions_keeps hflat3 · hp) (cleanupSerials_keeps · hp)) fs3
    have hnp := (hprot _ (.inl rfl)).trans hnotif3
    exact ⟨(consistent_iff _).mpr (.inr ⟨new, hnp, fun x hx =>
      (hprot _ (.inr (hkept x hx))).trans (hrefs3 x hx)⟩), .inr hnp, fun _ => ⟨new, hnp, hnewid⟩⟩

/-! ## histories of requests and (interrupted) writes: what the files always satisfy -/

/-- No file of the current session belongs to a serial beyond the current one. -/
def FsBound (r : Rrdp) (fs : RrdpFs) : Prop :=
  ∀ e ∈ fs, ∀ n rest, e.1 = .sess r.session :: .num n :: rest → n ≤ r.serial

/-- The part of the file invariant that every single mutation of the writer keeps. -/
structure FsInv (r : Rrdp) (fs : RrdpFs) : Prop where
  safe : ∀ e ∈ safeSetOf r, ∀ c, fs.get? e.1 = some c → c = .data e.2
  flat : ∀ e ∈ fs, e.1.head? = some (.name "notification.xml") → e.1 = notifPath
  bound : FsBound r fs

theorem safe_apply {r : Rrdp} {fs : RrdpFs} (hfunc : ∀ e ∈ safeSetOf r,
    ∀ e' ∈ safeSetOf r, e.1 = e'.1 → e.2 = e'.2)
    (hs : ∀ e ∈ safeSetOf r, ∀ c, fs.get? e.1 = some c → c = .data e.2) {m : Mut}
    (hm : MutClass r m) : ∀ e ∈ safeSetOf r, ∀ c, (fs.apply m).get? e.1 = some c → c = .data e.2 := by
  intro e he c hg
  have hne := len4_ne (safeSet_path_len he)
  rcases hm with ⟨e0, he0, rfl⟩ | ⟨n, rfl⟩ | rfl | hrem
  · exact (SafeSet.set ⟨hs, hfunc⟩ he0).1.safe e he c hg
  · rw [show fs.apply (.create newNotifPath (.notif n)) = fs.set newNotifPath (.notif n) from rfl,
      RrdpFs.get?_set, if_neg hne.1] at hg
    exact hs e he c hg
  · rw [get?_apply_rename_ne fs hne.1 hne.2] at hg
    exact hs e he c hg
  · rw [get?_apply_removal fs hrem] at hg
    split at hg
    · cases hg
    · exact hs e he c hg

theorem FsInv.applyAll {r : Rrdp} (hc : Contig r) (hfunc : ∀ e ∈ safeSetOf r,
    ∀ e' ∈ safeSetOf r, e.1 = e'.1 → e.2 = e'.2) : ∀ (ms : List Mut) {fs : RrdpFs},
    FsInv r fs → (∀ m ∈ ms, MutClass r m) → FsInv r (fs.applyAll ms) := by
  intro ms fs hi hcl
  refine ⟨?_, flat_of_class hc hi.flat hcl,
    paths_applyAll (P := fun q => ∀ n rest, q = .sess r.session :: .num n :: rest → n ≤ r.serial)
      hi.bound ms fun m hm q ht n rest hq => ?_⟩
  · exact List.foldlRecOn ms _ (motive := fun fs' : RrdpFs =>
      ∀ e ∈ safeSetOf r, ∀ c, fs'.get? e.1 = some c → c = .data e.2) hi.safe
      fun _ hs m hm => safe_apply hfunc hs (hcl m hm)
  · rcases (hcl m hm).target hc ht with rfl | rfl | ⟨k, rnd, nm, rfl, hk⟩
    · cases hq
    · cases hq
    · cases hq; exact hk

/-- A session id that no file and no notification on disk uses (session ids are random UUIDs). -/
def SessionFresh (s : Nat) (fs : RrdpFs) : Prop :=
  (∀ e ∈ fs, e.1.head? ≠ some (.sess s)) ∧ ∀ n, fs.notification = some n → n.session ≠ s

/-- The invariant relating the state of the RRDP server and the files below `rrdp/`. -/
structure FInv (r : Rrdp) (fs : RrdpFs) : Prop where
  pre : RrdpPre r fs
  cons : fs.consistent = true
  bound : FsBound r fs

theorem FInv.empty (session rnd : Nat) : FInv (Rrdp.create session rnd) [] := by
  refine ⟨⟨?_, ?_, Contig.create session rnd, ?_, ?_⟩, rfl, ?_⟩
  · intro n hn; simp [RrdpFs.notification, RrdpFs.get?] at hn
  · intro n hn; simp [RrdpFs.notification, RrdpFs.get?] at hn
  · intro e _ c hc; simp [RrdpFs.get?] at hc
  · intro e he; cases he
  · intro e he; cases he

theorem FInv.quiet {r r' : Rrdp} {fs : RrdpFs} (q : Quiet r r') (hi : FInv r fs) : FInv r' fs := by
  have hsafe : safeSetOf r' = safeSetOf r := by
    unfold safeSetOf snapshotPath snapshotFile
    rw [q.session, q.serial, q.deltas, q.snapRnd, q.flat]
  obtain ⟨⟨hshape, hpast, hcontig, hsafe', hflat⟩, hcons, hbound⟩ := hi
  refine ⟨⟨hshape, ?_, q.contig hcontig, ?_, hflat⟩, hcons, ?_⟩
  · intro n hn hs d hd; rw [q.serial]; exact hpast n hn (hs.trans q.session) d hd
  · rw [hsafe]; exact hsafe'
  · intro e he n rest hp; rw [q.serial]; exact hbound e he n rest (by rw [hp, q.session])

/-- An RRDP update keeps the file invariant: no file of the new serial exists yet. -/
theorem FInv.applyUpdated {r : Rrdp} {fs : RrdpFs} (hi : FInv r fs) (t rnd : Nat) :
    FInv (r.applyUpdated t rnd) fs := by
  obtain ⟨⟨hshape, hpast, hcontig, hsafe, hflat⟩, hcons, hbound⟩ := hi
  refine ⟨⟨hshape, ?_, hcontig.step (.update t rnd), ?_, hflat⟩, hcons, ?_⟩
  · intro n hn hsess d hd
    exact Nat.le_succ_of_le (hpast n hn hsess d hd)
  · intro e he c hg
    -- a file at a path of the new serial does not exist
    have hnew : ∀ (rest : List Seg), e.1 = .sess r.session :: .num (r.serial + 1) :: rest → False := by
      intro rest hp
      have hmem := RrdpFs.get?_some_mem hg
      have := hbound (e.1, c) hmem (r.serial + 1) rest hp
      omega
    rcases mem_safeSetOf.mp he with rfl | ⟨d, hd, rfl⟩
    · exact (hnew _ rfl).elim
    · rcases List.mem_cons.mp ((r.applyUpdated_deltas_prefix t rnd).subset hd) with rfl | hd'
      · exact (hnew _ rfl).elim
      · exact hsafe _ (mem_safeSetOf.mpr (.inr ⟨d, hd', rfl⟩)) c hg
  · intro e he n rest hp
    exact Nat.le_succ_of_le (hbound e he n rest hp)

theorem FInv.reset {r : Rrdp} {fs : RrdpFs} (hi : FInv r fs) (s rnd : Nat) (hf : SessionFresh s fs) :
    FInv (r.sessionReset s rnd) fs := by
  obtain ⟨⟨hshape, _, _, _, hflat⟩, hcons, _⟩ := hi
  refine ⟨⟨hshape, ?_, ⟨Nat.one_pos, trivial⟩, ?_, hflat⟩, hcons, ?_⟩
  · intro n hn hsess; exact absurd hsess (hf.2 n hn)
  · intro e he c hg
    exfalso
    have hmem := RrdpFs.get?_some_mem hg
    have : e.1.head? = some (.sess s) := by
      rcases mem_safeSetOf.mp he with rfl | ⟨d, hd, _⟩
      · rfl
      · cases hd
    exact hf.1 (e.1, c) hmem this
  · intro e he n rest hp
    exfalso
    exact hf.1 e he (by rw [hp]; rfl)

/-- An interrupted or complete run of `update_rrdp_files` keeps the invariant. -/
theorem FInv.write {r : Rrdp} {fs : RrdpFs} (hi : FInv r fs) {log : List Sig} {ms : List Mut}
    {rest : Plan} (hm : matchLog Mut.sig (rrdpPlan r fs) log = some (ms, rest)) :
    FInv r (fs.applyAll ms) := by
  obtain ⟨hcons', hnotif, _⟩ := rrdp_cut_facts hi.pre hi.cons hm
  have hfs := FsInv.applyAll hi.pre.contig (safeSetOf_func hi.pre.contig) ms
    ⟨hi.pre.safe, hi.pre.flat, hi.bound⟩
    fun m hmm => mem_rrdpPlan_class (matchLog_mem Mut.sig hm m hmm)
  -- the notification is the old one or the new one
  have hn : ∀ n, (fs.applyAll ms).notification = some n →
      fs.notification = some n ∨ n = newNotification r fs.notification := by
    intro n hn
    rw [notification_eq_some] at hn ⊢
    rcases hnotif with h | h <;> rw [h] at hn
    · exact .inl hn
    · cases hn; exact .inr rfl
  refine ⟨⟨fun n h => ?_, fun n h hsess d hd => ?_, hi.pre.contig, hfs.safe, hfs.flat⟩, hcons',
    hfs.bound⟩
  · rcases hn n h with h | rfl
    · exact hi.pre.shape n h
    · exact ⟨⟨r.snapRnd, rfl⟩, fun d hd => (newNotification_delta_shape hi.pre hd).1⟩
  · rcases hn n h with h | rfl
    · exact hi.pre.past n h hsess d hd
    · exact Nat.le_trans (newNotification_delta_shape hi.pre hd).2.2
        (contigFrom_head_le hi.pre.contig.2)

end KM.Pubd
