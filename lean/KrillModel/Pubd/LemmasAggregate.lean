/-
The content aggregate and the manager as state machines: the snapshot as a map from handles, the
invariants `Contig`, `RInv`, `SInv`, what a request does said once (`Step`, `Server.step_spec`) with
one induction per fact about requests, and the retention bound.
-/
import KrillModel.Pubd.Manager
import KrillModel.Pubd.LemmasContent
namespace KM.Pubd

/-! ## the snapshot as a map from handles -/

theorem hget?_cons {ν} (p : Handle × ν) (m : List (Handle × ν)) (h : Handle) :
    hget? (p :: m) h = if h = p.1 then some p.2 else hget? m h :=
  Assoc.lookup_cons p m h

theorem hget?_herase {ν} (m : List (Handle × ν)) (h q : Handle) :
    hget? (herase m h) q = if q = h then none else hget? m q :=
  Assoc.lookup_erase m h q

theorem hget?_hset {ν} (m : List (Handle × ν)) (h q : Handle) (v : ν) :
    hget? (hset m h v) q = if q = h then some v else hget? m q :=
  Assoc.lookup_insert m h q v

theorem hget?_hset_self {ν} (m : List (Handle × ν)) (h : Handle) (v : ν) :
    hget? (hset m h v) h = some v := by rw [hget?_hset]; simp

theorem hget?_hset_ne {ν} (m : List (Handle × ν)) (h q : Handle) (v : ν) (hq : q ≠ h) :
    hget? (hset m h v) q = hget? m q := by rw [hget?_hset]; simp [hq]

def currentOf (snap : List (Handle × Objs)) (h : Handle) : Objs := (hget? snap h).getD []

theorem Rrdp.current_eq (r : Rrdp) (h : Handle) : r.current h = currentOf r.snapshot h := rfl

theorem hget?_eq_none {ν} {m : List (Handle × ν)} {h : Handle} :
    hget? m h = none ↔ h ∉ m.map (·.1) :=
  Assoc.lookup_eq_none

theorem hget?_some_mem {ν} {m : List (Handle × ν)} {h : Handle} {v : ν}
    (hs : hget? m h = some v) : (h, v) ∈ m :=
  Assoc.mem_of_lookup hs

theorem hget?_of_mem_nodup {ν} {m : List (Handle × ν)} (hnd : (m.map (·.1)).Nodup)
    {h : Handle} {v : ν} (hm : (h, v) ∈ m) : hget? m h = some v :=
  Assoc.lookup_of_mem hnd hm

theorem herase_eq_self {ν} {m : List (Handle × ν)} {h : Handle} (hn : h ∉ m.map (·.1)) :
    herase m h = m :=
  Assoc.erase_eq_self hn

theorem hnodup_herase {ν} {m : List (Handle × ν)} (hnd : (m.map (·.1)).Nodup) (h : Handle) :
    ((herase m h).map (·.1)).Nodup :=
  Assoc.nodup_erase hnd h

theorem hnodup_hset {ν} {m : List (Handle × ν)} (hnd : (m.map (·.1)).Nodup) (h : Handle) (v : ν) :
    ((hset m h v).map (·.1)).Nodup :=
  Assoc.nodup_insert hnd h v

theorem currentOf_snapApply (snap : List (Handle × Objs)) (h q : Handle) (d : Delta) :
    currentOf (snapApply snap h d) q =
      if q = h then applyDelta (currentOf snap h) d else currentOf snap q := by
  unfold currentOf
  fun_cases snapApply snap h d with
  | case1 objs hs o he =>
    -- the publisher's objects become empty: its entry goes
    rw [hget?_herase, hs]
    split
    · exact (List.isEmpty_iff.mp he).symm
    · rfl
  | case2 objs hs o he =>
    rw [hget?_hset, hs]
    split <;> rfl
  | case3 hs =>
    rw [hget?_hset, hs]
    split <;> rfl

theorem hnodup_snapApply {snap : List (Handle × Objs)} (hnd : (snap.map (·.1)).Nodup)
    (h : Handle) (d : Delta) : ((snapApply snap h d).map (·.1)).Nodup := by
  fun_cases snapApply snap h d with
  | case1 => exact hnodup_herase hnd h
  | case2 => exact hnodup_hset hnd h _
  | case3 => exact hnodup_hset hnd h _

/-- Applying the staged elements of all publishers (distinct handles) to the snapshot: every
publisher gets its own applied, nothing else changes. -/
theorem foldl_snapApply (l : List (Handle × Staged)) (hl : (l.map (·.1)).Nodup) :
    ∀ (snap : List (Handle × Objs)), (snap.map (·.1)).Nodup →
      ((l.foldl (fun s p => snapApply s p.1 p.2) snap).map (·.1)).Nodup ∧
      ∀ q, currentOf (l.foldl (fun s p => snapApply s p.1 p.2) snap) q =
        applyDelta (currentOf snap q) ((hget? l q).getD []) := by
  induction l with
  | nil => intro snap hs; exact ⟨hs, fun q => rfl⟩
  | cons a t ih =>
    intro snap hs
    rw [List.map_cons, List.nodup_cons] at hl
    obtain ⟨hnd, hcur⟩ := ih hl.2 (snapApply snap a.1 a.2) (hnodup_snapApply hs a.1 a.2)
    rw [List.foldl_cons]
    refine ⟨hnd, fun q => ?_⟩
    rw [hcur q, hget?_cons, currentOf_snapApply]
    split
    · next hq => rw [hq, hget?_eq_none.mpr hl.1]; rfl
    · rfl

theorem currentOf_cons (p : Handle × Objs) (t : List (Handle × Objs)) (h : Handle) :
    currentOf (p :: t) h = if h = p.1 then p.2 else currentOf t h := by
  unfold currentOf
  rw [hget?_cons]
  by_cases hh : h = p.1 <;> simp [hh]

theorem flatten_cons (p : Handle × Objs) (t : List (Handle × Objs)) :
    flatten (p :: t) = p.2 ++ flatten t := by
  simp [flatten, List.flatMap_cons]

/-- If no publisher other than `h` has an object at key `k`, the snapshot has `h`'s. -/
theorem flatten_get?_owner {snap : List (Handle × Objs)} (hnd : (snap.map (·.1)).Nodup)
    {h : Handle} {k : Uri} (hoth : ∀ q, q ≠ h → (currentOf snap q).get? k = none) :
    (flatten snap).get? k = (currentOf snap h).get? k := by
  induction snap generalizing h with
  | nil => rfl
  | cons p t ih =>
    rw [List.map_cons, List.nodup_cons] at hnd
    have hp : currentOf t p.1 = [] := by rw [currentOf, hget?_eq_none.mpr hnd.1]; rfl
    have htail : ∀ q, q ≠ p.1 → currentOf t q = currentOf (p :: t) q :=
      fun q hq => by rw [currentOf_cons, if_neg hq]
    rw [flatten_cons, Objs.get?_append, currentOf_cons]
    by_cases hh : h = p.1
    · rw [if_pos hh, ih hnd.2 (h := p.1) fun q hq => by rw [htail q hq]; exact hoth q (hh ▸ hq), hp]
      cases p.2.get? k <;> rfl
    · have := hoth p.1 (Ne.symm hh)
      rw [currentOf_cons, if_pos rfl] at this
      rw [if_neg hh, this]
      exact ih hnd.2 fun q hq => by
        by_cases hq' : q = p.1
        · rw [hq', hp]; rfl
        · rw [htail q hq']; exact hoth q hq

/-! ## changes that the files do not show -/

theorem Rrdp.publisherAdded_eq (r : Rrdp) (h : Handle) :
    r.publisherAdded h = r ∨
      (hget? r.snapshot h = none ∧
        r.publisherAdded h = { r with snapshot := (h, []) :: r.snapshot }) := by
  unfold Rrdp.publisherAdded
  cases hs : hget? r.snapshot h with
  | some o => exact .inl rfl
  | none => exact .inr ⟨rfl, by rw [hset, herase_eq_self (hget?_eq_none.mp hs)]; rfl⟩

/-- Session, serial, deltas, the snapshot's random and objects are the same: everything the RRDP and
rsync files are made from. -/
structure Quiet (r r' : Rrdp) : Prop where
  session : r'.session = r.session
  serial : r'.serial = r.serial
  deltas : r'.deltas = r.deltas
  snapRnd : r'.snapRnd = r.snapRnd
  flat : flatten r'.snapshot = flatten r.snapshot

theorem Quiet.refl (r : Rrdp) : Quiet r r := ⟨rfl, rfl, rfl, rfl, rfl⟩

theorem Quiet.trans {a b c : Rrdp} (h1 : Quiet a b) (h2 : Quiet b c) : Quiet a c :=
  ⟨h2.session.trans h1.session, h2.serial.trans h1.serial, h2.deltas.trans h1.deltas,
    h2.snapRnd.trans h1.snapRnd, h2.flat.trans h1.flat⟩

theorem Quiet.stage (r : Rrdp) (h : Handle) (d : Delta) : Quiet r (r.stage h d) :=
  ⟨rfl, rfl, rfl, rfl, rfl⟩

theorem Quiet.publisherAdded (r : Rrdp) (h : Handle) : Quiet r (r.publisherAdded h) := by
  rcases r.publisherAdded_eq h with e | ⟨_, e⟩ <;> rw [e]
  · exact .refl r
  · exact ⟨rfl, rfl, rfl, rfl, flatten_cons _ _⟩

/-! ## the retained deltas are those of the serials `serial, serial - 1, …`: `Contig` -/

/-- The deltas are those of the serials `n, n-1, …` (none for serial 1). -/
def contigFrom : Nat → List DeltaRec → Prop
  | _, [] => True
  | n, d :: ds => d.serial = n ∧ 1 < n ∧ contigFrom (n - 1) ds

theorem contigFrom_take : ∀ (n : Nat) (l : List DeltaRec) (k : Nat),
    contigFrom n l → contigFrom n (l.take k) := by
  intro n l
  induction l generalizing n with
  | nil => intro k _; simp [contigFrom]
  | cons d ds ih =>
    intro k h
    cases k with
    | zero => simp [contigFrom]
    | succ k =>
      rw [List.take_succ_cons]
      exact ⟨h.1, h.2.1, ih (n - 1) k h.2.2⟩

theorem contigFrom_get : ∀ (n : Nat) (l : List DeltaRec), contigFrom n l →
    ∀ i (hi : i < l.length), l[i].serial + i = n ∧ i + 1 < n := by
  intro n l
  induction l generalizing n with
  | nil => intro _ i hi; cases hi
  | cons d ds ih =>
    intro h i hi
    cases i with
    | zero => exact ⟨h.1, h.2.1⟩
    | succ i =>
      have := ih (n - 1) h.2.2 i (Nat.lt_of_succ_lt_succ hi)
      simp only [List.getElem_cons_succ]
      omega

theorem contigFrom_le {n : Nat} {l : List DeltaRec} (h : contigFrom n l) {d : DeltaRec}
    (hd : d ∈ l) : d.serial ≤ n := by
  obtain ⟨i, hi, rfl⟩ := List.getElem_of_mem hd
  have := (contigFrom_get n l h i hi).1
  omega

theorem contigFrom_serial_inj {n : Nat} {l : List DeltaRec} (h : contigFrom n l)
    {d d' : DeltaRec} (hd : d ∈ l) (hd' : d' ∈ l) (hs : d.serial = d'.serial) : d = d' := by
  obtain ⟨i, hi, rfl⟩ := List.getElem_of_mem hd
  obtain ⟨j, hj, rfl⟩ := List.getElem_of_mem hd'
  have h1 := (contigFrom_get n l h i hi).1
  have h2 := (contigFrom_get n l h j hj).1
  have : i = j := by omega
  subst this
  rfl

theorem contigFrom_head {n : Nat} {l : List DeltaRec} (h : contigFrom n l) (hne : l ≠ []) :
    (l.head?.map (·.serial)).getD 0 = n := by
  cases l with
  | nil => exact absurd rfl hne
  | cons d ds => simp [h.1]

theorem contigFrom_head_le {n : Nat} {l : List DeltaRec} (h : contigFrom n l) :
    (l.head?.map (·.serial)).getD 0 ≤ n := by
  cases l with
  | nil => exact Nat.zero_le _
  | cons d ds => exact Nat.le_of_eq h.1

theorem contigFrom_last_le {n : Nat} {l : List DeltaRec} (h : contigFrom n l) {d : DeltaRec}
    (hd : d ∈ l) : (l.getLast?.map (·.serial)).getD 0 ≤ d.serial := by
  obtain ⟨i, hi, rfl⟩ := List.getElem_of_mem hd
  have hlast : l.length - 1 < l.length := by omega
  have h1 := (contigFrom_get n l h i hi).1
  have h2 := (contigFrom_get n l h _ hlast).1
  rw [List.getLast?_eq_getElem?, List.getElem?_eq_getElem hlast]
  simp only [Option.map_some, Option.getD_some]
  omega

def Contig (r : Rrdp) : Prop := 0 < r.serial ∧ contigFrom r.serial r.deltas

theorem Quiet.contig {r r' : Rrdp} (q : Quiet r r') (h : Contig r) : Contig r' := by
  unfold Contig
  rw [q.serial, q.deltas]
  exact h

theorem Contig.create (session rnd : Nat) : Contig (Rrdp.create session rnd) :=
  ⟨Nat.one_pos, trivial⟩

/-- The deltas after an update: the new one, then those kept by number and age, cut by size. -/
theorem Rrdp.applyUpdated_deltas (r : Rrdp) (t rnd : Nat) : ∃ n, (r.applyUpdated t rnd).deltas =
    ((⟨r.serial + 1, rnd, stagedElems r.staged⟩ : DeltaRec) :: r.deltas.take t).take n :=
  ⟨_, rfl⟩

theorem Rrdp.applyUpdated_deltas_prefix (r : Rrdp) (t rnd : Nat) :
    (r.applyUpdated t rnd).deltas <+: ⟨r.serial + 1, rnd, stagedElems r.staged⟩ :: r.deltas := by
  obtain ⟨n, hn⟩ := r.applyUpdated_deltas t rnd
  rw [hn]
  exact (List.take_prefix _ _).trans ((List.prefix_cons_inj _).mpr (List.take_prefix _ _))

theorem Contig.step {r : Rrdp} (h : Contig r) (op : RrdpOp) : Contig (r.step op) := by
  cases op with
  | added h' => exact (Quiet.publisherAdded r h').contig h
  | stage h' d => exact h
  | update t rnd =>
    obtain ⟨n, hn⟩ := r.applyUpdated_deltas t rnd
    refine ⟨Nat.succ_pos _, ?_⟩
    show contigFrom (r.serial + 1) (r.applyUpdated t rnd).deltas
    rw [hn]
    exact contigFrom_take _ _ _ ⟨rfl, Nat.succ_lt_succ h.1, contigFrom_take _ _ _ h.2⟩
  | reset s rnd => exact ⟨Nat.one_pos, trivial⟩

theorem Contig.run {r : Rrdp} (h : Contig r) (ops : List RrdpOp) : Contig (r.run ops) :=
  List.foldlRecOn ops _ h fun _ hr op _ => hr.step op

/-! ## invariant of the content aggregate -/

/-- Everything publisher `h` has (published or staged) lies in its jail; a handle for which no
base URI can be derived has nothing. -/
def JailedAt (base : Uri) (r : Rrdp) (h : Handle) : Prop :=
  match publisherBase base h with
  | some jail => (∀ p ∈ r.current h, inJail jail p.1 = true) ∧
                 (∀ e ∈ r.stagedOf h, inJail jail e.uri = true)
  | none => r.current h = [] ∧ r.stagedOf h = []

structure RInv (base : Uri) (r : Rrdp) : Prop where
  snapNodup : (r.snapshot.map (·.1)).Nodup
  stagedNodup : (r.staged.map (·.1)).Nodup
  objs : ∀ h, ObjsOk (r.current h)
  wf : ∀ h, WfStaged (r.current h) (r.stagedOf h)
  canon : ∀ h, AllCanon (r.stagedOf h)
  jailed : ∀ h, JailedAt base r h

/-- `u` lies in the jail of publisher `h`. -/
def Within (base : Uri) (h : Handle) (u : Uri) : Prop :=
  ∃ jail, publisherBase base h = some jail ∧ inJail jail u = true

theorem jailedAt_iff {base : Uri} {r : Rrdp} {h : Handle} : JailedAt base r h ↔
    (∀ p ∈ r.current h, Within base h p.1) ∧ (∀ e ∈ r.stagedOf h, Within base h e.uri) := by
  unfold JailedAt Within
  cases publisherBase base h with
  | none => simp [List.eq_nil_iff_forall_not_mem]
  | some jail => simp

theorem RInv.create (base : Uri) (session rnd : Nat) : RInv base (Rrdp.create session rnd) :=
  ⟨List.nodup_nil, List.nodup_nil, fun _ => ObjsOk.nil, fun _ => WfStaged.nil _,
    (fun _ _ he => nomatch he),
    fun _ => jailedAt_iff.mpr ⟨(fun _ hp => nomatch hp), (fun _ he => nomatch he)⟩⟩

theorem current_publisherAdded (r : Rrdp) (h q : Handle) :
    (r.publisherAdded h).current q = r.current q := by
  rcases r.publisherAdded_eq h with e | ⟨hn, e⟩ <;> rw [e]
  show (hget? ((h, []) :: r.snapshot) q).getD [] = (hget? r.snapshot q).getD []
  rw [hget?_cons]
  split
  · next hq => rw [hq, hn]; rfl
  · rfl

theorem objectsFor_publisherAdded (r : Rrdp) (h q : Handle) :
    (r.publisherAdded h).objectsFor q = r.objectsFor q := by
  unfold Rrdp.objectsFor
  rw [current_publisherAdded]
  rcases r.publisherAdded_eq h with e | ⟨_, e⟩ <;> rw [e] <;> rfl

theorem RInv.publisherAdded {base : Uri} {r : Rrdp} (hi : RInv base r) (h : Handle) :
    RInv base (r.publisherAdded h) := by
  have hc := current_publisherAdded r h
  rcases r.publisherAdded_eq h with e | ⟨hn, e⟩ <;> rw [e] at hc ⊢
  · exact hi
  · refine ⟨List.nodup_cons.mpr ⟨hget?_eq_none.mp hn, hi.snapNodup⟩, hi.stagedNodup,
      fun q => by rw [hc]; exact hi.objs q, fun q => by rw [hc]; exact hi.wf q, hi.canon,
      fun q => ?_⟩
    have := hi.jailed q
    rw [jailedAt_iff] at this ⊢
    rw [hc]
    exact this

theorem stagedOf_stage (r : Rrdp) (h q : Handle) (d : Delta) :
    (r.stage h d).stagedOf q = if q = h then mergeNew (r.stagedOf h) d else r.stagedOf q := by
  simp only [Rrdp.stage, Rrdp.stagedOf]
  rw [hget?_hset]
  by_cases hq : q = h <;> simp [hq]

/-- What holds of the merged elements of `h` and of what everybody has staged holds of what is
staged after the staging. -/
theorem stagedOf_stage_forall {r : Rrdp} {h : Handle} {d : Delta} {P : Handle → Staged → Prop}
    (hh : P h (mergeNew (r.stagedOf h) d)) (hq : ∀ q, P q (r.stagedOf q)) (q : Handle) :
    P q ((r.stage h d).stagedOf q) := by
  rw [stagedOf_stage]
  split
  · next e => exact e ▸ hh
  · exact hq q

theorem RInv.stage {base : Uri} {r : Rrdp} (hi : RInv base r) (h : Handle) {d : Delta}
    (hcd : AllCanon d) (hnd : KeyNodup d)
    (hok : ∀ e ∈ d, e.fits (viewStaged (r.current h) (r.stagedOf h) (key e.uri)))
    (hjail : ∀ e ∈ d, Within base h e.uri) :
    RInv base (r.stage h d) := by
  obtain ⟨_, hwf', hcanon'⟩ := mergeNew_spec (hi.wf h) (hi.canon h) hcd hnd hok
  exact ⟨hi.snapNodup, hnodup_hset hi.stagedNodup h _, hi.objs,
    stagedOf_stage_forall (P := fun q st => WfStaged (r.current q) st) hwf' hi.wf,
    stagedOf_stage_forall (P := fun _ st => AllCanon st) hcanon' hi.canon,
    fun q => jailedAt_iff.mpr ⟨(jailedAt_iff.mp (hi.jailed q)).1,
      stagedOf_stage_forall (P := fun q st => ∀ e ∈ st, Within base q e.uri)
        (mergeNew_uris (Within base h) (jailedAt_iff.mp (hi.jailed h)).2 hjail)
        (fun q => (jailedAt_iff.mp (hi.jailed q)).2) q⟩⟩

theorem RInv.sessionReset {base : Uri} {r : Rrdp} (hi : RInv base r) (session rnd : Nat) :
    RInv base (r.sessionReset session rnd) :=
  ⟨hi.snapNodup, hi.stagedNodup, hi.objs, hi.wf, hi.canon, hi.jailed⟩

theorem current_applyUpdated {r : Rrdp} (hnd : (r.staged.map (·.1)).Nodup)
    (hsn : (r.snapshot.map (·.1)).Nodup) (t rnd : Nat) (q : Handle) :
    (r.applyUpdated t rnd).current q = r.objectsFor q :=
  (foldl_snapApply r.staged hnd r.snapshot hsn).2 q

theorem RInv.objectsFor_ok {base : Uri} {r : Rrdp} (hi : RInv base r) (h : Handle) :
    ObjsOk (r.objectsFor h) := (hi.objs h).applyDelta (hi.canon h)

theorem RInv.objectsFor_get? {base : Uri} {r : Rrdp} (hi : RInv base r) (h : Handle) (k : Uri) :
    (r.objectsFor h).get? k = viewStaged (r.current h) (r.stagedOf h) k :=
  get?_objectsFor _ _ (hi.wf h).nodup k

/-- Publisher `h` has, or has staged a change for, key `k`. -/
def touches (r : Rrdp) (h : Handle) (k : Uri) : Prop :=
  (r.current h).get? k ≠ none ∨ ∃ e ∈ r.stagedOf h, key e.uri = k

theorem current_of_not_touches {r : Rrdp} {q : Handle} {k : Uri} (hn : ¬ touches r q k) :
    (r.current q).get? k = none :=
  Decidable.not_not.mp fun h => hn (.inl h)

theorem objectsFor_get?_none {base : Uri} {r : Rrdp} (hi : RInv base r) {q : Handle} {k : Uri}
    (hn : ¬ touches r q k) : (r.objectsFor q).get? k = none := by
  rw [hi.objectsFor_get?, viewStaged]
  cases hf : findKey (r.stagedOf q) k with
  | some e =>
    obtain ⟨hm, hk⟩ := findKey_some hf
    exact absurd (Or.inr ⟨e, hm, hk⟩) hn
  | none => rw [effectAt_none hf]; exact current_of_not_touches hn

theorem touches_of_objectsFor {base : Uri} {r : Rrdp} (hi : RInv base r) {h : Handle}
    {p : Uri × Content} (hp : p ∈ r.objectsFor h) : touches r h p.1 := by
  apply Classical.byContradiction
  intro hn
  have := objectsFor_get?_none hi hn
  rw [(hi.objectsFor_ok h).get?_of_mem hp] at this
  cases this

theorem touches_within {base : Uri} {r : Rrdp} (hi : RInv base r) {h : Handle} {k : Uri}
    (ht : touches r h k) : Within base h k := by
  have hja := jailedAt_iff.mp (hi.jailed h)
  rcases ht with ht | ⟨e, he, rfl⟩
  · cases hg : (r.current h).get? k with
    | none => exact absurd hg ht
    | some c => exact hja.1 (k, c) (Objs.get?_some_mem hg)
  · obtain ⟨jail, hb, hin⟩ := hja.2 e he
    exact ⟨jail, hb, (inJail_key jail (hi.canon h e he)).trans hin⟩

theorem RInv.objectsFor_within {base : Uri} {r : Rrdp} (hi : RInv base r) (h : Handle) :
    ∀ p ∈ r.objectsFor h, Within base h p.1 :=
  fun _ hp => touches_within hi (touches_of_objectsFor hi hp)

theorem RInv.objectsFor_jailed {base : Uri} {r : Rrdp} (hi : RInv base r) {h : Handle} {jail : Uri}
    (hb : publisherBase base h = some jail) (p : Uri × Content) (hp : p ∈ r.objectsFor h) :
    inJail jail p.1 = true := by
  obtain ⟨j, hj, hin⟩ := hi.objectsFor_within h p hp
  rw [hb] at hj
  cases hj
  exact hin

theorem RInv.applyUpdated {base : Uri} {r : Rrdp} (hi : RInv base r) (t rnd : Nat) :
    RInv base (r.applyUpdated t rnd) := by
  have hcur := current_applyUpdated hi.stagedNodup hi.snapNodup t rnd
  refine ⟨(foldl_snapApply r.staged hi.stagedNodup r.snapshot hi.snapNodup).1, List.nodup_nil,
    fun q => ?_, fun q => ?_, (fun q e he => nomatch he),
    fun q => jailedAt_iff.mpr ⟨?_, (fun e he => nomatch he)⟩⟩
  · rw [hcur]; exact hi.objectsFor_ok q
  · exact WfStaged.nil _
  · rw [hcur]; exact hi.objectsFor_within q

/-- Withdraws for some of the publisher's objects are a delta that fits current ⊕ staged. -/
theorem RInv.withdraws_facts {base : Uri} {r : Rrdp} (hi : RInv base r) (h : Handle) {l : Objs}
    (hl : l.Sublist (r.objectsFor h)) :
    AllCanon (withdrawAll l) ∧ KeyNodup (withdrawAll l) ∧
    ∀ e ∈ withdrawAll l, e.fits (viewStaged (r.current h) (r.stagedOf h) (key e.uri)) := by
  have hoo := hi.objectsFor_ok h
  refine ⟨?_, ?_, ?_⟩
  · intro e he
    obtain ⟨p, hp, rfl⟩ := List.mem_map.mp he
    exact (hoo.keys p (hl.subset hp)).2
  · unfold KeyNodup withdrawAll
    rw [List.pairwise_map]
    have hnd : l.Pairwise (fun a b => a.1 ≠ b.1) := by
      have := hoo.nodup
      rw [List.Nodup, List.pairwise_map] at this
      exact this.sublist hl
    refine hnd.imp_of_mem fun ha hb hab => ?_
    simp only [Elem.uri]
    rw [(hoo.keys _ (hl.subset ha)).1, (hoo.keys _ (hl.subset hb)).1]
    exact hab
  · intro e he
    obtain ⟨p, hp, rfl⟩ := List.mem_map.mp he
    show Option.map Content.hash (viewStaged _ _ (key p.1)) = some p.2.hash
    rw [(hoo.keys p (hl.subset hp)).1, ← hi.objectsFor_get?, hoo.get?_of_mem (hl.subset hp)]
    rfl

/-- Staging withdraws for some of the publisher's objects (publisher removal, deletion of
matching files) keeps the invariant. -/
theorem RInv.stage_withdraws {base : Uri} {r : Rrdp} (hi : RInv base r) (h : Handle) {l : Objs}
    (hl : l.Sublist (r.objectsFor h)) : RInv base (r.stage h (withdrawAll l)) := by
  obtain ⟨hc, hn, hok⟩ := hi.withdraws_facts h hl
  refine hi.stage h hc hn hok fun e he => ?_
  obtain ⟨p, hp, rfl⟩ := List.mem_map.mp he
  exact hi.objectsFor_within h p (hl.subset hp)

theorem objectsFor_stage_ne (r : Rrdp) (h q : Handle) (d : Delta) (hq : q ≠ h) :
    (r.stage h d).objectsFor q = r.objectsFor q := by
  unfold Rrdp.objectsFor
  rw [stagedOf_stage]
  simp only [hq, ↓reduceIte]
  rfl

theorem RInv.publishers_nodup {base : Uri} {r : Rrdp} (hi : RInv base r) : r.publishers.Nodup := by
  unfold Rrdp.publishers
  rw [List.nodup_append]
  refine ⟨hi.snapNodup, List.Nodup.sublist List.filter_sublist hi.stagedNodup, ?_⟩
  intro a ha b hb hab
  subst hab
  have := (List.mem_filter.mp hb).2
  simp only [Option.isNone_iff_eq_none] at this
  exact hget?_eq_none.mp this ha

/-- `DeleteMatchingFiles` stages, publisher by publisher, withdraws for objects the publisher
has: what every such staging keeps, the command keeps. -/
theorem RInv.deleteFiles_keeps {base : Uri} {r : Rrdp} (hi : RInv base r) (del : Uri)
    (P : Rrdp → Prop) (h0 : P r)
    (hstep : ∀ acc h, RInv base acc → P acc →
      P (acc.stage h (matchingWithdraws (acc.objectsFor h) del))) :
    RInv base (r.deleteFiles del) ∧ P (r.deleteFiles del) := by
  unfold Rrdp.deleteFiles
  -- the model takes every publisher's withdraws from `r`, `hstep` from the state reached: they agree
  -- on the handles still to come, since staging for `h` leaves the objects of the others alone
  have gen : ∀ (l : List Handle), l.Nodup → ∀ (acc : Rrdp), RInv base acc → P acc →
      (∀ h ∈ l, acc.objectsFor h = r.objectsFor h) →
      RInv base (l.foldl (fun acc h =>
        let w := matchingWithdraws (r.objectsFor h) del
        if w.isEmpty then acc else acc.stage h w) acc) ∧
      P (l.foldl (fun acc h =>
        let w := matchingWithdraws (r.objectsFor h) del
        if w.isEmpty then acc else acc.stage h w) acc) := by
    intro l
    induction l with
    | nil => intro _ acc ha hp _; exact ⟨ha, hp⟩
    | cons h t ih =>
      intro hl acc ha hp hobj
      rw [List.nodup_cons] at hl
      rw [List.foldl_cons]
      simp only
      split
      · exact ih hl.2 acc ha hp (fun q hq => hobj q (List.mem_cons_of_mem _ hq))
      · rw [← hobj h List.mem_cons_self]
        refine ih hl.2 _ (ha.stage_withdraws h List.filter_sublist) (hstep acc h ha hp)
          fun q hq => ?_
        rw [objectsFor_stage_ne _ _ _ _ (fun e : q = h => hl.1 (e ▸ hq))]
        exact hobj q (List.mem_cons_of_mem _ hq)
  exact gen r.publishers hi.publishers_nodup r hi h0 (fun _ _ => rfl)

theorem RInv.deleteFiles {base : Uri} {r : Rrdp} (hi : RInv base r) (del : Uri) :
    RInv base (r.deleteFiles del) :=
  (hi.deleteFiles_keeps del (fun _ => True) trivial fun _ _ _ _ => trivial).1

/-- `RemovePublisher` leaves a publisher without objects alone and stages the withdraws of
everything it has otherwise. -/
@[elab_as_elim]
theorem Rrdp.removePublisher_cases {motive : Rrdp → Prop} (r : Rrdp) (h : Handle)
    (empty : r.objectsFor h = [] → motive r)
    (stage : motive (r.stage h (withdrawAll (r.objectsFor h)))) : motive (r.removePublisher h) := by
  fun_cases Rrdp.removePublisher r h with
  | case1 _ he => exact empty (List.isEmpty_iff.mp he)
  | case2 => exact stage

theorem RInv.removePublisher {base : Uri} {r : Rrdp} (hi : RInv base r) (h : Handle) :
    RInv base (r.removePublisher h) :=
  r.removePublisher_cases h (fun _ => hi) (hi.stage_withdraws h (List.Sublist.refl _))

theorem objectsFor_removePublisher_ne (r : Rrdp) (h q : Handle) (hq : q ≠ h) :
    (r.removePublisher h).objectsFor q = r.objectsFor q :=
  r.removePublisher_cases h (fun _ => rfl) (objectsFor_stage_ne _ _ _ _ hq)

theorem current_removePublisher (r : Rrdp) (h q : Handle) :
    (r.removePublisher h).current q = r.current q :=
  r.removePublisher_cases h (fun _ => rfl) rfl

/-- After the content command `RemovePublisher` the publisher holds nothing: every object it had,
staged changes included, is withdrawn. -/
theorem RInv.removePublisher_objectsFor {base : Uri} {r : Rrdp} (hi : RInv base r) (h : Handle) :
    (r.removePublisher h).objectsFor h = [] := by
  refine r.removePublisher_cases h id (Assoc.eq_nil_of_lookup_none fun k => ?_)
  obtain ⟨hc, hn, hok⟩ := hi.withdraws_facts h (List.Sublist.refl _)
  obtain ⟨hview, hwf', _⟩ := mergeNew_spec (hi.wf h) (hi.canon h) hc hn hok
  show (objectsFor (r.current h) ((r.stage h _).stagedOf h)).get? k = none
  rw [stagedOf_stage, if_pos rfl, get?_objectsFor _ _ hwf'.nodup, hview k]
  cases hf : findKey (withdrawAll (r.objectsFor h)) k with
  | some e =>
    obtain ⟨p, _, rfl⟩ := List.mem_map.mp (findKey_some hf).1
    exact effectAt_some hf _
  | none =>
    rw [effectAt_none hf, ← hi.objectsFor_get?]
    cases hg : (r.objectsFor h).get? k with
    | none => rfl
    | some c =>
      -- the withdraw for `k` would have been found
      have hmem : (k, c) ∈ r.objectsFor h := Objs.get?_some_mem hg
      have := findKey_of_mem hn (e := .withdraw k c.hash) (List.mem_map.mpr ⟨(k, c), hmem, rfl⟩)
      rw [show key (Elem.withdraw k c.hash).uri = k from ((hi.objectsFor_ok h).keys _ hmem).1,
        hf] at this
      cases this

theorem RInv.removePublisher_idem {base : Uri} {r : Rrdp} (hi : RInv base r) (h : Handle) :
    (r.removePublisher h).removePublisher h = r.removePublisher h := by
  have hnil := hi.removePublisher_objectsFor h
  generalize r.removePublisher h = r' at hnil ⊢
  unfold Rrdp.removePublisher
  simp only [hnil, List.isEmpty_nil, if_true]

/-! ## invariant of the manager -/

structure SInv (s : Server) : Prop where
  r : RInv s.base s.rrdp
  access : ∀ h jail, s.jail? h = some jail → publisherBase s.base h = some jail
  accessNodup : (s.access.map (·.1)).Nodup

/-- What is asked of the requests of a history: deltas name every URI at most once and use
canonical URIs. -/
def OpOk : Op → Prop
  | .publish _ d => AllCanon d ∧ KeyNodup d
  | _ => True

theorem OpOk.publish_one (h : Handle) {e : Elem} (he : e.uri.canon = true) : OpOk (.publish h [e]) :=
  ⟨fun _ hx => List.mem_singleton.mp hx ▸ he, List.pairwise_singleton _ _⟩

theorem SInv.init (base : Uri) (cfg : Cfg) (session rnd : Nat) :
    SInv (Server.init base cfg session rnd) :=
  ⟨RInv.create base session rnd, fun h jail hj => by simp [Server.init, Server.jail?, hget?] at hj,
    List.nodup_nil⟩

/-! ## what a request does -/

theorem Rrdp.run_append (r : Rrdp) (a b : List RrdpOp) : r.run (a ++ b) = (r.run a).run b := by
  unfold Rrdp.run; rw [List.foldl_append]

/-- `r'` arises from `r` by staging deltas: only the staged elements change. -/
inductive Staging : Rrdp → Rrdp → Prop
  | refl (r : Rrdp) : Staging r r
  | stage {r r' : Rrdp} (h : Handle) (d : Delta) : Staging r r' → Staging r (r'.stage h d)

theorem Staging.quiet {r r' : Rrdp} (h : Staging r r') : Quiet r r' := by
  induction h with
  | refl => exact .refl _
  | stage h d _ ih => exact ih.trans (.stage _ h d)

theorem Staging.run {r r' : Rrdp} (h : Staging r r') : ∃ rops : List RrdpOp, r' = r.run rops := by
  induction h with
  | refl => exact ⟨[], rfl⟩
  | stage h d _ ih =>
    obtain ⟨rops, rfl⟩ := ih
    exact ⟨rops ++ [.stage h d], by rw [Rrdp.run_append]; rfl⟩

theorem removePublisher_staging (r : Rrdp) (h : Handle) : Staging r (r.removePublisher h) :=
  r.removePublisher_cases h (fun _ => .refl r) (.stage h _ (.refl r))

theorem deleteFiles_staging (r : Rrdp) (del : Uri) : Staging r (r.deleteFiles del) := by
  refine List.foldlRecOn r.publishers _ (.refl r) fun acc ha h _ => ?_
  simp only
  split
  · exact ha
  · exact .stage h _ ha

/-- What a request does to the state, case by case; `skip` covers requests that are refused or
find nothing to do. -/
inductive Step : Op → Server → Server → Prop
  | skip (op : Op) (s : Server) : Step op s s
  | addpub {s : Server} {h : Handle} {jail : Uri} : publisherBase s.base h = some jail →
      s.jail? h = none →
      Step (.addpub h) s { s with access := hset s.access h jail, rrdp := s.rrdp.publisherAdded h }
  | rmpub (s : Server) (h : Handle) :
      Step (.rmpub h) s { s with access := herase s.access h, rrdp := s.rrdp.removePublisher h }
  | publish {s : Server} {h : Handle} {jail : Uri} {d : Delta} : s.jail? h = some jail →
      verifyDelta (s.rrdp.objectsFor h) jail d = none →
      Step (.publish h d) s { s with rrdp := s.rrdp.stage h d }
  | update (s : Server) (rnd : Nat) :
      Step (.update rnd) s
        { s with rrdp := s.rrdp.applyUpdated (findTruncateAge s.cfg.minNr s.cfg.maxNr s.ages) rnd }
  | reset (s : Server) (session rnd : Nat) : Step (.reset session rnd) s (s.reset session rnd)
  | delete {s s1 s3 : Server} {del : Uri} {rndOf : Nat → Nat} {rnd1 rnd3 : Nat} :
      Step (.update rnd1) s s1 →
      Step (.update rnd3) { s1 with rrdp := s1.rrdp.deleteFiles del } s3 →
      Step (.delete del rndOf) s s3

theorem Server.removePublisher_fst (s : Server) (h : Handle) :
    (s.removePublisher h).1 =
      { s with access := herase s.access h, rrdp := s.rrdp.removePublisher h } := by
  unfold Server.removePublisher
  cases hj : s.jail? h with
  | some j => rfl
  | none =>
    simp only [Option.isSome_none, Bool.false_eq_true, ↓reduceIte]
    rw [herase_eq_self (hget?_eq_none.mp hj)]

theorem Server.update_spec (s : Server) (rnd : Nat) : Step (.update rnd) s (s.update rnd).1 := by
  fun_cases Server.update s rnd with
  | case1 => exact .skip _ s
  | case2 => exact .skip _ s
  | case3 => exact .update s rnd

theorem Server.update_ne_panic (s : Server) (rnd : Nat) : ((s.update rnd).2 == .panic) = false := by
  fun_cases Server.update s rnd <;> rfl

/-- `publish` either verifies the delta in the publisher's jail and stages it, or changes nothing
and then answers `ok` to the empty delta only. -/
@[elab_as_elim]
theorem Server.publish_cases {motive : Server × Reply → Prop} (s : Server) (h : Handle) (d : Delta)
    (staged : ∀ jail, s.jail? h = some jail → verifyDelta (s.rrdp.objectsFor h) jail d = none →
      motive ({ s with rrdp := s.rrdp.stage h d }, .ok))
    (unchanged : ∀ r, (r = .ok → d = []) → motive (s, r)) : motive (s.publish h d) := by
  fun_cases Server.publish s h d with
  | case2 _ _ he => exact unchanged _ fun _ => List.isEmpty_iff.mp he
  | case4 jail hj _ hv => exact staged jail hj hv
  | _ => exact unchanged _ fun h => nomatch h

theorem Server.step_spec (s : Server) (op : Op) : Step op s (s.step op) := by
  cases op with
  | addpub h =>
    show Step _ s (s.addPublisher h).1
    fun_cases Server.addPublisher s h with
    | case1 => exact .skip _ s
    | case2 => exact .skip _ s
    | case3 jail hb hj => exact .addpub hb (Option.not_isSome_iff_eq_none.mp hj)
  | rmpub h =>
    show Step _ s (s.removePublisher h).1
    rw [s.removePublisher_fst h]
    exact .rmpub s h
  | publish h d =>
    show Step _ s (s.publish h d).1
    exact s.publish_cases h d (fun _ hj hv => .publish hj hv) fun _ _ => .skip _ s
  | update rnd => exact s.update_spec rnd
  | reset session rnd => exact .reset s session rnd
  | delete del rndOf =>
    simp only [Server.step, Server.delete, Server.update_ne_panic, Bool.false_eq_true, ↓reduceIte]
    exact .delete (s.update_spec _) (Server.update_spec _ _)

theorem Server.run_induction {P : Server → Prop} {Q : Op → Prop}
    (hstep : ∀ s op, P s → Q op → P (s.step op)) (ops : List Op) {s : Server} (h : P s)
    (hq : ∀ op ∈ ops, Q op) : P (s.run ops) :=
  List.foldlRecOn ops _ h fun s' hs op hop => hstep s' op hs (hq op hop)

/-! ## requests keep the invariant of the manager -/

theorem SInv.replace {s : Server} {a : List (Handle × Uri)} {r : Rrdp} (hr : RInv s.base r)
    (ha : ∀ h jail, hget? a h = some jail → publisherBase s.base h = some jail)
    (hn : (a.map (·.1)).Nodup) : SInv { s with access := a, rrdp := r } :=
  ⟨hr, ha, hn⟩

theorem SInv.of_step {op : Op} {s s' : Server} (hs : Step op s s') (hi : SInv s) (hok : OpOk op) :
    SInv s' := by
  induction hs with
  | skip => exact hi
  | @addpub s h jail hb hj =>
    refine .replace (hi.r.publisherAdded h) (fun q j hq => ?_) (hnodup_hset hi.accessNodup h jail)
    rw [hget?_hset] at hq
    split at hq
    · next hqh => rw [hqh, ← Option.some.inj hq]; exact hb
    · exact hi.access q j hq
  | rmpub s h =>
    refine .replace (hi.r.removePublisher h) (fun q j hq => ?_) (hnodup_herase hi.accessNodup h)
    rw [hget?_herase] at hq
    split at hq
    · cases hq
    · exact hi.access q j hq
  | @publish s h jail d hj hv =>
    have hall := (verifyDelta_eq_none_iff _ jail d).mp hv
    refine .replace (hi.r.stage h hok.1 hok.2 (fun e he => ?_) fun e he => ⟨jail, hi.access h jail hj,
      (hall e he).1⟩) hi.access hi.accessNodup
    rw [← hi.r.objectsFor_get?]
    exact (hall e he).2
  | update s rnd => exact .replace (hi.r.applyUpdated _ rnd) hi.access hi.accessNodup
  | reset s session rnd => exact .replace (hi.r.sessionReset session rnd) hi.access hi.accessNodup
  | delete _ _ ih1 ih3 =>
    have h1 := ih1 hi trivial
    exact ih3 (.replace (h1.r.deleteFiles _) h1.access h1.accessNodup) trivial

theorem SInv.step {s : Server} (hi : SInv s) {op : Op} (hok : OpOk op) : SInv (s.step op) :=
  .of_step (s.step_spec op) hi hok

theorem SInv.update {s : Server} (hi : SInv s) (rnd : Nat) : SInv (s.update rnd).1 :=
  .of_step (s.update_spec rnd) hi trivial

theorem SInv.run {s : Server} (hi : SInv s) {ops : List Op} (hok : ∀ op ∈ ops, OpOk op) :
    SInv (s.run ops) :=
  Server.run_induction (fun _ _ h => h.step) ops hi hok

/-! ## requests as sequences of changes of the content aggregate -/

theorem Step.rrdp_run {op : Op} {s s' : Server} (hs : Step op s s') :
    ∃ rops : List RrdpOp, s'.rrdp = s.rrdp.run rops := by
  induction hs with
  | skip => exact ⟨[], rfl⟩
  | @addpub s h => exact ⟨[.added h], rfl⟩
  | rmpub s h =>
    dsimp only
    exact (removePublisher_staging s.rrdp h).run
  | @publish s h _ d => exact ⟨[.stage h d], rfl⟩
  | update s rnd => exact ⟨[.update _ rnd], rfl⟩
  | reset s session rnd => exact ⟨[.reset session rnd], rfl⟩
  | @delete s s1 s3 del _ _ _ _ _ ih1 ih3 =>
    obtain ⟨r1, h1⟩ := ih1
    obtain ⟨r2, h2⟩ := (deleteFiles_staging s1.rrdp del).run
    obtain ⟨r3, h3⟩ := ih3
    exact ⟨r1 ++ r2 ++ r3, by rw [Rrdp.run_append, Rrdp.run_append, ← h1, ← h2, h3]⟩

theorem Step.base {op : Op} {s s' : Server} (hs : Step op s s') : s'.base = s.base ∧ s'.cfg = s.cfg := by
  induction hs with
  | delete _ _ ih1 ih3 => exact ⟨ih3.1.trans ih1.1, ih3.2.trans ih1.2⟩
  | _ => exact ⟨rfl, rfl⟩

/-! ## retention: the number of deltas kept -/

/-- Under `min_nr + 1 ≤ max_nr` the loop never passes `max_nr - 1`: there the first arm cannot
fire (the delta is not young and `min_nr ≤ keep`) and the second one stops. -/
theorem truncLoop_le (minNr maxNr : Nat) (hmin : minNr + 1 ≤ maxNr) (l : List (Bool × Bool))
    (keep : Nat) (hk : keep ≤ maxNr - 1)
    (hy : ∀ j a, l[j]? = some a → maxNr - 1 ≤ keep + j → a.1 = false) :
    truncLoop minNr maxNr keep l ≤ maxNr - 1 := by
  fun_induction truncLoop minNr maxNr keep l with
  | case1 keep => exact hk
  | case2 keep young old rest hc ih =>
    have hlt : keep < maxNr - 1 := by
      apply Nat.lt_of_le_of_ne hk
      intro heq
      have hyf : young = false := hy 0 (young, old) rfl (by omega)
      simp only [hyf, Bool.or_false, decide_eq_true_eq] at hc
      omega
    exact ih (by omega) fun j a hj hle => hy (j + 1) a (by simpa using hj) (by omega)
  | case3 keep young old rest hc hb => exact hk
  | case4 keep young old rest hc hb ih =>
    have hne : keep ≠ maxNr - 1 := fun heq => hb (by simp [heq])
    exact ih (by omega) fun j a hj hle => hy (j + 1) a (by simpa using hj) (by omega)

theorem keepBySize_le (limit : Nat) : ∀ (l : List DeltaRec) (total : Nat),
    keepBySize limit total l ≤ l.length := by
  intro l total
  fun_induction keepBySize limit total l with
  | case1 => exact Nat.le_refl _
  | case2 => exact Nat.zero_le _
  | case3 total d ds _ ih => rw [List.length_cons]; omega

/-- While the first arm of the loop applies (fewer than `min_nr` kept, or the delta is young)
everything is kept. -/
theorem truncLoop_first_arm (minNr maxNr : Nat) (young old : Bool) :
    ∀ (n keep : Nat), (young = true ∨ keep + n ≤ minNr) →
      truncLoop minNr maxNr keep (List.replicate n (young, old)) = keep + n := by
  intro n
  induction n with
  | zero => intro keep _; simp [truncLoop]
  | succ n ih =>
    intro keep h
    rw [List.replicate_succ]
    simp only [truncLoop]
    have hc : (decide (keep < minNr) || young) = true := by
      rcases h with h | h
      · simp [h]
      · have : keep < minNr := by omega
        simp [this]
    rw [if_pos hc, ih (keep + 1) (h.imp_right fun h => by omega)]
    omega

theorem applyUpdated_deltas_le (r : Rrdp) (minNr maxNr : Nat) (ages : List (Bool × Bool))
    (rnd : Nat) (hmin : minNr + 1 ≤ maxNr)
    (hyoung : ∀ j a, ages[j]? = some a → maxNr - 1 ≤ j → a.1 = false) :
    (r.applyUpdated (findTruncateAge minNr maxNr ages) rnd).deltas.length ≤ maxNr := by
  have hle : findTruncateAge minNr maxNr ages ≤ maxNr - 1 :=
    truncLoop_le minNr maxNr hmin ages 0 (Nat.zero_le _)
      (fun j a hj hle => hyoung j a hj (by simpa using hle))
  obtain ⟨n, hn⟩ := r.applyUpdated_deltas (findTruncateAge minNr maxNr ages) rnd
  rw [hn]
  simp only [List.length_take, List.length_cons]
  omega

/-- `cfg.young = false` (no retained delta is younger than `min_seconds`) is what the bound rests
on: young deltas are kept whatever their number (F-C11-2). -/
theorem Step.deltas_le {op : Op} {s s' : Server} (hs : Step op s s')
    (hmin : s.cfg.minNr + 1 ≤ s.cfg.maxNr) (hy : s.cfg.young = false)
    (hb : s.rrdp.deltas.length ≤ s.cfg.maxNr) : s'.rrdp.deltas.length ≤ s.cfg.maxNr := by
  induction hs with
  | skip => exact hb
  | @addpub s h =>
    rw [(Quiet.publisherAdded s.rrdp h).deltas]; exact hb
  | rmpub s h =>
    dsimp only
    rw [(removePublisher_staging s.rrdp h).quiet.deltas]; exact hb
  | publish => exact hb
  | update s rnd =>
    refine applyUpdated_deltas_le _ _ _ _ rnd hmin fun j a hj _ => ?_
    rw [Server.ages, List.getElem?_map, Option.map_eq_some_iff] at hj
    obtain ⟨_, _, rfl⟩ := hj
    exact hy
  | reset => exact Nat.zero_le _
  | @delete s s1 s3 del _ _ _ hs1 _ ih1 ih3 =>
    have hc : s1.cfg = s.cfg := hs1.base.2
    have := ih3 (by rw [hc]; exact hmin) (by rw [hc]; exact hy)
      (by rw [(deleteFiles_staging s1.rrdp del).quiet.deltas, hc]; exact ih1 hmin hy hb)
    rwa [hc] at this

theorem run_deltas_le (ops : List Op) (s : Server) (hmin : s.cfg.minNr + 1 ≤ s.cfg.maxNr)
    (hy : s.cfg.young = false) (hb : s.rrdp.deltas.length ≤ s.cfg.maxNr) :
    (s.run ops).rrdp.deltas.length ≤ s.cfg.maxNr := by
  refine (Server.run_induction (Q := fun _ => True)
    (P := fun s' => s'.cfg = s.cfg ∧ s'.rrdp.deltas.length ≤ s.cfg.maxNr)
    (fun s' op h _ => ?_) ops ⟨rfl, hb⟩ fun _ _ => trivial).2
  obtain ⟨hc, hb'⟩ := h
  rw [← hc] at hmin hy hb' ⊢
  exact ⟨(s'.step_spec op).base.2, (s'.step_spec op).deltas_le hmin hy hb'⟩

end KM.Pubd
