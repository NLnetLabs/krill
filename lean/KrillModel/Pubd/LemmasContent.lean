/-
Objects, deltas and staged elements of the publication server as maps: a delta acts key by key
(`effectAt`), one precondition of an element serves verification, staging and the strict client
(`Elem.fits`), and `merge_new_elements` is read through its table (`mergeAct`); the jails of
publishers; object maps whose keys are canonical (`ObjsOk`).
-/
import KrillModel.Pubd.Rrdp
import KrillModel.Base.Assoc
namespace KM.Pubd

theorem Objs.get?_nil (k : Uri) : Objs.get? [] k = none := rfl

theorem Objs.get?_cons (p : Uri × Content) (o : Objs) (k : Uri) :
    Objs.get? (p :: o) k = if k = p.1 then some p.2 else Objs.get? o k :=
  Assoc.lookup_cons p o k

theorem Objs.get?_erase (o : Objs) (k k' : Uri) :
    (o.erase k').get? k = if k = k' then none else o.get? k :=
  Assoc.lookup_erase o k' k

theorem Objs.get?_insert (o : Objs) (k k' : Uri) (c : Content) :
    (o.insert k' c).get? k = if k = k' then some c else o.get? k :=
  Assoc.lookup_insert o k' k c

theorem Objs.get?_append (a b : Objs) (k : Uri) :
    Objs.get? (a ++ b) k = (a.get? k).or (b.get? k) :=
  List.lookup_append

theorem Objs.get?_some_mem {o : Objs} {k : Uri} {c : Content} (h : o.get? k = some c) :
    (k, c) ∈ o :=
  Assoc.mem_of_lookup h

/-! ## folding elements over an object map -/

def KeyNodup (l : List Elem) : Prop := l.Pairwise (fun a b => key a.uri ≠ key b.uri)

def findKey (l : List Elem) (k : Uri) : Option Elem := l.find? (fun e => key e.uri == k)

/-- What is at key `k` once the elements of `l` have acted on a map that had `v` there (when the
keys of `l` are distinct): the effect of the element for `k`, if there is one. -/
def effectAt (l : List Elem) (k : Uri) (v : Option Content) : Option Content :=
  match findKey l k with
  | some e => e.effect
  | none => v

theorem effectAt_some {l : List Elem} {k : Uri} {e : Elem} (h : findKey l k = some e)
    (v : Option Content) : effectAt l k v = e.effect := by
  rw [effectAt, h]

theorem effectAt_none {l : List Elem} {k : Uri} (h : findKey l k = none) (v : Option Content) :
    effectAt l k v = v := by
  rw [effectAt, h]

theorem get?_applyElem (o : Objs) (e : Elem) (k : Uri) :
    (applyElem o e).get? k = if k = key e.uri then e.effect else o.get? k := by
  cases e <;> simp only [applyElem, Elem.uri, Elem.effect, Objs.get?_insert, Objs.get?_erase] <;>
    (split <;> simp [*])

theorem findKey_cons (e : Elem) (l : List Elem) (k : Uri) :
    findKey (e :: l) k = if key e.uri = k then some e else findKey l k := by
  unfold findKey
  rw [List.find?_cons]
  by_cases h : key e.uri = k
  · simp [h]
  · have : (key e.uri == k) = false := by simp [h]
    simp [this, h]

theorem findKey_eq_none_of_forall {l : List Elem} {k : Uri} (h : ∀ e ∈ l, key e.uri ≠ k) :
    findKey l k = none := by
  unfold findKey
  rw [List.find?_eq_none]
  intro e he
  simp [h e he]

theorem findKey_some {l : List Elem} {k : Uri} {e : Elem} (h : findKey l k = some e) :
    e ∈ l ∧ key e.uri = k := by
  unfold findKey at h
  have := List.find?_some h
  exact ⟨List.mem_of_find?_eq_some h, by simpa using this⟩

theorem findKey_of_mem {l : List Elem} (hnd : KeyNodup l) {e : Elem} (he : e ∈ l) :
    findKey l (key e.uri) = some e := by
  induction l with
  | nil => cases he
  | cons a t ih =>
    rw [findKey_cons]
    have hnd' := List.pairwise_cons.mp hnd
    rcases List.mem_cons.mp he with rfl | het
    · simp
    · have : key a.uri ≠ key e.uri := hnd'.1 e het
      simp only [this, ↓reduceIte]
      exact ih hnd'.2 het

theorem findKey_eq_some_iff {l : List Elem} (hnd : KeyNodup l) {k : Uri} {e : Elem} :
    findKey l k = some e ↔ e ∈ l ∧ key e.uri = k :=
  ⟨findKey_some, fun h => h.2 ▸ findKey_of_mem hnd h.1⟩

theorem effectAt_cons {a : Elem} {t : List Elem} (hnd : KeyNodup (a :: t)) (k : Uri)
    (v : Option Content) :
    effectAt (a :: t) k v = effectAt t k (if k = key a.uri then a.effect else v) := by
  unfold effectAt
  have hnd' := List.pairwise_cons.mp hnd
  rw [findKey_cons]
  by_cases hk : key a.uri = k
  · rw [if_pos hk, findKey_eq_none_of_forall fun e he h => hnd'.1 e he (hk.trans h.symm),
      if_pos hk.symm]
  · rw [if_neg hk, if_neg fun h => hk h.symm]

theorem get?_foldl_applyElem (l : List Elem) (hnd : KeyNodup l) (o : Objs) (k : Uri) :
    (l.foldl applyElem o).get? k = effectAt l k (o.get? k) := by
  induction l generalizing o with
  | nil => rfl
  | cons a t ih =>
    rw [List.foldl_cons, ih (List.pairwise_cons.mp hnd).2, get?_applyElem, effectAt_cons hnd]

/-! ## the order publishes, updates, withdraws -/

/-- The order every consumer uses is a rearrangement of the protocol order. -/
theorem ordered_perm (d : Delta) : d.ordered.Perm d := by
  induction d with
  | nil => exact .nil
  | cons e t ih =>
    unfold Delta.ordered at ih ⊢
    cases e <;> simp only [List.filter_cons, Elem.isPublish, Elem.isUpdate, Elem.isWithdraw,
      Bool.false_eq_true, if_false, if_true, List.cons_append]
    · exact ih.cons _
    · rw [List.append_assoc, List.cons_append]
      rw [List.append_assoc] at ih
      exact List.perm_middle.trans (ih.cons _)
    · exact List.perm_middle.trans (ih.cons _)

theorem mem_ordered {d : Delta} {e : Elem} : e ∈ d.ordered ↔ e ∈ d :=
  (ordered_perm d).mem_iff

theorem keyNodup_ordered {d : Delta} (h : KeyNodup d) : KeyNodup d.ordered :=
  ((ordered_perm d).pairwise_iff fun h e => h e.symm).mpr h

theorem findKey_ordered {d : Delta} (hnd : KeyNodup d) (k : Uri) :
    findKey d.ordered k = findKey d k :=
  Option.ext fun e => by
    rw [findKey_eq_some_iff (keyNodup_ordered hnd), findKey_eq_some_iff hnd, mem_ordered]

theorem effectAt_ordered {d : Delta} (hnd : KeyNodup d) (k : Uri) (v : Option Content) :
    effectAt d.ordered k v = effectAt d k v := by
  rw [effectAt, effectAt, findKey_ordered hnd]

/-- `apply_delta` key by key. -/
theorem get?_applyDelta (o : Objs) (d : Delta) (hnd : KeyNodup d) (k : Uri) :
    (applyDelta o d).get? k = effectAt d k (o.get? k) := by
  unfold applyDelta
  rw [get?_foldl_applyElem _ (keyNodup_ordered hnd), effectAt_ordered hnd]

/-! ## what is asked of an element: `Elem.fits` -/

/-- What is asked of the content `v` found at the key of an element, by `verify_delta_applies`, of
a staged element with respect to the published objects, and by a strict RRDP client alike:
publishes are new, updates and withdraws name the hash of what is there. -/
def Elem.fits (v : Option Content) : Elem → Prop
  | .publish _ _ => v = none
  | .update _ h _ => v.map Content.hash = some h
  | .withdraw _ h => v.map Content.hash = some h

instance (v : Option Content) (e : Elem) : Decidable (e.fits v) := by
  cases e <;> unfold Elem.fits <;> infer_instance

theorem ite_some_eq_none {α : Type} {a b : Prop} [Decidable a] [Decidable b] {x y : α} :
    (if a then some x else if b then some y else none) = none ↔ ¬ a ∧ ¬ b := by
  by_cases ha : a <;> by_cases hb : b <;> simp [ha, hb]

theorem checkElem_eq_none_iff (objs : Objs) (jail : Uri) (e : Elem) :
    checkElem objs jail e = none ↔ inJail jail e.uri = true ∧ e.fits (objs.get? (key e.uri)) := by
  cases e <;> simp only [checkElem, ite_some_eq_none, Elem.fits, Elem.uri, Bool.not_eq_eq_eq_not,
    Bool.not_true, Bool.not_eq_false, Bool.not_eq_true, Option.isSome_eq_false_iff,
    Option.isNone_iff_eq_none, bne_iff_ne, ne_eq, Decidable.not_not]

theorem verifyDelta_eq_none_iff (objs : Objs) (jail : Uri) (d : Delta) :
    verifyDelta objs jail d = none ↔
      ∀ e ∈ d, inJail jail e.uri = true ∧ e.fits (objs.get? (key e.uri)) := by
  unfold verifyDelta
  rw [List.findSome?_eq_none_iff]
  constructor
  · intro h e he; exact (checkElem_eq_none_iff objs jail e).mp (h e (mem_ordered.mpr he))
  · intro h e he; exact (checkElem_eq_none_iff objs jail e).mpr (h e (mem_ordered.mp he))

/-! ## staged elements, entries identified by object key -/

/-- What the publisher's objects are at key `k`: staged element if there is one, else the
current object. -/
def viewStaged (cur : Objs) (st : Staged) (k : Uri) : Option Content := effectAt st k (cur.get? k)

theorem get?_objectsFor (cur : Objs) (st : Staged) (hnd : KeyNodup st) (k : Uri) :
    (objectsFor cur st).get? k = viewStaged cur st k :=
  get?_applyDelta cur st hnd k

/-- A staged element fits the current (published) objects: publishes are new, updates and
withdraws name the hash of the published object. -/
def ElemWf (cur : Objs) : Elem → Prop
  | .publish u _ => cur.get? (key u) = none
  | .update u h _ => (cur.get? (key u)).map Content.hash = some h
  | .withdraw u h => (cur.get? (key u)).map Content.hash = some h

theorem elemWf_iff {cur : Objs} {e : Elem} : ElemWf cur e ↔ e.fits (cur.get? (key e.uri)) := by
  cases e <;> exact Iff.rfl

/-- Invariant of a publisher's staged elements with respect to its published objects. -/
structure WfStaged (cur : Objs) (st : Staged) : Prop where
  nodup : KeyNodup st
  wf : ∀ e ∈ st, ElemWf cur e

theorem WfStaged.nil (cur : Objs) : WfStaged cur [] := ⟨List.Pairwise.nil, by simp⟩

theorem findWith_keyEq (s : Staged) (u : Uri) : Staged.findWith keyEq s u = findKey s (key u) := rfl

theorem mem_removeWith_keyEq {s : Staged} {u : Uri} {e : Elem} :
    e ∈ Staged.removeWith keyEq s u ↔ e ∈ s ∧ key e.uri ≠ key u := by
  simp [Staged.removeWith, keyEq]

theorem keyNodup_remove {s : Staged} (h : KeyNodup s) (u : Uri) :
    KeyNodup (Staged.removeWith keyEq s u) :=
  List.Pairwise.sublist List.filter_sublist h

theorem findKey_remove (s : Staged) (u k : Uri) :
    findKey (Staged.removeWith keyEq s u) k = if k = key u then none else findKey s k :=
  Keyed.find?_filter_ne (fun e : Elem => key e.uri) s (key u) k

theorem keyNodup_put {s : Staged} (h : KeyNodup s) (e : Elem) :
    KeyNodup (Staged.putWith keyEq s e) := by
  unfold Staged.putWith KeyNodup
  rw [List.pairwise_cons]
  refine ⟨?_, keyNodup_remove h _⟩
  intro a ha
  exact fun heq => (mem_removeWith_keyEq.mp ha).2 heq.symm

theorem findKey_put (s : Staged) (e : Elem) (k : Uri) :
    findKey (Staged.putWith keyEq s e) k = if k = key e.uri then some e else findKey s k := by
  unfold Staged.putWith
  rw [findKey_cons, findKey_remove]
  by_cases hk : k = key e.uri
  · simp [hk]
  · have : key e.uri ≠ k := fun h => hk h.symm
    simp [hk, this]

theorem wf_put {cur : Objs} {s : Staged} (h : WfStaged cur s) {e : Elem} (he : ElemWf cur e) :
    WfStaged cur (Staged.putWith keyEq s e) := by
  refine ⟨keyNodup_put h.nodup e, ?_⟩
  intro a ha
  rcases List.mem_cons.mp ha with rfl | ha
  · exact he
  · exact h.wf a (mem_removeWith_keyEq.mp ha).1

theorem wf_remove {cur : Objs} {s : Staged} (h : WfStaged cur s) (u : Uri) :
    WfStaged cur (Staged.removeWith keyEq s u) :=
  ⟨keyNodup_remove h.nodup u, fun a ha => h.wf a (mem_removeWith_keyEq.mp ha).1⟩

theorem view_put (cur : Objs) (s : Staged) (e : Elem) (k : Uri) :
    viewStaged cur (Staged.putWith keyEq s e) k =
      if k = key e.uri then e.effect else viewStaged cur s k := by
  unfold viewStaged effectAt
  rw [findKey_put]
  by_cases hk : k = key e.uri <;> simp [hk]

theorem view_remove (cur : Objs) (s : Staged) (u k : Uri) :
    viewStaged cur (Staged.removeWith keyEq s u) k =
      if k = key u then cur.get? k else viewStaged cur s k := by
  unfold viewStaged effectAt
  rw [findKey_remove]
  by_cases hk : k = key u <;> simp [hk]

/-! ## `merge_new_elements` through its table -/

/-- What `merge_new_elements` does with the entry of the new element's URI. -/
inductive MergeAct where
  | put (e : Elem)
  | remove
  | keep

/-- The twelve cases of rrdp.rs:1895-2017, by the entry found and the new element. -/
def mergeAct : Option Elem → Elem → MergeAct
  | some (.publish _ _), .publish u c => .put (.publish u c)
  | some (.update u0 h0 _), .publish _ c => .put (.update u0 h0 c)
  | some (.withdraw _ h0), .publish u c => .put (.update u h0 c)
  | none, .publish u c => .put (.publish u c)
  | some (.publish u0 _), .update _ _ c => .put (.publish u0 c)
  | some (.update u0 h0 _), .update _ _ c => .put (.update u0 h0 c)
  | some (.withdraw _ h0), .update u _ c => .put (.update u h0 c)
  | none, .update u h c => .put (.update u h c)
  | some (.publish _ _), .withdraw _ _ => .remove
  | some (.update _ h0 _), .withdraw u _ => .put (.withdraw u h0)
  | some (.withdraw _ _), .withdraw _ _ => .keep
  | none, .withdraw u h => .put (.withdraw u h)

def MergeAct.run (eqv : Uri → Uri → Bool) (s : Staged) (u : Uri) : MergeAct → Staged
  | .put e => Staged.putWith eqv s e
  | .remove => Staged.removeWith eqv s u
  | .keep => s

theorem mergeElemWith_eq (eqv : Uri → Uri → Bool) (s : Staged) (e : Elem) :
    mergeElemWith eqv s e = (mergeAct (Staged.findWith eqv s e.uri) e).run eqv s e.uri := by
  rcases e with ⟨u, c⟩ | ⟨u, h, c⟩ | ⟨u, h⟩ <;> simp only [mergeElemWith, Elem.uri] <;>
    cases Staged.findWith eqv s u with
    | none => rfl
    | some e0 => cases e0 <;> rfl

theorem mergeAct_uri {f : Option Elem} {e x : Elem} (h : mergeAct f e = .put x) :
    x.uri = e.uri ∨ ∃ e0, f = some e0 ∧ x.uri = e0.uri := by
  cases f with
  | none => cases e <;> cases h <;> exact .inl rfl
  | some e0 =>
    rcases e0 with ⟨u0, c0⟩ | ⟨u0, h0, c0⟩ | ⟨u0, h0⟩ <;>
      rcases e with ⟨u, c⟩ | ⟨u, h', c⟩ | ⟨u, h'⟩ <;> cases h
    -- (entry, new element); (publish, withdraw) removes and (withdraw, withdraw) keeps: no `.put`
    · exact .inl rfl  -- publish, publish
    · exact .inr ⟨_, rfl, rfl⟩  -- publish, update
    · exact .inr ⟨_, rfl, rfl⟩  -- update, publish
    · exact .inr ⟨_, rfl, rfl⟩  -- update, update
    · exact .inl rfl  -- update, withdraw
    · exact .inl rfl  -- withdraw, publish
    · exact .inl rfl  -- withdraw, update

/-- The table is right: if the found entry fits the content `c` published at the key, and the new
element fits what the entry leaves there, then what is put fits `c` and leaves what the new element
leaves; an entry is removed only when `c` is already that. -/
theorem mergeAct_spec {c : Option Content} {f : Option Elem} {e : Elem}
    (hok : e.fits (match f with | some e0 => e0.effect | none => c))
    (hf : ∀ e0, f = some e0 → key e0.uri = key e.uri ∧ e0.fits c) :
    match mergeAct f e with
    | .put x => key x.uri = key e.uri ∧ x.fits c ∧ x.effect = e.effect
    | .remove => c = e.effect
    | .keep => False := by
  cases f with
  | none => cases e <;> exact ⟨rfl, hok, rfl⟩
  | some e0 =>
    obtain ⟨hk, h0⟩ := hf e0 rfl
    rcases e0 with ⟨u0, c0⟩ | ⟨u0, h0', c0⟩ | ⟨u0, h0'⟩ <;>
      rcases e with ⟨u, c'⟩ | ⟨u, h, c'⟩ | ⟨u, h⟩
    -- (entry, new element); `cases hok`: the new element does not fit what the entry leaves
    · cases hok  -- publish, publish
    · exact ⟨hk, h0, rfl⟩  -- publish, update
    · exact h0  -- publish, withdraw: the entry goes, and nothing was published at the key
    · cases hok  -- update, publish
    · exact ⟨hk, h0, rfl⟩  -- update, update
    · exact ⟨rfl, h0, rfl⟩  -- update, withdraw
    · exact ⟨rfl, h0, rfl⟩  -- withdraw, publish
    · cases hok  -- withdraw, update
    · cases hok  -- withdraw, withdraw

/-- One step of `merge_new_elements` for an element that was verified against current ⊕ staged:
the invariant is kept and the view changes exactly at the element's key. -/
theorem mergeElem_keyEq_spec {cur : Objs} {st : Staged} (hwf : WfStaged cur st) {e : Elem}
    (hok : e.fits (viewStaged cur st (key e.uri))) :
    WfStaged cur (mergeElemWith keyEq st e) ∧
    ∀ k, viewStaged cur (mergeElemWith keyEq st e) k =
      if k = key e.uri then e.effect else viewStaged cur st k := by
  have hspec := mergeAct_spec (c := cur.get? (key e.uri)) (f := findKey st (key e.uri)) hok
    fun e0 h => ⟨(findKey_some h).2, by
      rw [← (findKey_some h).2]; exact elemWf_iff.mp (hwf.wf e0 (findKey_some h).1)⟩
  rw [mergeElemWith_eq, findWith_keyEq]
  cases hact : mergeAct (findKey st (key e.uri)) e with
  | put x =>
    rw [hact] at hspec
    obtain ⟨hk, hx, hxe⟩ := hspec
    refine ⟨wf_put hwf (elemWf_iff.mpr (by rw [hk]; exact hx)), fun k => ?_⟩
    rw [MergeAct.run, view_put, hk, hxe]
  | remove =>
    rw [hact] at hspec
    refine ⟨wf_remove hwf _, fun k => ?_⟩
    rw [MergeAct.run, view_remove]
    by_cases hk : k = key e.uri
    · rw [if_pos hk, if_pos hk, hk]; exact hspec
    · rw [if_neg hk, if_neg hk]
  | keep => rw [hact] at hspec; exact hspec.elim

/-! ## canonical URIs: `rsEq` and equality of keys coincide -/

theorem rsEq_iff_keyEq {u v : Uri} (hu : u.canon = true) (hv : v.canon = true) :
    rsEq u v = keyEq u v := by
  obtain ⟨⟨sc, sv⟩, ⟨hc, hv'⟩, m, segs, dir⟩ := u
  obtain ⟨⟨sc2, sv2⟩, ⟨hc2, hv2⟩, m2, segs2, dir2⟩ := v
  simp only [Uri.canon, beq_iff_eq] at hu hv
  subst hu; subst hv
  -- both schemes are `rsync`, so `rsEq` compares what `key` keeps: the host up to case, the rest exactly
  simp only [rsEq, keyEq, key, CiName.eqIgnoreCase, CiName.lower, rsyncLower]
  rw [Bool.eq_iff_iff]
  simp
  constructor
  · rintro ⟨⟨⟨ha, hb⟩, hc⟩, hd⟩; exact ⟨ha, hb, hc, hd⟩
  · rintro ⟨ha, hb, hc, hd⟩; exact ⟨⟨⟨ha, hb⟩, hc⟩, hd⟩

def AllCanon (l : List Elem) : Prop := ∀ e ∈ l, e.uri.canon = true

theorem findWith_congr {s : Staged} (hs : AllCanon s) {u : Uri} (hu : u.canon = true) :
    Staged.findWith rsEq s u = Staged.findWith keyEq s u := by
  unfold Staged.findWith
  induction s with
  | nil => rfl
  | cons a t ih =>
    rw [List.find?_cons, List.find?_cons, rsEq_iff_keyEq (hs a (by simp)) hu,
      ih (fun e he => hs e (by simp [he]))]

theorem removeWith_congr {s : Staged} (hs : AllCanon s) {u : Uri} (hu : u.canon = true) :
    Staged.removeWith rsEq s u = Staged.removeWith keyEq s u := by
  unfold Staged.removeWith
  apply List.filter_congr
  intro e he
  rw [rsEq_iff_keyEq (hs e he) hu]

theorem putWith_congr {s : Staged} (hs : AllCanon s) {e : Elem} (he : e.uri.canon = true) :
    Staged.putWith rsEq s e = Staged.putWith keyEq s e := by
  unfold Staged.putWith
  rw [removeWith_congr hs he]

/-- On canonical URIs the code's merge (entries identified by `uri::Rsync` equality) is the
merge with entries identified by object key. -/
theorem mergeElem_congr {s : Staged} (hs : AllCanon s) {e : Elem} (he : e.uri.canon = true) :
    mergeElemWith rsEq s e = mergeElemWith keyEq s e := by
  rw [mergeElemWith_eq, mergeElemWith_eq, findWith_congr hs he]
  cases hact : mergeAct (Staged.findWith keyEq s e.uri) e with
  | keep => rfl
  | remove => exact removeWith_congr hs he
  | put x =>
    refine putWith_congr hs ?_
    rcases mergeAct_uri hact with h | ⟨e0, hf, h⟩ <;> rw [h]
    · exact he
    · exact hs e0 (List.mem_of_find?_eq_some hf)

/-! ## jails -/

theorem inJail_key (jail : Uri) {u : Uri} (hc : u.canon = true) :
    inJail jail (key u) = inJail jail u := by
  have hs : u.scheme.canon = "rsync" := by
    simp only [Uri.canon, beq_iff_eq] at hc
    exact hc
  simp only [key, inJail, eqModule, CiName.eqIgnoreCase, CiName.lower, rsyncLower, hs]
  rfl

/-- The path of a publisher's jail below the repository base (`ta` has the whole repository). -/
def jailSegs (h : Handle) : List String := if h = taHandle then [] else h

/-- The jail of a publisher holds the URIs of the repository's module that lie properly below
`<base>/<handle>`. -/
theorem inJail_publisherBase {base j : Uri} {h : Handle} (hj : publisherBase base h = some j)
    (u : Uri) : inJail j u = true ↔ eqModule base u = true ∧
      (base.segs ++ jailSegs h) <+: u.segs ∧ (base.segs ++ jailSegs h).length < u.segs.length := by
  have key : ∀ segs d, inJail { base with segs := segs, dir := d } u = true ↔
      eqModule base u = true ∧ segs <+: u.segs ∧ segs.length < u.segs.length := fun segs d => by
    simp only [inJail, show eqModule { base with segs := segs, dir := d } u = eqModule base u from rfl,
      Bool.and_eq_true, List.isPrefixOf_iff_prefix, decide_eq_true_eq, and_assoc]
  revert hj
  unfold jailSegs
  fun_cases publisherBase base h with
  | case1 ht =>
    rintro ⟨⟩
    rw [if_pos (beq_iff_eq.mp ht), List.append_nil]
    exact key base.segs base.dir
  | case2 ht _ =>
    rintro ⟨⟩
    rw [if_neg fun e => ht (beq_iff_eq.mpr e)]
    exact key _ _
  | case3 => exact fun h => nomatch h

theorem jailSegs_prefix_iff (p q : Handle) :
    jailSegs p <+: jailSegs q ↔ p <+: q ∨ p = taHandle := by
  unfold jailSegs
  by_cases hp : p = taHandle
  · simp [hp]
  · rw [if_neg hp]
    by_cases hq : q = taHandle
    · -- a proper prefix of `["ta"]` is empty
      rw [if_pos hq, hq, List.prefix_nil]
      refine ⟨fun h => .inl (h ▸ List.nil_prefix), fun h => ?_⟩
      rcases h.resolve_right hp with ⟨t, ht⟩
      cases p with
      | nil => rfl
      | cons a p' =>
        simp only [taHandle, List.cons_append, List.cons.injEq, List.append_eq_nil_iff] at ht
        exact absurd (by rw [ht.1, ht.2.1]; rfl) hp
    · rw [if_neg hq]
      exact ⟨.inl, fun h => h.resolve_right hp⟩

/-! ## object maps whose keys are distinct, canonical and their own `key`: `ObjsOk` -/

theorem key_key (u : Uri) : key (key u) = key u := by
  simp [key, CiName.lower]

theorem canon_key (u : Uri) : (key u).canon = true := by
  simp [key, Uri.canon, rsyncLower]

structure ObjsOk (o : Objs) : Prop where
  nodup : (o.map (·.1)).Nodup
  keys : ∀ p ∈ o, key p.1 = p.1 ∧ p.1.canon = true

theorem ObjsOk.nil : ObjsOk [] := ⟨List.nodup_nil, fun _ h => nomatch h⟩

theorem ObjsOk.erase {o : Objs} (h : ObjsOk o) (k : Uri) : ObjsOk (o.erase k) :=
  ⟨Assoc.nodup_erase h.nodup k, fun p hp => h.keys p (Assoc.mem_erase.mp hp).1⟩

theorem ObjsOk.insert {o : Objs} (h : ObjsOk o) {k : Uri} (hk : key k = k) (hc : k.canon = true)
    (c : Content) : ObjsOk (o.insert k c) := by
  refine ⟨Assoc.nodup_insert h.nodup k c, fun p hp => ?_⟩
  rcases List.mem_cons.mp hp with rfl | hp
  · exact ⟨hk, hc⟩
  · exact h.keys p (Assoc.mem_erase.mp hp).1

theorem ObjsOk.applyElem {o : Objs} (h : ObjsOk o) (e : Elem) : ObjsOk (applyElem o e) := by
  cases e with
  | publish u c => exact h.insert (key_key u) (canon_key u) c
  | update u _ c => exact h.insert (key_key u) (canon_key u) c
  | withdraw u _ => exact h.erase _

theorem ObjsOk.foldl (l : List Elem) {o : Objs} (h : ObjsOk o) :
    ObjsOk (l.foldl Pubd.applyElem o) :=
  List.foldlRecOn l _ h fun _ ho e _ => ho.applyElem e

theorem ObjsOk.applyDelta {o : Objs} (h : ObjsOk o) {d : Delta} (hd : AllCanon d) :
    ObjsOk (applyDelta o d) :=
  ObjsOk.foldl _ h

theorem ObjsOk.get?_of_mem {o : Objs} (h : ObjsOk o) {p : Uri × Content} (hp : p ∈ o) :
    o.get? p.1 = some p.2 :=
  Assoc.lookup_of_mem h.nodup hp

/-! ## what `merge_new_elements` can put into the staged set -/

theorem mem_removeWith {eqv : Uri → Uri → Bool} {s : Staged} {u : Uri} {a : Elem}
    (h : a ∈ Staged.removeWith eqv s u) : a ∈ s := (List.mem_filter.mp h).1

theorem mergeElem_uris (eqv : Uri → Uri → Bool) (P : Uri → Prop) {s : Staged} {e : Elem}
    (hs : ∀ a ∈ s, P a.uri) (he : P e.uri) : ∀ a ∈ mergeElemWith eqv s e, P a.uri := by
  rw [mergeElemWith_eq]
  cases hact : mergeAct (Staged.findWith eqv s e.uri) e with
  | keep => exact hs
  | remove => exact fun a ha => hs a (mem_removeWith ha)
  | put x =>
    have hx : P x.uri := by
      rcases mergeAct_uri hact with h | ⟨e0, hf, h⟩ <;> rw [h]
      · exact he
      · exact hs e0 (List.mem_of_find?_eq_some hf)
    intro a ha
    rcases List.mem_cons.mp ha with rfl | ha
    · exact hx
    · exact hs a (mem_removeWith ha)

theorem mergeNew_uris (P : Uri → Prop) {s : Staged} {d : Delta}
    (hs : ∀ a ∈ s, P a.uri) (hd : ∀ e ∈ d, P e.uri) : ∀ a ∈ mergeNew s d, P a.uri :=
  List.foldlRecOn (motive := fun s' : Staged => ∀ a ∈ s', P a.uri) d.ordered _ hs fun _ hs' e he =>
    mergeElem_uris rsEq P hs' (hd e (mem_ordered.mp he))

/-! ## merging a verified delta (the core of `staging_refines`) -/

/-- Merging elements with distinct keys, each of which fits the view before the merge: the view
changes by their effects.  On canonical URIs the code's entries (identified by `uri::Rsync`
equality) are the entries by key. -/
theorem foldl_mergeElem_spec {cur : Objs} (l : List Elem) (hnd : KeyNodup l) (hl : AllCanon l) :
    ∀ {st : Staged}, WfStaged cur st → AllCanon st →
      (∀ e ∈ l, e.fits (viewStaged cur st (key e.uri))) →
    WfStaged cur (l.foldl (mergeElemWith rsEq) st) ∧ AllCanon (l.foldl (mergeElemWith rsEq) st) ∧
    ∀ k, viewStaged cur (l.foldl (mergeElemWith rsEq) st) k = effectAt l k (viewStaged cur st k) := by
  induction l with
  | nil => intro st hwf hcs _; exact ⟨hwf, hcs, fun k => rfl⟩
  | cons a t ih =>
    intro st hwf hcs hok
    have hnd' := List.pairwise_cons.mp hnd
    have ha := hl a List.mem_cons_self
    rw [List.foldl_cons, mergeElem_congr hcs ha]
    obtain ⟨hwf1, hview1⟩ := mergeElem_keyEq_spec hwf (hok a List.mem_cons_self)
    obtain ⟨hwf2, hcs2, hview2⟩ := ih hnd'.2 (fun e he => hl e (List.mem_cons_of_mem _ he)) hwf1
      (mergeElem_uris keyEq (·.canon = true) hcs ha) fun e he => by
        rw [hview1, if_neg fun h => hnd'.1 e he h.symm]
        exact hok e (List.mem_cons_of_mem _ he)
    refine ⟨hwf2, hcs2, fun k => ?_⟩
    rw [hview2, hview1, effectAt_cons hnd]

theorem mergeNew_spec {cur : Objs} {st : Staged} {d : Delta}
    (hwf : WfStaged cur st) (hcs : AllCanon st) (hcd : AllCanon d) (hnd : KeyNodup d)
    (hok : ∀ e ∈ d, e.fits (viewStaged cur st (key e.uri))) :
    (∀ k, viewStaged cur (mergeNew st d) k = effectAt d k (viewStaged cur st k)) ∧
    WfStaged cur (mergeNew st d) ∧ AllCanon (mergeNew st d) := by
  obtain ⟨hwf', hcs', hview⟩ := foldl_mergeElem_spec d.ordered (keyNodup_ordered hnd)
    (fun e he => hcd e (mem_ordered.mp he)) hwf hcs fun e he => hok e (mem_ordered.mp he)
  exact ⟨fun k => (hview k).trans (effectAt_ordered hnd k _), hwf', hcs'⟩

end KM.Pubd
