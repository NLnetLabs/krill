/-
Reading a mutation log against a plan, for any type of mutation: a run seen from its first phase
(`matchLog_phase`), from which membership and complete runs follow.
-/
import KrillModel.Pubd.Files
namespace KM.Pubd

section MatchLog
variable {μ : Type} (f : μ → Sig)

theorem takeMatching_spec {s : Sig} {l : List μ} {x : μ} {rest : List μ}
    (h : takeMatching f s l = some (x, rest)) :
    ∃ l1 l2, l = l1 ++ x :: l2 ∧ rest = l1 ++ l2 := by
  fun_induction takeMatching f s l generalizing x rest with
  | case1 => cases h
  | case2 m ms hm =>
    cases h
    exact ⟨[], ms, rfl, rfl⟩
  | case3 m ms hm ih =>
    obtain ⟨⟨y, r⟩, ht, he⟩ := Option.map_eq_some_iff.mp h
    cases he
    obtain ⟨l1, l2, rfl, rfl⟩ := ih ht
    exact ⟨m :: l1, l2, rfl, rfl⟩

/-- The next mutation is taken out of the first non-empty phase: its head if the phase is ordered. -/
theorem planNext_cons {s : Sig} {b : Bool} {w : μ} {ws : List μ} {ps plan' : List (Bool × List μ)}
    {m : μ} (h : planNext f s ((b, w :: ws) :: ps) = some (m, plan')) :
    ∃ l1 l2, w :: ws = l1 ++ m :: l2 ∧ plan' = (b, l1 ++ l2) :: ps ∧ (b = true → l1 = []) := by
  cases b with
  | true =>
    simp only [planNext] at h
    split at h
    · cases h; exact ⟨[], ws, rfl, rfl, fun _ => rfl⟩
    · cases h
  | false =>
    obtain ⟨⟨x, r⟩, ht, he⟩ := Option.map_eq_some_iff.mp h
    cases he
    obtain ⟨l1, l2, h1, rfl⟩ := takeMatching_spec f ht
    exact ⟨l1, l2, h1, rfl, fun h => nomatch h⟩

/-- The run of a plan, seen from its first phase: `ss` of the phase has been performed and `rem`
remains (in the order of the phase if it is ordered); either the log ends there, or nothing
remains and the log goes on as a run of the other phases. -/
theorem matchLog_phase {b : Bool} {ps : List (Bool × List μ)} {log : List Sig} : ∀ {ws ms : List μ}
    {rest : List (Bool × List μ)}, matchLog f ((b, ws) :: ps) log = some (ms, rest) →
    ∃ ss rem, (ss ++ rem).Perm ws ∧ (b = true → ss ++ rem = ws) ∧
      ((ms = ss ∧ rest = (b, rem) :: ps) ∨
       (rem = [] ∧ ∃ cs log', ms = ss ++ cs ∧ matchLog f ps log' = some (cs, rest))) := by
  induction log with
  | nil =>
    intro ws ms rest h
    cases h
    exact ⟨[], ws, .refl _, fun _ => rfl, .inl ⟨rfl, rfl⟩⟩
  | cons s l ih =>
    intro ws ms rest h
    cases ws with
    | nil => exact ⟨[], [], .refl _, fun _ => rfl, .inr ⟨rfl, ms, s :: l, rfl, h⟩⟩
    | cons w ws =>
      simp only [matchLog] at h
      cases hn : planNext f s ((b, w :: ws) :: ps) with
      | none => rw [hn] at h; cases h
      | some pr =>
        obtain ⟨m, plan'⟩ := pr
        obtain ⟨l1, l2, hw, rfl, hb⟩ := planNext_cons f hn
        rw [hn] at h
        obtain ⟨⟨ms', rest'⟩, hm, he⟩ := Option.map_eq_some_iff.mp h
        cases he
        obtain ⟨ss, rem, hperm, hord, hcase⟩ := ih hm
        refine ⟨m :: ss, rem, ?_, fun hb' => ?_, ?_⟩
        · rw [hw]; exact (hperm.cons m).trans List.perm_middle.symm
        · rw [hw, hb hb', List.cons_append, hord hb', hb hb']; rfl
        · rcases hcase with ⟨rfl, rfl⟩ | ⟨rfl, cs, log', rfl, hcs⟩
          · exact .inl ⟨rfl, rfl⟩
          · exact .inr ⟨rfl, cs, log', rfl, hcs⟩

theorem matchLog_nil_plan {log : List Sig} {ms : List μ} {rest : List (Bool × List μ)}
    (h : matchLog f [] log = some (ms, rest)) : ms = [] ∧ rest = [] := by
  cases log with
  | nil => cases h; exact ⟨rfl, rfl⟩
  | cons s l => cases h

def planMuts {μ} (plan : List (Bool × List μ)) : List μ := plan.flatMap (·.2)

theorem planDone_cons {b : Bool} {l : List μ} {ps : List (Bool × List μ)} :
    planDone ((b, l) :: ps) = true ↔ l = [] ∧ planDone ps = true := by
  simp [planDone, List.isEmpty_iff]

theorem matchLog_mem : ∀ {plan : List (Bool × List μ)} {log : List Sig} {ms : List μ}
    {rest : List (Bool × List μ)}, matchLog f plan log = some (ms, rest) →
    ∀ m ∈ ms, m ∈ planMuts plan := by
  intro plan
  induction plan with
  | nil => intro log ms rest h; rw [(matchLog_nil_plan f h).1]; exact fun _ hm => nomatch hm
  | cons ph ps ih =>
    intro log ms rest h m hm
    obtain ⟨b, ws⟩ := ph
    obtain ⟨ss, rem, hperm, -, hcase⟩ := matchLog_phase f h
    have hss : ∀ x ∈ ss, x ∈ planMuts ((b, ws) :: ps) := fun x hx =>
      List.mem_append_left _ (hperm.subset (List.mem_append_left _ hx))
    rcases hcase with ⟨rfl, -⟩ | ⟨-, cs, log', rfl, hcs⟩
    · exact hss m hm
    · rcases List.mem_append.mp hm with hm | hm
      · exact hss m hm
      · exact List.mem_append_right _ (ih hcs m hm)

/-- A complete run performs the first phase (as it stands if ordered, else in some order) and then
is a complete run of the rest: a cut after the last mutation of the phase leaves the rest to the
empty log. -/
theorem matchLog_done {b : Bool} {ws : List μ} {ps : List (Bool × List μ)} {log : List Sig}
    {ms : List μ} {rest : List (Bool × List μ)}
    (h : matchLog f ((b, ws) :: ps) log = some (ms, rest)) (hd : planDone rest = true) :
    ∃ ss cs log' rest', ms = ss ++ cs ∧ ss.Perm ws ∧ (b = true → ss = ws) ∧
      matchLog f ps log' = some (cs, rest') ∧ planDone rest' = true := by
  obtain ⟨ss, rem, hperm, hord, hcase⟩ := matchLog_phase f h
  rcases hcase with ⟨rfl, rfl⟩ | ⟨rfl, cs, log', rfl, hcs⟩
  · obtain ⟨rfl, hd'⟩ := planDone_cons.mp hd
    rw [List.append_nil] at hperm hord
    exact ⟨ms, [], [], ps, (List.append_nil _).symm, hperm, hord, rfl, hd'⟩
  · rw [List.append_nil] at hperm hord
    exact ⟨ss, cs, log', rest, rfl, hperm, hord, hcs, hd⟩

end MatchLog

end KM.Pubd
