/-
What a relying party's RRDP client sees: the delta of an update leads a strict client from the old
snapshot to the new one when no key is shared between publishers (`update_client`), and so do the
retained deltas over histories within a session (`Reach`, `catch_up_of_reach`).
-/
import KrillModel.Pubd.Files
import KrillModel.Pubd.LemmasAggregate
namespace KM.Pubd

theorem clientApplyElem_eq (o : Objs) (e : Elem) :
    clientApplyElem o e = if e.fits (o.get? (key e.uri)) then some (applyElem o e) else none := by
  cases e with
  | publish u c =>
    simp only [clientApplyElem, Elem.fits, Elem.uri, applyElem]
    by_cases h : o.get? (key u) = none <;> simp [h]
  | update u h c =>
    simp only [clientApplyElem, Elem.fits, Elem.uri, applyElem, beq_iff_eq]
    by_cases hh : Option.map Content.hash (o.get? (key u)) = some h <;> simp [hh]
  | withdraw u h =>
    simp only [clientApplyElem, Elem.fits, Elem.uri, applyElem, beq_iff_eq]
    by_cases hh : Option.map Content.hash (o.get? (key u)) = some h <;> simp [hh]

theorem ElemWf_congr {o o' : Objs} {e : Elem} (h : o'.get? (key e.uri) = o.get? (key e.uri)) :
    ElemWf o' e ↔ ElemWf o e := by
  rw [elemWf_iff, elemWf_iff, h]

theorem clientApply_eq_foldl (l : List Elem) (hnd : KeyNodup l) :
    ∀ (o : Objs), (∀ e ∈ l, ElemWf o e) → clientApply o l = some (l.foldl applyElem o) := by
  induction l with
  | nil => intro o _; rfl
  | cons a t ih =>
    intro o hwf
    have hnd' := List.pairwise_cons.mp hnd
    simp only [clientApply, clientApplyElem_eq, if_pos (elemWf_iff.mp (hwf a List.mem_cons_self)),
      List.foldl_cons]
    apply ih hnd'.2
    intro e he
    have hne : key e.uri ≠ key a.uri := fun h => hnd'.1 e he h.symm
    rw [ElemWf_congr (o := o)]
    · exact hwf e (by simp [he])
    · rw [get?_applyElem]; simp [hne]

/-- A strict client sees its objects only as a map. -/
theorem clientApply_congr (l : List Elem) : ∀ {a b a' : Objs}, (∀ k, a.get? k = b.get? k) →
    clientApply a l = some a' → ∃ b', clientApply b l = some b' ∧ ∀ k, a'.get? k = b'.get? k := by
  induction l with
  | nil => intro a b a' hab h; cases h; exact ⟨b, rfl, hab⟩
  | cons e t ih =>
    intro a b a' hab h
    rw [clientApply, clientApplyElem_eq, hab] at h
    rw [clientApply, clientApplyElem_eq]
    by_cases hf : e.fits (b.get? (key e.uri))
    · rw [if_pos hf] at h ⊢
      exact ih (fun k => by rw [get?_applyElem, get?_applyElem, hab k]) h
    · rw [if_neg hf] at h
      cases h

/-! ## an RRDP update seen by a client -/

/-- No object key is held (or staged) by two publishers. -/
def KeysDisjoint (r : Rrdp) : Prop := ∀ h1 h2 k, h1 ≠ h2 → touches r h1 k → ¬ touches r h2 k

theorem stagedElems_eq (staged : List (Handle × Staged)) :
    stagedElems staged = Delta.ordered (staged.flatMap (·.2)) := by
  unfold stagedElems Delta.ordered
  rw [List.filter_flatMap, List.filter_flatMap, List.filter_flatMap]

theorem RInv.stagedOf_of_mem {base : Uri} {r : Rrdp} (hi : RInv base r) {p : Handle × Staged}
    (hp : p ∈ r.staged) : r.stagedOf p.1 = p.2 := by
  unfold Rrdp.stagedOf
  rw [hget?_of_mem_nodup hi.stagedNodup hp]
  rfl

theorem mem_allStaged {base : Uri} {r : Rrdp} (hi : RInv base r) {e : Elem} :
    e ∈ r.staged.flatMap (·.2) ↔ ∃ h, e ∈ r.stagedOf h := by
  rw [List.mem_flatMap]
  constructor
  · rintro ⟨p, hp, he⟩
    exact ⟨p.1, (hi.stagedOf_of_mem hp).symm ▸ he⟩
  · rintro ⟨h, he⟩
    unfold Rrdp.stagedOf at he
    cases hg : hget? r.staged h with
    | none => rw [hg] at he; cases he
    | some st =>
      rw [hg] at he
      exact ⟨(h, st), hget?_some_mem hg, he⟩

theorem keyNodup_allStaged {base : Uri} {r : Rrdp} (hi : RInv base r) (hd : KeysDisjoint r) :
    KeyNodup (r.staged.flatMap (·.2)) := by
  unfold KeyNodup
  rw [List.pairwise_flatMap]
  constructor
  · intro p hp
    exact hi.stagedOf_of_mem hp ▸ (hi.wf p.1).nodup
  · have hnd := hi.stagedNodup
    rw [List.Nodup, List.pairwise_map] at hnd
    refine List.Pairwise.imp_of_mem ?_ hnd
    intro a b ha hb hab x hx y hy heq
    have hxa : x ∈ r.stagedOf a.1 := (hi.stagedOf_of_mem ha).symm ▸ hx
    have hyb : y ∈ r.stagedOf b.1 := (hi.stagedOf_of_mem hb).symm ▸ hy
    exact hd a.1 b.1 (key x.uri) hab (Or.inr ⟨x, hxa, rfl⟩) (Or.inr ⟨y, hyb, heq.symm⟩)

/-- The elements a publisher has staged fit the *flattened* snapshot, not only its own
objects, when no key is shared. -/
theorem elemWf_flatten {base : Uri} {r : Rrdp} (hi : RInv base r) (hd : KeysDisjoint r)
    {h : Handle} {e : Elem} (he : e ∈ r.stagedOf h) : ElemWf (flatten r.snapshot) e := by
  rw [ElemWf_congr (o := r.current h)]
  · exact (hi.wf h).wf e he
  · rw [Rrdp.current_eq]
    apply flatten_get?_owner hi.snapNodup
    exact fun q hq => current_of_not_touches fun ht => hd q h _ hq ht (.inr ⟨e, he, rfl⟩)

theorem findKey_allStaged {base : Uri} {r : Rrdp} (hi : RInv base r) (hd : KeysDisjoint r)
    {h : Handle} {k : Uri} (hoth : ∀ q, q ≠ h → ¬ touches r q k) :
    findKey (r.staged.flatMap (·.2)) k = findKey (r.stagedOf h) k :=
  Option.ext fun e => by
    rw [findKey_eq_some_iff (keyNodup_allStaged hi hd), findKey_eq_some_iff (hi.wf h).nodup,
      mem_allStaged hi]
    refine and_congr_left fun hk => ⟨fun ⟨q, hq⟩ => ?_, fun he => ⟨h, he⟩⟩
    by_cases hqh : q = h
    · exact hqh ▸ hq
    · exact absurd (Or.inr ⟨e, hq, hk⟩) (hoth q hqh)

/-- The RRDP delta written by an update leads a strict client from the old snapshot to the new
one. -/
theorem update_client {base : Uri} {r : Rrdp} (hi : RInv base r) (hd : KeysDisjoint r)
    (t rnd : Nat) :
    ∃ post, clientApply (flatten r.snapshot) (stagedElems r.staged) = some post ∧
      ∀ k, post.get? k = (flatten (r.applyUpdated t rnd).snapshot).get? k := by
  have hall := keyNodup_allStaged hi hd
  have hord := keyNodup_ordered hall
  rw [stagedElems_eq]
  refine ⟨_, clientApply_eq_foldl _ hord _ ?_, ?_⟩
  · intro e he
    obtain ⟨h, heh⟩ := (mem_allStaged hi).mp (mem_ordered.mp he)
    exact elemWf_flatten hi hd heh
  · intro k
    have hcur' : ∀ q, currentOf (r.applyUpdated t rnd).snapshot q = r.objectsFor q :=
      fun q => current_applyUpdated hi.stagedNodup hi.snapNodup t rnd q
    -- at most one publisher has anything at `k`; the old and the new snapshot have its object there
    obtain ⟨h, hoth⟩ : ∃ h, ∀ q, q ≠ h → ¬ touches r q k := by
      by_cases hex : ∃ h, touches r h k
      · obtain ⟨h, hth⟩ := hex
        exact ⟨h, fun q hq hc => hd q h k hq hc hth⟩
      · exact ⟨[], fun q _ hq => hex ⟨q, hq⟩⟩
    rw [get?_foldl_applyElem _ hord, effectAt_ordered hall,
      flatten_get?_owner (hi.applyUpdated t rnd).snapNodup (h := h)
        (fun q hq => by rw [hcur']; exact objectsFor_get?_none hi (hoth q hq)), hcur',
      hi.objectsFor_get?, viewStaged, effectAt, effectAt,
      findKey_allStaged hi hd hoth, Rrdp.current_eq,
      flatten_get?_owner hi.snapNodup fun q hq => current_of_not_touches (hoth q hq)]

/-! ## histories within a session, and what a client holding an earlier snapshot gets -/

/-- One change of the content aggregate that keeps the session: it either leaves serial, deltas
and the content of the snapshot alone, or it is an RRDP update in a well-formed state in which
no key is shared between publishers. -/
inductive Small (base : Uri) : Rrdp → Rrdp → Prop
  | quiet {r r' : Rrdp} : Quiet r r' → Small base r r'
  | update {r : Rrdp} (t rnd : Nat) : RInv base r → KeysDisjoint r →
      Small base r (r.applyUpdated t rnd)

/-- A history of such changes: `r2` is a later state of the session of `r1`. -/
inductive Reach (base : Uri) : Rrdp → Rrdp → Prop
  | refl (r : Rrdp) : Reach base r r
  | step {r1 r2 r3 : Rrdp} : Reach base r1 r2 → Small base r2 r3 → Reach base r1 r3

theorem Reach.trans {base : Uri} {a b c : Rrdp} (h1 : Reach base a b) (h2 : Reach base b c) :
    Reach base a c := by
  induction h2 with
  | refl => exact h1
  | step _ hs ih => exact Reach.step ih hs

theorem catchUp_append (held : Objs) (a b : List (List Elem)) :
    catchUp held (a ++ b) = match catchUp held a with
      | some o => catchUp o b
      | none => none := by
  fun_induction catchUp held a with
  | case1 => rfl
  | case2 held d ds o h ih => rw [List.cons_append, catchUp, h]; exact ih
  | case3 held d ds h => rw [List.cons_append, catchUp, h]

theorem take_of_prefix {α} {l1 l2 : List α} (hp : l1 <+: l2) {n : Nat} (hn : n ≤ l1.length) :
    l1.take n = l2.take n := by
  obtain ⟨t, rfl⟩ := hp
  rw [List.take_append_of_le_length hn]

/-- The chain of the `n` newest deltas, oldest first. -/
def chainOf (r : Rrdp) (n : Nat) : List (List Elem) := ((r.deltas.take n).reverse).map (·.elems)

theorem catch_up_of_reach {base : Uri} {r1 r2 : Rrdp} (h : Reach base r1 r2) :
    r2.session = r1.session ∧ r1.serial ≤ r2.serial ∧
    (r2.serial - r1.serial ≤ r2.deltas.length →
      ∃ res, catchUp (flatten r1.snapshot) (chainOf r2 (r2.serial - r1.serial)) = some res ∧
        ∀ k, res.get? k = (flatten r2.snapshot).get? k) := by
  induction h with
  | refl =>
    refine ⟨rfl, Nat.le_refl _, fun _ => ⟨flatten r1.snapshot, ?_, fun _ => rfl⟩⟩
    simp [chainOf, catchUp]
  | @step r2 r3 hr hs ih =>
    obtain ⟨hsess, hle, hcatch⟩ := ih
    cases hs with
    | quiet q =>
      refine ⟨q.session.trans hsess, q.serial ▸ hle, ?_⟩
      intro hn
      rw [q.serial, q.deltas] at hn
      obtain ⟨res, hres, heq⟩ := hcatch hn
      refine ⟨res, ?_, fun k => by rw [heq k, q.flat]⟩
      unfold chainOf at hres ⊢
      rw [q.serial, q.deltas]; exact hres
    | update t rnd hinv hdis =>
      refine ⟨hsess, Nat.le_succ_of_le hle, ?_⟩
      intro hn
      have hpre := r2.applyUpdated_deltas_prefix t rnd
      have hser : (r2.applyUpdated t rnd).serial = r2.serial + 1 := rfl
      rw [hser] at hn ⊢
      have hn2 : r2.serial + 1 - r1.serial = (r2.serial - r1.serial) + 1 := by omega
      rw [hn2] at hn ⊢
      have hlen : (r2.applyUpdated t rnd).deltas.length ≤ r2.deltas.length + 1 := by
        have := List.IsPrefix.length_le hpre
        simpa using this
      obtain ⟨res, hres, heq⟩ := hcatch (by omega)
      obtain ⟨post, hpost, hposteq⟩ := update_client hinv hdis t rnd
      obtain ⟨post', hc, hcong⟩ := clientApply_congr _ (fun k => (heq k).symm) hpost
      refine ⟨post', ?_, fun k => (hcong k).symm.trans (hposteq k)⟩
      unfold chainOf at hres ⊢
      -- the deltas retained now are a prefix of "new delta :: deltas before": the chain of length
      -- `n + 1` is the former chain of length `n` followed by the new delta
      rw [take_of_prefix hpre hn, List.take_succ_cons, List.reverse_cons, List.map_append,
        catchUp_append, hres]
      simp only [List.map_cons, List.map_nil, catchUp, hc]

/-! ## keys stay disjoint under updates and withdraw-only staging -/

theorem KeysDisjoint.mono {r r' : Rrdp} (hd : KeysDisjoint r)
    (h : ∀ q k, touches r' q k → touches r q k) : KeysDisjoint r' :=
  fun h1 h2 k hne t1 t2 => hd h1 h2 k hne (h _ _ t1) (h _ _ t2)

/-- After an update a publisher touches only keys it touched before. -/
theorem KeysDisjoint.applyUpdated {base : Uri} {r : Rrdp} (hi : RInv base r)
    (hd : KeysDisjoint r) (t rnd : Nat) : KeysDisjoint (r.applyUpdated t rnd) :=
  hd.mono fun h k ht => by
    rcases ht with ht | ⟨e, he, _⟩
    · rw [current_applyUpdated hi.stagedNodup hi.snapNodup] at ht
      exact Classical.byContradiction fun hn => ht (objectsFor_get?_none hi hn)
    · cases he

/-- Staging a delta for keys the publisher already touches makes nobody touch a new key. -/
theorem KeysDisjoint.stage {r : Rrdp} (hd : KeysDisjoint r) {h : Handle} {d : Delta}
    (hsub : ∀ e ∈ d, touches r h (key e.uri)) : KeysDisjoint (r.stage h d) :=
  hd.mono fun q k ht => by
    rcases ht with ht | ⟨e, he, hk⟩
    · exact .inl ht
    · exact hk ▸ stagedOf_stage_forall (P := fun q st => ∀ e ∈ st, touches r q (key e.uri))
        (mergeNew_uris (fun u => touches r h (key u)) (fun a ha => .inr ⟨a, ha, rfl⟩) hsub)
        (fun _ a ha => .inr ⟨a, ha, rfl⟩) q e he

theorem withdraws_touch {base : Uri} {r : Rrdp} (hi : RInv base r) (h : Handle) {l : Objs}
    (hl : l.Sublist (r.objectsFor h)) : ∀ e ∈ withdrawAll l, touches r h (key e.uri) := by
  intro e he
  obtain ⟨p, hp, rfl⟩ := List.mem_map.mp he
  simp only [Elem.uri]
  rw [((hi.objectsFor_ok h).keys p (hl.subset hp)).1]
  exact touches_of_objectsFor hi (hl.subset hp)

theorem KeysDisjoint.deleteFiles {base : Uri} {r : Rrdp} (hi : RInv base r) (hd : KeysDisjoint r)
    (del : Uri) : KeysDisjoint (r.deleteFiles del) :=
  (hi.deleteFiles_keeps del KeysDisjoint hd fun _ h ha hk =>
    hk.stage (withdraws_touch ha h List.filter_sublist)).2

theorem keysDisjoint_of_jails {base : Uri} {r : Rrdp} (hi : RInv base r)
    (hj : ∀ h1 h2 j1 j2, h1 ≠ h2 → publisherBase base h1 = some j1 →
      publisherBase base h2 = some j2 → ¬ ∃ u, inJail j1 u = true ∧ inJail j2 u = true) :
    KeysDisjoint r := by
  intro h1 h2 k hne t1 t2
  obtain ⟨j1, hb1, hin1⟩ := touches_within hi t1
  obtain ⟨j2, hb2, hin2⟩ := touches_within hi t2
  exact hj h1 h2 j1 j2 hne hb1 hb2 ⟨k, hin1, hin2⟩

/-! ## requests of the manager as session histories -/

def Op.isReset : Op → Bool
  | .reset _ _ => true
  | _ => false

/-- Every request other than a session reset is a history within the session, provided no key
is shared between publishers when it starts.  That an update leaves the keys disjoint is carried
along for `delete`, which is an update, a deletion of files and a second update. -/
theorem Step.reach {op : Op} {s s' : Server} (hs : Step op s s') (hi : SInv s)
    (hd : KeysDisjoint s.rrdp) (hnr : op.isReset = false) :
    Reach s.base s.rrdp s'.rrdp ∧ (∀ rnd, op = .update rnd → KeysDisjoint s'.rrdp) := by
  induction hs with
  | skip => exact ⟨.refl _, fun _ _ => hd⟩
  | @addpub s h =>
    exact ⟨.step (.refl _) (.quiet (.publisherAdded _ h)), fun _ h => nomatch h⟩
  | rmpub s h =>
    dsimp only
    exact ⟨.step (.refl _) (.quiet (removePublisher_staging _ h).quiet), fun _ h => nomatch h⟩
  | publish => exact ⟨.step (.refl _) (.quiet (.stage _ _ _)), fun _ h => nomatch h⟩
  | update s rnd =>
    exact ⟨.step (.refl _) (.update _ rnd hi.r hd), fun _ _ => hd.applyUpdated hi.r _ rnd⟩
  | reset => cases hnr
  | @delete s s1 s3 del _ _ _ hs1 _ ih1 ih3 =>
    obtain ⟨hr1, hk1⟩ := ih1 hi hd rfl
    have hi1 := SInv.of_step hs1 hi trivial
    have hk2 := (hk1 _ rfl).deleteFiles hi1.r del
    have hr3 := (ih3 ⟨hi1.r.deleteFiles del, hi1.access, hi1.accessNodup⟩ hk2 rfl).1
    rw [show ({ s1 with rrdp := s1.rrdp.deleteFiles del } : Server).base = s.base from hs1.base.1] at hr3
    exact ⟨(Reach.step hr1 (.quiet (deleteFiles_staging s1.rrdp del).quiet)).trans hr3, fun _ h => nomatch h⟩

theorem run_reach : ∀ (ops : List Op) (s : Server), SInv s →
    (∀ op ∈ ops, OpOk op ∧ op.isReset = false) →
    (∀ n, KeysDisjoint (s.run (ops.take n)).rrdp) →
    Reach s.base s.rrdp (s.run ops).rrdp := by
  intro ops
  induction ops with
  | nil => intro s _ _ _; exact Reach.refl _
  | cons op t ih =>
    intro s hi hok hdis
    have h0 : KeysDisjoint s.rrdp := by simpa [Server.run] using hdis 0
    have hstep := ((s.step_spec op).reach hi h0 (hok op (by simp)).2).1
    have hi' := hi.step (hok op (by simp)).1
    have hrest := ih (s.step op) hi' (fun o ho => hok o (by simp [ho]))
      (fun n => by simpa [Server.run] using hdis (n + 1))
    rw [(s.step_spec op).base.1] at hrest
    have : (s.run (op :: t)) = (s.step op).run t := by simp [Server.run]
    rw [this]
    exact Reach.trans hstep hrest

end KM.Pubd
