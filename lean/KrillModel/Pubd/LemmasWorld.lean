/-
State and files together over histories of requests and interrupted writes (`WInv`).
-/
import KrillModel.Pubd.World
import KrillModel.Pubd.LemmasRrdp
namespace KM.Pubd

/-- Requests keep the file invariant (a session reset must choose a fresh session id). -/
theorem Step.finv {op : Op} {s s' : Server} {fs : RrdpFs} (hs : Step op s s') (hi : FInv s.rrdp fs)
    (hfresh : ∀ sess rnd, op = .reset sess rnd → SessionFresh sess fs) : FInv s'.rrdp fs := by
  induction hs with
  | skip => exact hi
  | @addpub s h => exact hi.quiet (.publisherAdded s.rrdp h)
  | rmpub s h =>
    dsimp only
    exact hi.quiet (removePublisher_staging s.rrdp h).quiet
  | @publish s h _ d => exact hi.quiet (.stage s.rrdp h d)
  | update s rnd => exact hi.applyUpdated _ rnd
  | reset s sess rnd => exact hi.reset sess rnd (hfresh sess rnd rfl)
  | @delete s s1 s3 del _ _ _ _ _ ih1 ih3 =>
    exact ih3 ((ih1 hi fun _ _ h => nomatch h).quiet (deleteFiles_staging s1.rrdp del).quiet)
      fun _ _ h => nomatch h

theorem FInv.update {s : Server} {fs : RrdpFs} (hi : FInv s.rrdp fs) (rnd : Nat) :
    FInv (s.update rnd).1.rrdp fs :=
  (s.update_spec rnd).finv hi fun _ _ h => nomatch h

/-! ### the world: requests and interrupted writes -/

/-- A request is admissible if `OpOk` holds and a session reset picks an id that is not on disk; a
write always is. -/
def EventOk (w : World) : Event → Prop
  | .req op => OpOk op ∧ ∀ sess rnd, op = .reset sess rnd → SessionFresh sess w.rfs
  | .write _ _ => True

/-- Every event of the history is admissible in the world it meets. -/
def World.Valid : World → List Event → Prop
  | _, [] => True
  | w, e :: es => EventOk w e ∧ World.Valid (w.step e) es

/-- The invariant of the world: the manager's invariant and the file invariant.  Nothing is
asked of the rsync directory. -/
structure WInv (w : World) : Prop where
  srv : SInv w.srv
  files : FInv w.srv.rrdp w.rfs

theorem WInv.init (base : Uri) (cfg : Cfg) (session rnd : Nat) :
    WInv (World.init base cfg session rnd) :=
  ⟨SInv.init base cfg session rnd, FInv.empty session rnd⟩

/-- A write event leaves the state alone; the RRDP files stay as they are or undergo the mutations
of a run of a prefix of the plan. -/
theorem World.write_spec (w : World) (rlog slog : List Sig) :
    (w.write rlog slog).srv = w.srv ∧
    ((w.write rlog slog).rfs = w.rfs ∨
      ∃ ms rest, matchLog Mut.sig (rrdpPlan w.srv.rrdp w.rfs) rlog = some (ms, rest) ∧
        (w.write rlog slog).rfs = w.rfs.applyAll ms) := by
  fun_cases World.write w rlog slog with
  | case1 hm => exact ⟨rfl, .inl rfl⟩
  | _ => exact ⟨rfl, .inr ⟨_, _, by assumption, rfl⟩⟩

theorem WInv.step {w : World} (hi : WInv w) {e : Event} (hok : EventOk w e) : WInv (w.step e) := by
  cases e with
  | req op => exact ⟨hi.srv.step hok.1, (w.srv.step_spec op).finv hi.files hok.2⟩
  | write rlog slog =>
    obtain ⟨hsrv, hrfs⟩ := w.write_spec rlog slog
    refine ⟨by show SInv (w.write rlog slog).srv; rw [hsrv]; exact hi.srv, ?_⟩
    show FInv (w.write rlog slog).srv.rrdp (w.write rlog slog).rfs
    rw [hsrv]
    rcases hrfs with h | ⟨ms, rest, hm, h⟩ <;> rw [h]
    · exact hi.files
    · exact hi.files.write hm

theorem WInv.run : ∀ (es : List Event) {w : World}, WInv w → World.Valid w es → WInv (w.run es) := by
  intro es
  induction es with
  | nil => intro w hi _; exact hi
  | cons e t ih =>
    intro w hi hv
    unfold World.run
    rw [List.foldl_cons]
    exact ih (hi.step hv.1) hv.2

end KM.Pubd
