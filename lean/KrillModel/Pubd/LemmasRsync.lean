/-
The pieces of `RsyncdStore::write`, put together in `Props/C11` (`rsync_equals_snapshot`): a complete
run is head, saves in some order, tail (`rsync_complete_shape`); the head leaves an empty temporary
directory on any directory, the saves fill it with the tree of the files (`apply_saves`), the tail
renames it into place whatever `current` and `old` were.  Last, mutations leave alone the
directories they do not name.
-/
import KrillModel.Pubd.LemmasLog
import KrillModel.Base.Assoc
namespace KM.Pubd

theorem RsyncFs.get?_remove (fs : RsyncFs) (n m : Top) :
    (fs.remove n).get? m = if m = n then none else fs.get? m :=
  Assoc.lookup_erase fs n m

theorem RsyncFs.get?_set (fs : RsyncFs) (n m : Top) (t : Tree) :
    (fs.set n t).get? m = if m = n then some t else fs.get? m :=
  Assoc.lookup_insert fs n m t

theorem Tree.get?_cons (p : List String × Raw) (t : Tree) (rel : List String) :
    Tree.get? (p :: t) rel = if rel = p.1 then some p.2 else Tree.get? t rel :=
  Assoc.lookup_cons p t rel

theorem Tree.get?_set (t : Tree) (p rel : List String) (r : Raw) :
    (t.set p r).get? rel = if rel = p then some r else t.get? rel :=
  Assoc.lookup_insert t p rel r

theorem RsyncFs.applyAll_append (fs : RsyncFs) (a b : List RMut) :
    fs.applyAll (a ++ b) =
      match fs.applyAll a with
      | (fs', true) => fs'.applyAll b
      | (fs', false) => (fs', false) := by
  fun_induction RsyncFs.applyAll fs a with
  | case1 fs => rfl
  | case2 fs m ms fs' h ih => rw [List.cons_append, RsyncFs.applyAll, h]; exact ih
  | case3 fs m ms h => rw [List.cons_append, RsyncFs.applyAll, h]

theorem applyAll_cons_some {fs fs' : RsyncFs} {m : RMut} (h : fs.apply m = some fs')
    (ms : List RMut) : fs.applyAll (m :: ms) = fs'.applyAll ms := by
  simp only [RsyncFs.applyAll, h]

theorem applyAll_cons_none {fs : RsyncFs} {m : RMut} (h : fs.apply m = none)
    (ms : List RMut) : fs.applyAll (m :: ms) = (fs, false) := by
  simp only [RsyncFs.applyAll, h]

/-- The files of a snapshot determine the content at every relative path. -/
def FilesFunctional (files : List (List String × Content)) : Prop :=
  ∀ p ∈ files, ∀ q ∈ files, p.1 = q.1 → p.2 = q.2

/-- Everything in the tree is the clean content of one of the files. -/
def TreeOk (files : List (List String × Content)) (t : Tree) : Prop :=
  ∀ rel r, t.get? rel = some r → ∃ c, (rel, c) ∈ files ∧ r = .clean c

theorem TreeOk.set {files : List (List String × Content)} (hf : FilesFunctional files) {t : Tree}
    (hok : TreeOk files t) {p : List String × Content} (hp : p ∈ files) :
    TreeOk files (t.set p.1 (.clean p.2)) ∧
      ∀ rel r, t.get? rel = some r → (t.set p.1 (.clean p.2)).get? rel = some r := by
  refine ⟨fun rel r hr => ?_, fun rel r hr => ?_⟩
  · rw [Tree.get?_set] at hr
    split at hr
    · next hrel => exact ⟨p.2, hrel ▸ hp, (Option.some.inj hr).symm⟩
    · exact hok rel r hr
  · rw [Tree.get?_set]
    split
    · next hrel =>
      obtain ⟨c, hc, rfl⟩ := hok p.1 r (hrel ▸ hr)
      have : c = p.2 := hf (p.1, c) hc p hp rfl
      rw [this]
    · exact hr

/-- Saving files of a functional file list into `tmp`, in any order, with repetitions. -/
theorem apply_saves (files : List (List String × Content)) (hf : FilesFunctional files)
    (tmp : Top) : ∀ (ss : List RMut), (∀ m ∈ ss, ∃ p ∈ files, m = .save tmp p.1 p.2) →
    ∀ (fs : RsyncFs) (t0 : Tree), fs.get? tmp = some t0 → TreeOk files t0 →
    ∃ fs' t, fs.applyAll ss = (fs', true) ∧ fs'.get? tmp = some t ∧ TreeOk files t ∧
      (∀ n, n ≠ tmp → fs'.get? n = fs.get? n) ∧
      (∀ rel r, t0.get? rel = some r → t.get? rel = some r) ∧
      (∀ p ∈ files, RMut.save tmp p.1 p.2 ∈ ss → t.get? p.1 = some (.clean p.2)) := by
  intro ss
  induction ss with
  | nil =>
    intro _ fs t0 h0 hok
    exact ⟨fs, t0, rfl, h0, hok, fun _ _ => rfl, fun _ _ h => h, fun _ _ h => nomatch h⟩
  | cons m ms ih =>
    intro hall fs t0 h0 hok
    obtain ⟨p, hp, rfl⟩ := hall m List.mem_cons_self
    have hstep : fs.apply (.save tmp p.1 p.2) = some (fs.set tmp (t0.set p.1 (.clean p.2))) := by
      simp only [RsyncFs.apply, h0]
    obtain ⟨hok1, hkeep⟩ := hok.set hf hp
    obtain ⟨fs', t, happ, hget, hokt, hoth, hmono, hall'⟩ :=
      ih (fun m hm => hall m (List.mem_cons_of_mem _ hm)) (fs.set tmp (t0.set p.1 (.clean p.2))) _
        (by rw [RsyncFs.get?_set, if_pos rfl]) hok1
    refine ⟨fs', t, (applyAll_cons_some hstep ms).trans happ, hget, hokt, fun n hn => ?_,
      fun rel r hr => hmono rel r (hkeep rel r hr), fun q hq hmem => ?_⟩
    · rw [hoth n hn, RsyncFs.get?_set, if_neg hn]
    · rcases List.mem_cons.mp hmem with heq | hmem
      · have hq1 : q.1 = p.1 := by injection heq
        have hq2 : q.2 = p.2 := by injection heq
        exact hmono _ _ (by rw [Tree.get?_set, hq1, hq2, if_pos rfl])
      · exact hall' q hq hmem

/-- A tree that holds exactly the files is, as a map, the expected tree. -/
theorem tree_eq_expected {files : List (List String × Content)}
    {t : Tree} (hok : TreeOk files t) (hall : ∀ p ∈ files, t.get? p.1 = some (.clean p.2))
    (rel : List String) :
    t.get? rel = Tree.get? (files.map (fun p => (p.1, Raw.clean p.2))) rel := by
  unfold Tree.get?
  rw [Assoc.lookup_map_snd]
  cases hl : files.lookup rel with
  | some c => exact hall (rel, c) (Assoc.mem_of_lookup hl)
  | none =>
    cases hg : List.lookup rel t with
    | none => rfl
    | some r =>
      obtain ⟨c, hc, _⟩ := hok rel r hg
      exact absurd (List.mem_map_of_mem (f := (·.1)) hc) (Assoc.lookup_eq_none.mp hl)

/-! ## the three phases of `RsyncdStore::write` -/

def rsyncHead (fs : RsyncFs) (serial : Nat) : List RMut :=
  (if (fs.get? (.tmp serial)).isSome then [.removeAll (.tmp serial)] else []) ++ [.mkdir (.tmp serial)]

def rsyncSaves (base : Uri) (serial : Nat) (objs : Objs) : List RMut :=
  (rsyncFiles base objs).map (fun p => .save (.tmp serial) p.1 p.2)

def rsyncTail (fs : RsyncFs) (serial : Nat) : List RMut :=
  (if (fs.get? .old).isSome then [.removeAll .old] else []) ++
    (if (fs.get? .current).isSome then [.rename .current .old] else []) ++
    [.rename (.tmp serial) .current] ++
    (if (fs.get? .current).isSome then [.removeAll .old] else [])

theorem rsyncPlan_eq (fs : RsyncFs) (base : Uri) (serial : Nat) (objs : Objs) :
    rsyncPlan fs base serial objs =
      [(true, rsyncHead fs serial), (false, rsyncSaves base serial objs),
       (true, rsyncTail fs serial)] := rfl

/-- A complete run of the rsync writer: clear and create the temporary directory, save all files
in some order, then the removal of a left-over `old`, the renames and the removal of `old`. -/
theorem rsync_complete_shape {fs : RsyncFs} {base : Uri} {serial : Nat} {objs : Objs}
    {log : List Sig} {ms : List RMut} {rest : List (Bool × List RMut)}
    (hm : matchLog RMut.sig (rsyncPlan fs base serial objs) log = some (ms, rest))
    (hd : planDone rest = true) :
    ∃ ss, ms = rsyncHead fs serial ++ ss ++ rsyncTail fs serial ∧
      ss.Perm (rsyncSaves base serial objs) := by
  rw [rsyncPlan_eq] at hm
  obtain ⟨_, _, _, _, rfl, -, h1, hm, hd⟩ := matchLog_done RMut.sig hm hd
  obtain ⟨ss, _, _, _, rfl, h2, -, hm, hd⟩ := matchLog_done RMut.sig hm hd
  obtain ⟨_, _, _, _, rfl, -, h3, hm, -⟩ := matchLog_done RMut.sig hm hd
  rw [h1 rfl, h3 rfl, (matchLog_nil_plan RMut.sig hm).1]
  exact ⟨ss, by simp only [List.append_nil, List.append_assoc], h2⟩

theorem applyAll_removeIfThere (fs : RsyncFs) (n : Top) {b : Bool} (hb : b = (fs.get? n).isSome)
    (l : List RMut) :
    fs.applyAll ((if b then [RMut.removeAll n] else []) ++ l) = (fs.remove n).applyAll l := by
  subst hb
  cases hn : fs.get? n with
  | none => rw [show fs.remove n = fs from Assoc.erase_eq_self (Assoc.lookup_eq_none.mp hn)]; rfl
  | some t => exact applyAll_cons_some rfl l

/-- Clearing and creating the temporary directory: afterwards it exists and is empty, whatever
was there before. -/
theorem rsync_head_ok (fs : RsyncFs) (serial : Nat) :
    ∃ fs1, fs.applyAll (rsyncHead fs serial) = (fs1, true) ∧ fs1.get? (.tmp serial) = some [] ∧
      ∀ n, n ≠ .tmp serial → fs1.get? n = fs.get? n := by
  have h2 : (fs.remove (.tmp serial)).apply (.mkdir (.tmp serial)) =
      some ((fs.remove (.tmp serial)).set (.tmp serial) []) := by
    simp only [RsyncFs.apply, RsyncFs.get?_remove, if_pos]
  refine ⟨(fs.remove (.tmp serial)).set (.tmp serial) [], ?_, by rw [RsyncFs.get?_set, if_pos rfl],
    fun n hn => ?_⟩
  · rw [rsyncHead, applyAll_removeIfThere fs _ rfl, applyAll_cons_some h2]; rfl
  · rw [RsyncFs.get?_set, if_neg hn, RsyncFs.get?_remove, if_neg hn]

theorem apply_rename {fs : RsyncFs} {a b : Top} {t : Tree} (ha : fs.get? a = some t)
    (hb : fs.get? b = none) : fs.apply (.rename a b) = some ((fs.remove a).set b t) := by
  simp only [RsyncFs.apply, ha, hb]

/-- Renaming a directory, if it is there (`c` says whether), onto a name that is free. -/
theorem applyAll_renameIfThere (fs : RsyncFs) {a b : Top} (hab : a ≠ b) (hb : fs.get? b = none)
    {c : Bool} (hc : c = (fs.get? a).isSome) :
    ∃ fsB : RsyncFs, (∀ l, fs.applyAll ((if c then [RMut.rename a b] else []) ++ l) = fsB.applyAll l) ∧
      fsB.get? a = none ∧ fsB.get? b = fs.get? a ∧ ∀ m, m ≠ a → m ≠ b → fsB.get? m = fs.get? m := by
  subst hc
  cases ha : fs.get? a with
  | none => exact ⟨fs, fun _ => rfl, ha, hb, fun _ _ _ => rfl⟩
  | some t =>
    refine ⟨(fs.remove a).set b t, fun l => applyAll_cons_some (apply_rename ha hb) l, ?_, ?_,
      fun m hma hmb => ?_⟩
    · rw [RsyncFs.get?_set, if_neg hab, RsyncFs.get?_remove, if_pos rfl]
    · rw [RsyncFs.get?_set, if_pos rfl]
    · rw [RsyncFs.get?_set, if_neg hmb, RsyncFs.get?_remove, if_neg hma]

/-- The removal of a left-over `old`, the renames and the final removal, on a directory where
`tmp-<serial>` holds the new tree: they succeed whatever `current` and `old` were. -/
theorem rsync_tail_ok {fs fs2 : RsyncFs} {serial : Nat} {t : Tree}
    (htmp : fs2.get? (.tmp serial) = some t)
    (hoth : ∀ n, n ≠ .tmp serial → fs2.get? n = fs.get? n) :
    ∃ fs5, fs2.applyAll (rsyncTail fs serial) = (fs5, true) ∧
      fs5.get? .current = some t ∧ fs5.get? .old = none ∧ fs5.get? (.tmp serial) = none := by
  -- the left-over `old` goes; `current`, if there, moves to `old`; the new tree becomes `current`;
  -- `old` goes if `current` was moved there
  obtain ⟨fsB, hB, hBcur, hBold, hBoth⟩ := applyAll_renameIfThere (fs2.remove .old)
    (a := .current) (b := .old) (by simp) (by rw [RsyncFs.get?_remove, if_pos rfl])
    (c := (fs.get? .current).isSome) (by rw [RsyncFs.get?_remove, if_neg (by simp), hoth _ (by simp)])
  have hBtmp : fsB.get? (.tmp serial) = some t := by
    rw [hBoth _ (by simp) (by simp), RsyncFs.get?_remove, if_neg (by simp)]; exact htmp
  have hD := applyAll_removeIfThere ((fsB.remove (.tmp serial)).set .current t) .old
    (b := (fs.get? .current).isSome) (by
      rw [RsyncFs.get?_set, if_neg (by simp), RsyncFs.get?_remove, if_neg (by simp), hBold,
        RsyncFs.get?_remove, if_neg (by simp), hoth _ (by simp)]) []
  rw [List.append_nil] at hD
  refine ⟨((fsB.remove (.tmp serial)).set .current t).remove .old, ?_, ?_, ?_, ?_⟩
  · rw [rsyncTail, List.append_assoc, List.append_assoc,
      applyAll_removeIfThere fs2 .old (by rw [hoth _ (by simp)]), hB, List.cons_append,
      List.nil_append, applyAll_cons_some (apply_rename hBtmp hBcur), hD]
    rfl
  · rw [RsyncFs.get?_remove, if_neg (by simp), RsyncFs.get?_set, if_pos rfl]
  · rw [RsyncFs.get?_remove, if_pos rfl]
  · rw [RsyncFs.get?_remove, if_neg (by simp), RsyncFs.get?_set, if_neg (by simp),
      RsyncFs.get?_remove, if_pos rfl]

/-- The top-level directories a mutation can change. -/
def RMut.touches : RMut → Top → Bool
  | .mkdir n, m => n == m
  | .save n _ _, m => n == m
  | .rename a b, m => a == m || b == m
  | .removeAll n, m => n == m

theorem apply_other {fs fs' : RsyncFs} {m : RMut} {n : Top} (h : fs.apply m = some fs')
    (hn : m.touches n = false) : fs'.get? n = fs.get? n := by
  have hne : ∀ a : Top, (a == n) = false → n ≠ a := fun a h e => by simp [e] at h
  revert h hn
  fun_cases RsyncFs.apply fs m with
  | case1 a =>
    rintro ⟨⟩ hn
    split
    · rfl
    · rw [RsyncFs.get?_set, if_neg (hne a hn)]
  | case2 a rel c t _ =>
    rintro ⟨⟩ hn
    rw [RsyncFs.get?_set, if_neg (hne a hn)]
  | case6 a b t _ _ =>
    rintro ⟨⟩ hn
    rw [RMut.touches, Bool.or_eq_false_iff] at hn
    rw [RsyncFs.get?_set, if_neg (hne b hn.2), RsyncFs.get?_remove, if_neg (hne a hn.1)]
  | case7 a =>
    rintro ⟨⟩ hn
    rw [RsyncFs.get?_remove, if_neg (hne a hn)]
  | _ => exact fun h => nomatch h

/-- Mutations leave alone the directories they do not name (also when one of them fails). -/
theorem applyAll_other (fs : RsyncFs) (ms : List RMut) (n : Top)
    (h : ∀ m ∈ ms, m.touches n = false) : (fs.applyAll ms).1.get? n = fs.get? n := by
  fun_induction RsyncFs.applyAll fs ms with
  | case1 fs => rfl
  | case2 fs m ms fs' ha ih =>
    rw [ih fun x hx => h x (List.mem_cons_of_mem _ hx), apply_other ha (h m List.mem_cons_self)]
  | case3 fs m ms ha => rfl

end KM.Pubd
