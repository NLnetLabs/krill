/-
Lists read as finite maps, in two forms.  `KM.Keyed`: entries that carry their key (`key : α → κ`), look-up is
`find?` on the key and removal a `filter` on it.  `KM.Assoc`: lists of pairs, look-up is `List.lookup`, a key is
removed by `filter (·.1 != k)`, a value is put at the head or at the end after removal, or changed in place; the
look-up lemmas are those of `Keyed` at `Prod.fst`.  The maps of the model are of the second form, each with a
look-up of its own; `eq_lookup_of_eqns` and `lookup_eq_find?` identify those with `List.lookup`, so that what is said
here about `List.lookup` holds of each of them.  Last: what a fold of removals or of insertions leaves at a key
(`lastOf`, the last update for the key).
-/
import KrillModel.Base.Fold
/-! ## entries that carry their key -/

namespace KM.Keyed

universe u v
variable {α : Type u} {κ : Type v} [BEq κ] [LawfulBEq κ] (key : α → κ)

/-- Look-up after keeping the entries whose key passes `p`: the key asked for passes or is gone. -/
theorem find?_filter (p : κ → Bool) (l : List α) (q : κ) :
    (l.filter fun e => p (key e)).find? (fun e => key e == q) =
      if p q then l.find? (fun e => key e == q) else none := by
  induction l with
  | nil => simp
  | cons e l ih =>
    rw [List.filter_cons]
    by_cases he : key e = q
    · subst he
      cases hp : p (key e) <;> simp [hp, ih]
    · have hne : (key e == q) = false := beq_false_of_ne he
      cases hp : p (key e) <;> simp only [List.find?_cons, hne, ih, if_true, Bool.false_eq_true, if_false]

theorem find?_filter_ne [DecidableEq κ] (l : List α) (k q : κ) :
    (l.filter fun e => !(key e == k)).find? (fun e => key e == q) =
      if q = k then none else l.find? (fun e => key e == q) := by
  rw [find?_filter key (fun x => !(x == k))]
  by_cases h : q = k <;> simp [h]

theorem find?_filter_notin (l : List α) (ks : List κ) (q : κ) :
    (l.filter fun e => !(ks.contains (key e))).find? (fun e => key e == q) =
      if ks.contains q then none else l.find? (fun e => key e == q) := by
  rw [find?_filter key (fun x => !(ks.contains x))]
  cases ks.contains q <;> rfl

theorem any_filter_ne [DecidableEq κ] (l : List α) (k q : κ) :
    (l.filter fun e => !(key e == k)).any (fun e => key e == q) =
      if q = k then false else l.any fun e => key e == q := by
  rw [← List.isSome_find?, find?_filter_ne, ← List.isSome_find?]
  split <;> rfl

theorem any_filter_notin (l : List α) (ks : List κ) (q : κ) :
    (l.filter fun e => !(ks.contains (key e))).any (fun e => key e == q) =
      ((l.any fun e => key e == q) && !(ks.contains q)) := by
  rw [← List.isSome_find?, find?_filter_notin, ← List.isSome_find?]
  cases ks.contains q <;> simp

/-- Look-up after an entry is put at the head in place of the entries of its key. -/
theorem find?_insert [DecidableEq κ] (l : List α) (x : α) (q : κ) :
    (x :: l.filter fun e => !(key e == key x)).find? (fun e => key e == q) =
      if q = key x then some x else l.find? (fun e => key e == q) := by
  rw [List.find?_cons]
  by_cases h : q = key x
  · rw [h, beq_self_eq_true, if_pos rfl]
  · rw [beq_false_of_ne (Ne.symm h), if_neg h]
    exact (find?_filter_ne key l (key x) q).trans (if_neg h)

theorem any_insert [DecidableEq κ] (l : List α) (x : α) (q : κ) :
    (x :: l.filter fun e => !(key e == key x)).any (fun e => key e == q) =
      if q = key x then true else l.any fun e => key e == q := by
  rw [← List.isSome_find?, find?_insert, ← List.isSome_find?]
  split <;> rfl

omit [LawfulBEq κ] in
theorem filter_notin_snoc (l : List α) (ks : List κ) (k : κ) :
    (l.filter fun e => !((ks ++ [k]).contains (key e))) =
      (l.filter fun e => !(ks.contains (key e))).filter fun e => !(key e == k) := by
  rw [List.filter_filter]
  apply List.filter_congr
  intro e _
  simp only [List.contains_append, List.contains_cons, List.contains_nil, Bool.or_false, Bool.not_or,
    Bool.and_comm]

omit [LawfulBEq κ] in
theorem filter_notin_nil (l : List α) : (l.filter fun e => !(([] : List κ).contains (key e))) = l := by
  simp

end KM.Keyed

namespace KM.Assoc
universe u v w
variable {κ : Type u} {α : Type v}

/-! ## distinct images under a projection; `find?` after a `filter` that keeps what it finds; a test read both ways -/

theorem nodup_map_filter {β : Type w} {f : α → β} {l : List α} (h : (l.map f).Nodup) (p : α → Bool) :
    ((l.filter p).map f).Nodup :=
  h.sublist (List.filter_sublist.map _)

/-- Two members of a list with the same image under a projection whose values are distinct along the list are equal. -/
theorem eq_of_nodup_map {β : Type w} (f : α → β) {l : List α} (h : (l.map f).Nodup) {a b : α}
    (ha : a ∈ l) (hb : b ∈ l) (hf : f a = f b) : a = b := by
  have hp := List.pairwise_map.mp h
  -- "equal if the images are" is reflexive and holds of every pair in either order
  exact List.Pairwise.forall_of_forall_of_flip (R := fun a b => f a = f b → a = b) (fun _ _ _ => rfl)
    (hp.imp fun hne h => absurd h hne) (hp.imp fun hne h => absurd h.symm hne) ha hb hf

theorem find?_filter_of_keeps {p q : α → Bool} :
    ∀ {l : List α}, (∀ a, l.find? q = some a → p a = true) → (l.filter p).find? q = l.find? q
  | [], _ => rfl
  | a :: t, h => by
    rewrite [List.find?_cons] at h ⊢
    cases hq : q a with
    | true =>
      rewrite [hq] at h
      rw [List.filter_cons_of_pos (h a rfl), List.find?_cons, hq]
    | false =>
      rewrite [hq] at h
      rewrite [← find?_filter_of_keeps h, List.filter_cons]
      split
      · rw [List.find?_cons, hq]
      · rfl

theorem ite_eq_comm {β : Sort w} [DecidableEq κ] (a b : κ) (x y : β) :
    (if a = b then x else y) = if b = a then x else y := by
  by_cases h : a = b
  · rw [if_pos h, if_pos h.symm]
  · rw [if_neg h, if_neg (Ne.symm h)]

/-! ## look-ups that are `List.lookup` -/

/-- A look-up written by recursion with the test `k' = k` on the head is `List.lookup`. -/
theorem eq_lookup_of_eqns [BEq κ] [LawfulBEq κ] [DecidableEq κ] (get : List (κ × α) → κ → Option α) (hnil : ∀ k, get [] k = none)
    (hcons : ∀ k' v t k, get ((k', v) :: t) k = if k' = k then some v else get t k)
    (l : List (κ × α)) (k : κ) : get l k = l.lookup k := by
  induction l with
  | nil => exact hnil k
  | cons p t ih =>
    rw [hcons, List.lookup_cons, ih]
    by_cases h : p.1 = k
    · rw [if_pos h, h, beq_self_eq_true]
    · rw [if_neg h, beq_false_of_ne (Ne.symm h)]

theorem lookup_eq_find? [BEq κ] [LawfulBEq κ] (l : List (κ × α)) (k : κ) :
    l.lookup k = (l.find? fun e => e.1 == k).map (·.2) := by
  induction l with
  | nil => rfl
  | cons p t ih =>
    rw [List.lookup_cons, List.find?_cons, ih]
    by_cases h : k = p.1
    · rw [h, beq_self_eq_true]; rfl
    · rw [beq_false_of_ne h, beq_false_of_ne (Ne.symm h)]

/-! ## keys and members -/

section
variable [BEq κ]

theorem nodup_erase {l : List (κ × α)} (h : (l.map (·.1)).Nodup) (k : κ) :
    ((l.filter fun p => p.1 != k).map (·.1)).Nodup :=
  nodup_map_filter h _

theorem lookup_map_snd {γ : Type w} (l : List (κ × α)) (f : α → γ) (k : κ) :
    (l.map fun p => (p.1, f p.2)).lookup k = (l.lookup k).map f := by
  induction l with
  | nil => rfl
  | cons p t ih =>
    rw [List.map_cons, List.lookup_cons, List.lookup_cons]
    cases k == p.1
    · exact ih
    · rfl

variable [LawfulBEq κ]

theorem lookup_eq_none {l : List (κ × α)} {k : κ} : l.lookup k = none ↔ k ∉ l.map (·.1) := by
  rw [List.lookup_eq_none_iff]
  simp only [List.mem_map, not_exists, not_and, bne_iff_ne, ne_eq]
  exact ⟨fun h p hp e => h p hp e.symm, fun h p hp e => h p hp e.symm⟩

theorem mem_of_lookup {l : List (κ × α)} {k : κ} {v : α} (h : l.lookup k = some v) : (k, v) ∈ l := by
  obtain ⟨l₁, l₂, rfl, -⟩ := List.lookup_eq_some_iff.mp h
  exact List.mem_append_right _ List.mem_cons_self

theorem isSome_lookup {l : List (κ × α)} {k : κ} : (l.lookup k).isSome = true ↔ k ∈ l.map (·.1) := by
  rw [Option.isSome_iff_ne_none, Ne, lookup_eq_none, Classical.not_not]

theorem eq_nil_of_lookup_none {l : List (κ × α)} (h : ∀ k, l.lookup k = none) : l = [] := by
  cases l with
  | nil => rfl
  | cons p t => simpa [List.lookup] using h p.1

theorem mem_erase {l : List (κ × α)} {k : κ} {p : κ × α} :
    p ∈ l.filter (fun q => q.1 != k) ↔ p ∈ l ∧ p.1 ≠ k := by
  simp

theorem erase_eq_self {l : List (κ × α)} {k : κ} (h : k ∉ l.map (·.1)) : (l.filter fun p => p.1 != k) = l :=
  List.filter_eq_self.mpr fun _ hp => bne_iff_ne.mpr fun e => h (e ▸ List.mem_map_of_mem hp)

theorem not_mem_keys_erase (l : List (κ × α)) (k : κ) : k ∉ (l.filter fun p => p.1 != k).map (·.1) := by
  intro hm
  obtain ⟨p, hp, hk⟩ := List.mem_map.mp hm
  exact (mem_erase.mp hp).2 hk

theorem nodup_insert {l : List (κ × α)} (h : (l.map (·.1)).Nodup) (k : κ) (v : α) :
    (((k, v) :: l.filter fun p => p.1 != k).map (·.1)).Nodup :=
  List.nodup_cons.mpr ⟨not_mem_keys_erase l k, nodup_erase h k⟩

theorem nodup_put {l : List (κ × α)} (h : (l.map (·.1)).Nodup) (k : κ) (v : α) :
    (((l.filter fun p => p.1 != k) ++ [(k, v)]).map (·.1)).Nodup := by
  rw [List.map_append, List.nodup_append]
  refine ⟨nodup_erase h k, List.nodup_cons.mpr ⟨List.not_mem_nil, List.nodup_nil⟩, fun a ha b hb e => ?_⟩
  rw [List.map_cons, List.map_nil, List.mem_singleton] at hb
  have hk : a = k := e.trans hb
  exact not_mem_keys_erase l k (hk ▸ ha)

/-! ## look-up after a change -/

theorem lookup_filter (l : List (κ × α)) (keep : κ → Bool) (k : κ) :
    (l.filter fun p => keep p.1).lookup k = if keep k then l.lookup k else none := by
  rw [lookup_eq_find?, lookup_eq_find?, Keyed.find?_filter Prod.fst]
  split <;> rfl

variable [DecidableEq κ]

theorem lookup_cons (p : κ × α) (l : List (κ × α)) (k : κ) :
    (p :: l).lookup k = if k = p.1 then some p.2 else l.lookup k := by
  rw [List.lookup_cons]
  by_cases h : k = p.1
  · rw [if_pos h, h, beq_self_eq_true]
  · rw [if_neg h, beq_false_of_ne h]

theorem lookup_erase (l : List (κ × α)) (k' k : κ) :
    (l.filter fun p => p.1 != k').lookup k = if k = k' then none else l.lookup k := by
  rw [lookup_filter l (· != k')]
  by_cases hk : k = k' <;> simp [hk]

theorem lookup_insert (l : List (κ × α)) (k' k : κ) (v : α) :
    ((k', v) :: l.filter fun p => p.1 != k').lookup k = if k = k' then some v else l.lookup k := by
  rw [lookup_cons, lookup_erase]
  by_cases hk : k = k' <;> simp [hk]

theorem lookup_put (l : List (κ × α)) (k' k : κ) (v : α) :
    ((l.filter fun p => p.1 != k') ++ [(k', v)]).lookup k = if k = k' then some v else l.lookup k := by
  rw [List.lookup_append, lookup_erase, lookup_cons]
  by_cases hk : k = k' <;> simp [hk]

theorem lookup_modify (l : List (κ × α)) (k' : κ) (f : α → α) (k : κ) :
    (l.map fun p => if p.1 = k' then (p.1, f p.2) else p).lookup k =
      if k = k' then (l.lookup k).map f else l.lookup k := by
  induction l with
  | nil => simp
  | cons p t ih =>
    rw [List.map_cons, lookup_cons, lookup_cons, ih]
    by_cases hk : k = p.1
    · subst hk
      by_cases hp : p.1 = k' <;> simp [hp]
    · by_cases hp : p.1 = k'
      · rw [if_pos hp, if_neg hk, if_neg hk]
      · rw [if_neg hp, if_neg hk, if_neg hk]

theorem lookup_of_mem {l : List (κ × α)} (hnd : (l.map (·.1)).Nodup) {k : κ} {v : α} (h : (k, v) ∈ l) :
    l.lookup k = some v := by
  induction l with
  | nil => cases h
  | cons p t ih =>
    rw [List.map_cons, List.nodup_cons] at hnd
    rw [lookup_cons]
    rcases List.mem_cons.mp h with rfl | ht
    · exact if_pos rfl
    · rw [if_neg fun e : k = p.1 => hnd.1 (e ▸ List.mem_map_of_mem (f := (·.1)) ht)]
      exact ih hnd.2 ht

end

/-! ## the last update for a key -/

section
variable [DecidableEq κ]

/-- The last value given for a key in a list of updates. -/
def lastOf (l : List (κ × α)) (k : κ) : Option α := Fold.lastSome (fun p => if p.1 = k then some p.2 else none) l

theorem lastOf_cons (p : κ × α) (t : List (κ × α)) (k : κ) :
    lastOf (p :: t) k = (lastOf t k).or (if p.1 = k then some p.2 else none) :=
  Fold.lastSome_cons ..

theorem lastOf_cons_ne {k' k : κ} (v : α) (t : List (κ × α)) (h : k' ≠ k) : lastOf ((k', v) :: t) k = lastOf t k := by
  rw [lastOf_cons, if_neg h, Option.or_none]

theorem lastOf_mem {l : List (κ × α)} {k : κ} {v : α} (h : lastOf l k = some v) : (k, v) ∈ l := by
  obtain ⟨p, hp, hv⟩ := Fold.exists_of_lastSome h
  split at hv
  · cases hv; rename_i hk; exact hk ▸ hp
  · cases hv

theorem lastOf_eq_none {l : List (κ × α)} {k : κ} : lastOf l k = none ↔ k ∉ l.map (·.1) := by
  rw [lastOf, Fold.lastSome_eq_none, List.mem_map]
  constructor
  · rintro h ⟨p, hp, hk⟩
    have := h p hp
    rw [if_pos hk] at this
    cases this
  · exact fun h p hp => if_neg fun hk => h ⟨p, hp, hk⟩

theorem lastOf_isSome_iff (l : List (κ × α)) (k : κ) : (lastOf l k).isSome = true ↔ k ∈ l.map (·.1) := by
  rw [Option.isSome_iff_ne_none, Ne, lastOf_eq_none, Classical.not_not]

/-- Of updates for pairwise different keys each one is the last for its key. -/
theorem lastOf_of_nodup {l : List (κ × α)} (hnd : (l.map (·.1)).Nodup) {e : κ × α} (he : e ∈ l) :
    lastOf l e.1 = some e.2 := by
  induction l with
  | nil => cases he
  | cons x t ih =>
    rw [List.map_cons, List.nodup_cons] at hnd
    rw [lastOf_cons]
    rcases List.mem_cons.mp he with rfl | he
    · rw [lastOf_eq_none.mpr hnd.1, if_pos rfl]; rfl
    · rw [ih hnd.2 he]; rfl

/-! ## folds of removals and of insertions

For any kind of map `μ` with a look-up `get`: each map of the model folds a removal and an insertion of its own. -/

section
variable {μ : Type w} (get : μ → κ → Option α)

theorem get_foldl_erase {ι : Type _} (del : μ → κ → μ)
    (hdel : ∀ m k' k, get (del m k') k = if k = k' then none else get m k) (f : ι → κ) (ws : List ι) (m : μ) (k : κ) :
    get (ws.foldl (fun m w => del m (f w)) m) k = if k ∈ ws.map f then none else get m k := by
  induction ws generalizing m with
  | nil => rfl
  | cons w ws ih =>
    rw [List.foldl_cons, ih, hdel, List.map_cons]
    by_cases h1 : k ∈ ws.map f
    · rw [if_pos h1, if_pos (List.mem_cons_of_mem _ h1)]
    · by_cases h2 : k = f w
      · rw [if_neg h1, if_pos h2, if_pos (h2 ▸ List.mem_cons_self)]
      · rw [if_neg h1, if_neg h2, if_neg fun h => (List.mem_cons.mp h).elim h2 h1]

theorem get_foldl_insert (ins : μ → κ → α → μ)
    (hins : ∀ m k' v k, get (ins m k' v) k = if k = k' then some v else get m k) (l : List (κ × α)) (m : μ) (k : κ) :
    get (l.foldl (fun m a => ins m a.1 a.2) m) k = (lastOf l k).or (get m k) := by
  induction l generalizing m with
  | nil => rfl
  | cons p t ih =>
    rw [List.foldl_cons, ih, lastOf_cons]
    cases lastOf t k with
    | some x => rfl
    | none => rw [Option.none_or, Option.none_or, hins, ite_eq_comm]; split <;> rfl

end
end

end KM.Assoc
