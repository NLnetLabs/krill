/-
A table generated from the source and a hand-written table that has a row for each of its rows, kept in
the same order.  "Every generated row `a` has a hand-written row `b` with `p a b`" is decided in one
pass over both (`walk`); when the two key columns are the same list the pass succeeds without comparing
a key (`walk_of_aligned`).
-/
namespace KM.Table

variable {α β γ : Type}

/-- Rows of `bs` that match nothing are skipped; every `a` has to find its row before `bs` runs out. -/
def walk (p : α → β → Bool) : List α → List β → Bool
  | [], _ => true
  | _ :: _, [] => false
  | a :: as, b :: bs => if p a b then walk p as bs else walk p (a :: as) bs

theorem any_of_walk (p : α → β → Bool) : ∀ (bs : List β) (as : List α), walk p as bs = true →
    ∀ a ∈ as, bs.any (p a) = true
  | _, [], _, _, ha => nomatch ha
  | [], _ :: _, h, _, _ => nomatch h
  | b :: bs, a :: as, h, x, hx => by
    rw [List.any_cons, Bool.or_eq_true]
    unfold walk at h
    split at h
    · rcases List.mem_cons.mp hx with rfl | hx
      · exact .inl ‹_›
      · exact .inr (any_of_walk p bs as h x hx)
    · exact .inr (any_of_walk p bs (a :: as) h x hx)

/-- The two tables row by row: equal keys, and `q` (what `p` asks beyond the keys) holds of each pair. -/
theorem walk_of_aligned {p q : α → β → Bool} {ka : α → γ} {kb : β → γ}
    (hp : ∀ a b, ka a = kb b → q a b = true → p a b = true) :
    ∀ {as : List α} {bs : List β}, as.map ka = bs.map kb → (as.zip bs).all (fun x => q x.1 x.2) = true →
      walk p as bs = true
  | [], _, _, _ => by unfold walk; rfl
  | _ :: _, [], hk, _ => nomatch hk
  | a :: as, b :: bs, hk, hq => by
    rw [List.map_cons, List.map_cons, List.cons.injEq] at hk
    rw [List.zip_cons_cons, List.all_cons, Bool.and_eq_true] at hq
    rw [walk, if_pos (hp a b hk.1 hq.1)]
    exact walk_of_aligned hp hk.2 hq.2

end KM.Table
