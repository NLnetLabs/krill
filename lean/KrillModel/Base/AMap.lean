/-
Association-list maps standing for krill's `HashMap`s.  `set` replaces (as `HashMap::insert`),
`del` removes (as `HashMap::remove`).  Only look-up results carry meaning; iteration order is
arbitrary in the code, so drivers compare sorted and theorems speak through `get`.
-/
import KrillModel.Base.Assoc
namespace KM.AMap

abbrev AMap (K V : Type) := List (K × V)

variable {K V : Type} [DecidableEq K]

def get : AMap K V → K → Option V
  | [], _ => none
  | (k', v) :: t, k => if k' = k then some v else get t k

def del (m : AMap K V) (k : K) : AMap K V := m.filter (fun p => decide (p.1 ≠ k))

def set (m : AMap K V) (k : K) (v : V) : AMap K V := (k, v) :: del m k

def keys (m : AMap K V) : List K := m.map (·.1)

def vals (m : AMap K V) : List V := m.map (·.2)

def has (m : AMap K V) (k : K) : Bool := (get m k).isSome

@[simp] theorem get_nil (k : K) : get ([] : AMap K V) k = none := rfl

theorem get_cons (k' : K) (v : V) (t : AMap K V) (k : K) :
    get ((k', v) :: t) k = if k' = k then some v else get t k := rfl

theorem get_eq_lookup (m : AMap K V) (k : K) : get m k = m.lookup k :=
  Assoc.eq_lookup_of_eqns get (fun _ => rfl) (fun _ _ _ _ => rfl) m k

theorem del_eq_filter (m : AMap K V) (k : K) : del m k = m.filter fun p => p.1 != k :=
  List.filter_congr fun _ _ => decide_not

theorem get_del (m : AMap K V) (k k' : K) :
    get (del m k) k' = if k = k' then none else get m k' := by
  rw [get_eq_lookup, get_eq_lookup, del_eq_filter, Assoc.ite_eq_comm]; exact Assoc.lookup_erase m k k'

theorem get_set (m : AMap K V) (k k' : K) (v : V) :
    get (set m k v) k' = if k = k' then some v else get m k' := by
  rw [get_eq_lookup, get_eq_lookup, set, del_eq_filter, Assoc.ite_eq_comm]; exact Assoc.lookup_insert m k k' v

theorem get_del_self (m : AMap K V) (k : K) : get (del m k) k = none :=
  (get_del m k k).trans (if_pos rfl)

theorem get_del_ne (m : AMap K V) {k k' : K} (h : k ≠ k') : get (del m k) k' = get m k' :=
  (get_del m k k').trans (if_neg h)

theorem get_set_self (m : AMap K V) (k : K) (v : V) : get (set m k v) k = some v :=
  (get_set m k k v).trans (if_pos rfl)

theorem get_set_ne (m : AMap K V) {k k' : K} (v : V) (h : k ≠ k') :
    get (set m k v) k' = get m k' :=
  (get_set m k k' v).trans (if_neg h)

theorem mem_of_get {m : AMap K V} {k : K} {v : V} (h : get m k = some v) : (k, v) ∈ m :=
  Assoc.mem_of_lookup ((get_eq_lookup m k).symm.trans h)

theorem get_isSome_iff_mem_keys {m : AMap K V} {k : K} : (get m k).isSome = true ↔ k ∈ keys m := by
  rw [get_eq_lookup]; exact Assoc.isSome_lookup

theorem get_isSome_of_mem {m : AMap K V} {k : K} {v : V} (h : (k, v) ∈ m) :
    (get m k).isSome = true :=
  get_isSome_iff_mem_keys.mpr (List.mem_map.mpr ⟨(k, v), h, rfl⟩)

theorem get_none_iff {m : AMap K V} {k : K} : get m k = none ↔ ∀ v, (k, v) ∉ m := by
  constructor
  · intro h v hm
    have := get_isSome_of_mem hm
    rw [h] at this; cases this
  · intro h
    cases hg : get m k with
    | none => rfl
    | some v => exact absurd (mem_of_get hg) (h v)

theorem mem_keys_of_get {m : AMap K V} {k : K} {v : V} (h : get m k = some v) : k ∈ keys m :=
  List.mem_map.mpr ⟨(k, v), mem_of_get h, rfl⟩

theorem get_of_mem_nodup {m : AMap K V} (hnd : (keys m).Nodup) {k : K} {v : V}
    (h : (k, v) ∈ m) : get m k = some v :=
  (get_eq_lookup m k).trans (Assoc.lookup_of_mem hnd h)

theorem keys_del_subset (m : AMap K V) (k : K) : ∀ x, x ∈ keys (del m k) → x ∈ keys m := by
  intro x hx
  obtain ⟨p, hp, rfl⟩ := List.mem_map.mp hx
  exact List.mem_map.mpr ⟨p, (List.mem_filter.mp hp).1, rfl⟩

theorem nodup_del {m : AMap K V} (h : (keys m).Nodup) (k : K) : (keys (del m k)).Nodup := by
  unfold keys del
  exact (List.filter_sublist.map _).nodup h

theorem not_mem_keys_del (m : AMap K V) (k : K) : k ∉ keys (del m k) := by
  intro h
  have := get_isSome_iff_mem_keys.mpr h
  rw [get_del_self] at this; cases this

theorem nodup_set {m : AMap K V} (h : (keys m).Nodup) (k : K) (v : V) :
    (keys (set m k v)).Nodup := by
  show (k :: keys (del m k)).Nodup
  exact List.nodup_cons.mpr ⟨not_mem_keys_del m k, nodup_del h k⟩

theorem isSome_get_set {m : AMap K V} {k : K} (v : V) (h : (get m k).isSome = true) (k' : K) :
    (get (set m k v) k').isSome = (get m k').isSome := by
  rw [get_set]
  split
  · next hk => rw [← hk, h]; rfl
  · rfl

theorem isSome_get_set_of_isSome {m : AMap K V} {k k' : K} (v : V) (h : (get m k').isSome = true) :
    (get (set m k v) k').isSome = true := by
  rw [get_set]
  split
  · rfl
  · exact h

theorem forall_mem_del {P : K × V → Prop} {m : AMap K V} (h : ∀ e ∈ m, P e) (k : K) : ∀ e ∈ del m k, P e :=
  fun e he => h e (List.mem_filter.mp he).1

theorem forall_mem_set {P : K × V → Prop} {m : AMap K V} (h : ∀ e ∈ m, P e) {k : K} {v : V} (hv : P (k, v)) :
    ∀ e ∈ set m k v, P e :=
  List.forall_mem_cons.mpr ⟨hv, forall_mem_del h k⟩

/-! ## Folds of `set` and of `del` -/

export Assoc (lastOf lastOf_mem lastOf_isSome_iff lastOf_eq_none lastOf_cons_ne)

theorem get_foldl_set (l : List (K × V)) (m : AMap K V) (k : K) :
    get (l.foldl (fun m a => set m a.1 a.2) m) k = (lastOf l k).orElse (fun _ => get m k) :=
  (Assoc.get_foldl_insert get set (fun m k' v k => (get_set m k' k v).trans (Assoc.ite_eq_comm ..)) l m k).trans
    Option.or_eq_orElse

theorem get_foldl_delK {ι : Type} (f : ι → K) (l : List ι) (m : AMap K V) (k : K) :
    get (l.foldl (fun m a => del m (f a)) m) k = if k ∈ l.map f then none else get m k :=
  Assoc.get_foldl_erase get del (fun m k' k => (get_del m k' k).trans (Assoc.ite_eq_comm ..)) f l m k

theorem get_foldl_del (ks : List K) (m : AMap K V) (k : K) :
    get (ks.foldl del m) k = if k ∈ ks then none else get m k := by
  have h := get_foldl_delK id ks m k
  rwa [List.map_id] at h

/-- Removing the keys of the entries that meet `P`, read at one key. -/
theorem get_foldl_del_filter {m : AMap K V} (hnd : (keys m).Nodup) (P : K × V → Prop) [DecidablePred P] (k : K) :
    get (((m.filter fun q => P q).map (·.1)).foldl del m) k = (get m k).filter fun v => ¬ P (k, v) := by
  rewrite [get_foldl_del]
  cases hg : get m k with
  | none => exact ite_self _
  | some v =>
    have hmem : k ∈ (m.filter fun q => P q).map (·.1) ↔ P (k, v) := by
      constructor
      · intro h
        obtain ⟨q, hq, rfl⟩ := List.mem_map.mp h
        obtain ⟨hq1, hq2⟩ := List.mem_filter.mp hq
        cases (get_of_mem_nodup hnd hq1).symm.trans hg
        exact of_decide_eq_true hq2
      · exact fun h => List.mem_map.mpr ⟨(k, v), List.mem_filter.mpr ⟨mem_of_get hg, decide_eq_true h⟩, rfl⟩
    by_cases hP : P (k, v) <;> simp [Option.filter, hmem, hP]

theorem decide_mem_keys (m : AMap K V) (k : K) : decide (k ∈ m.map (·.1)) = (get m k).isSome := by
  rw [Bool.eq_iff_iff, decide_eq_true_iff]; exact get_isSome_iff_mem_keys.symm

theorem isSome_foldl_set {α : Type} (f : α → K) (g : α → V) (l : List α) (m : AMap K V) (k : K) :
    (get (l.foldl (fun m a => set m (f a) (g a)) m) k).isSome = (decide (k ∈ l.map f) || (get m k).isSome) := by
  have h := get_foldl_set (l.map fun a => (f a, g a)) m k
  rw [List.foldl_map] at h
  have hl : (lastOf (l.map fun a => (f a, g a)) k).isSome = decide (k ∈ l.map f) := by
    rw [Bool.eq_iff_iff, decide_eq_true_iff, lastOf_isSome_iff, List.map_map]; exact Iff.rfl
  rw [h, ← hl]
  cases lastOf (l.map fun a => (f a, g a)) k <;> rfl

theorem isSome_foldl_del {α : Type} (f : α → K) (l : List α) (m : AMap K V) (k : K) :
    (get (l.foldl (fun m a => del m (f a)) m) k).isSome = (!decide (k ∈ l.map f) && (get m k).isSome) := by
  rw [get_foldl_delK]
  split <;> simp [*]

example : get (set (set ([] : AMap Nat Nat) 1 10) 1 11) 1 = some 11 ∧
    get (del (set ([] : AMap Nat Nat) 1 10) 1) 1 = none ∧
    keys (set (set ([] : AMap Nat Nat) 1 10) 2 20) = [2, 1] := by decide

end KM.AMap
