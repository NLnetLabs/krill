/-
Folds whose result is read through an observation: one that every step leaves alone is unchanged
(`foldl_keeps`); where each step either leaves it alone or determines it outright, what is observed
at the end is what the last determining step says (`foldl_lastSome`).
The status store (the last exchange recorded for an entry), the crash model (the last object set
written) and the maps of `Base/Assoc` (the last value put for a key) are of this shape.  Core only.
-/
namespace KM.Fold
universe u v w
variable {ε : Type u} {γ : Type v} {σ : Type w}

/-- An observation that every step leaves alone is after the fold what it was before. -/
theorem foldl_keeps (obs : σ → γ) {step : σ → ε → σ} {l : List ε} (h : ∀ e ∈ l, ∀ s, obs (step s e) = obs s)
    (s : σ) : obs (l.foldl step s) = obs s :=
  List.foldlRecOn (motive := fun s' => obs s' = obs s) l step rfl fun s' hs e he => (h e he s').trans hs

/-- What holds of the result of a fold held at the start, or was brought in by one step. -/
theorem foldl_origin (f : σ → ε → σ) (P : σ → Prop) (Q : σ → ε → Prop)
    (step : ∀ s q, P (f s q) → P s ∨ Q s q) :
    ∀ (l : List ε) (s0 : σ), P (l.foldl f s0) →
      P s0 ∨ ∃ pre q post, l = pre ++ q :: post ∧ Q (pre.foldl f s0) q := by
  intro l
  induction l with
  | nil => exact fun _ hp => Or.inl hp
  | cons q rest ih =>
    intro s0 hp
    rcases ih (f s0 q) hp with h1 | ⟨pre, q', post, hs, hq⟩
    · exact (step s0 q h1).imp_right fun hq => ⟨[], q, rest, rfl, hq⟩
    · exact Or.inr ⟨q :: pre, q', post, by rw [hs]; rfl, hq⟩

/-- What the last element of `l` that says anything says. -/
def lastSome (f : ε → Option γ) (l : List ε) : Option γ := l.reverse.findSome? f

theorem lastSome_nil (f : ε → Option γ) : lastSome f [] = none := rfl

theorem lastSome_append (f : ε → Option γ) (a b : List ε) :
    lastSome f (a ++ b) = (lastSome f b).or (lastSome f a) := by
  rw [lastSome, List.reverse_append, List.findSome?_append]; rfl

theorem lastSome_cons (f : ε → Option γ) (e : ε) (t : List ε) :
    lastSome f (e :: t) = (lastSome f t).or (f e) := by
  rw [← List.singleton_append, lastSome_append]
  simp [lastSome]

theorem lastSome_eq_none {f : ε → Option γ} {l : List ε} : lastSome f l = none ↔ ∀ x ∈ l, f x = none := by
  simp [lastSome]

theorem lastSome_take_of_none {f : ε → Option γ} {l : List ε} (h : lastSome f l = none) (n : Nat) :
    lastSome f (l.take n) = none :=
  lastSome_eq_none.mpr fun x hx => lastSome_eq_none.mp h x (List.mem_of_mem_take hx)

theorem exists_of_lastSome {f : ε → Option γ} {l : List ε} {y : γ} (h : lastSome f l = some y) :
    ∃ x ∈ l, f x = some y := by
  obtain ⟨x, hx, hy⟩ := List.exists_of_findSome?_eq_some h
  exact ⟨x, List.mem_reverse.mp hx, hy⟩

theorem foldl_lastSome (step : σ → ε → σ) (obs : σ → γ) (says : ε → Option γ)
    (h : ∀ s e, obs (step s e) = (says e).getD (obs s)) (l : List ε) (s : σ) :
    obs (l.foldl step s) = (lastSome says l).getD (obs s) := by
  induction l generalizing s with
  | nil => rfl
  | cons e t ih =>
    rw [List.foldl_cons, ih, lastSome_cons, h]
    cases lastSome says t <;> rfl

end KM.Fold
