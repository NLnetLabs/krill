/-
Lemmas about the symbolic CMS model.  Each entry point refuses before anything is done or has found the message
authentic (`rfc6492_cases`, `rfc8181_cases`).  For publication the rest is `process8181` and what an accepted delta
satisfies; for up-down it is what a request can touch (`Touches`) and is answered (`ReplyFor`, `dispatch_spec`), and in
front of that the automatic un-suspension of a suspended sender: the `fate` of each key in use, `unsuspend`, and
`processRequest` as their composition.  `subset` and `inter` of the model are those of `KM.Res` (same bodies), whose
lemmas apply as they stand.
-/
import KrillModel.Proto.Cms
import KrillModel.Base.Assoc
import KrillModel.Base.ResSet
namespace KM.Proto

theorem lookup_eq_lookup {β} (l : List (Handle × β)) (h : Handle) : lookup l h = List.lookup h l :=
  Assoc.eq_lookup_of_eqns lookup (fun _ => rfl) (fun _ _ _ _ => rfl) l h

theorem lookup_update_ne {β} (l : List (Handle × β)) (h h' : Handle) (f : β → β) (hne : h' ≠ h) :
    lookup (update l h f) h' = lookup l h' := by
  rw [lookup_eq_lookup, lookup_eq_lookup, update, Assoc.lookup_modify, if_neg hne]

theorem lookup_update_eq {β} (l : List (Handle × β)) (h : Handle) (f : β → β) (v : β)
    (hv : lookup l h = some v) : lookup (update l h f) h = some (f v) := by
  rw [lookup_eq_lookup] at hv ⊢
  rw [update, Assoc.lookup_modify, if_pos rfl, hv]; rfl

theorem lookup_updateChildId (ca : Ca) (child : Handle) (c : ChildRec) (k : Key)
    (hl : lookup ca.children child = some c) :
    lookup (ca.updateChildId child k).children child = some { c with idKey := k } :=
  lookup_update_eq ca.children child (fun c => { c with idKey := k }) c hl

/-- How `rfc6492` answers in the name of `ca` once `processRequest` has run for `sender`. -/
def answer (ca : Ca) (sender : Handle) : Ca × Option Payload → Ca × Out Msg
  | (ca2, none) => (ca2, .refused .processing)
  | (ca2, some p) =>
    (ca2, .replied { signer := ca.idKey, body := { sender := ca.handle, recipient := sender, payload := p } })

theorem answer_fst (ca : Ca) (sender : Handle) (r : Ca × Option Payload) : (answer ca sender r).1 = r.1 := by
  obtain ⟨ca2, o⟩ := r
  cases o <;> rfl

theorem answer_replied (ca : Ca) (sender : Handle) (r : Ca × Option Payload) (m : Signed Msg)
    (h : (answer ca sender r).2 = .replied m) :
    ∃ p, r.2 = some p ∧
      m = { signer := ca.idKey, body := { sender := ca.handle, recipient := sender, payload := p } } := by
  obtain ⟨ca2, o⟩ := r
  cases o with
  | none => cases h
  | some p => exact ⟨p, rfl, (Out.replied.inj h).symm⟩

theorem rfc6492_authentic {Bytes : Type} (decode : Bytes → Option (Signed Msg)) (ca : Ca) (bytes : Bytes)
    (sg : Signed Msg) (c : ChildRec) (hta : ca.handle ≠ "ta") (hd : decode bytes = some sg)
    (hl : lookup ca.children sg.body.sender = some c) (hs : sg.signer = c.idKey) (hf : sg.fresh = true) :
    rfc6492 decode ca bytes =
      answer ca sg.body.sender (processRequest ca sg.body.sender c sg.body.payload) := by
  simp only [rfc6492, hta, if_false, hd, hl, hs, hf, beq_self_eq_true, Bool.and_self, Bool.not_true,
    Bool.false_eq_true]
  generalize processRequest ca sg.body.sender c sg.body.payload = r
  obtain ⟨ca2, o⟩ := r
  cases o <;> rfl

theorem rfc6492_cases {Bytes : Type} (decode : Bytes → Option (Signed Msg)) (ca : Ca) (bytes : Bytes) :
    (∃ why, rfc6492 decode ca bytes = (ca, .refused why) ∧ why ≠ .processing) ∨
    ∃ sg c, ca.handle ≠ "ta" ∧ decode bytes = some sg ∧ lookup ca.children sg.body.sender = some c ∧
      sg.signer = c.idKey ∧ sg.fresh = true ∧
      rfc6492 decode ca bytes = answer ca sg.body.sender (processRequest ca sg.body.sender c sg.body.payload) := by
  by_cases hta : ca.handle = "ta"
  · exact Or.inl ⟨.taNotRemote, by simp [rfc6492, hta], by decide⟩
  cases hd : decode bytes with
  | none => exact Or.inl ⟨.undecodable, by simp [rfc6492, hta, hd], by decide⟩
  | some sg =>
    cases hl : lookup ca.children sg.body.sender with
    | none => exact Or.inl ⟨.unknownSender, by simp [rfc6492, hta, hd, hl], by decide⟩
    | some c =>
      by_cases hs : sg.signer = c.idKey ∧ sg.fresh = true
      · exact Or.inr ⟨sg, c, hta, rfl, hl, hs.1, hs.2, rfc6492_authentic decode ca bytes sg c hta hd hl hs.1 hs.2⟩
      · refine Or.inl ⟨.badSignature, ?_, by decide⟩
        have : (sg.signer == c.idKey && sg.fresh) = false := by simpa using hs
        simp [rfc6492, hta, hd, hl, this]

theorem rfc6492_foreign_key {Bytes : Type} (decode : Bytes → Option (Signed Msg)) (ca : Ca) (bytes : Bytes)
    (sg : Signed Msg) (c : ChildRec) (hd : decode bytes = some sg) (hl : lookup ca.children sg.body.sender = some c)
    (hne : sg.signer ≠ c.idKey) : ∃ why, rfc6492 decode ca bytes = (ca, .refused why) ∧ why ≠ .processing :=
  (rfc6492_cases decode ca bytes).resolve_right fun ⟨sg', c', _, hd', hl', hs', _⟩ => by
    cases hd.symm.trans hd'
    cases hl.symm.trans hl'
    exact hne hs'

/-- What `rfc8181` does with the message of the publisher `p` named in the URL. -/
def process8181 (srv : Server) (publisher : Handle) (p : Publisher) : PMsg → Server × Out PMsg
  | .listQuery => (srv, .replied { signer := srv.idKey, body := .listReply p.files })
  | .delta els =>
    match els.findSome? (elemError p) with
    | some code => (srv, .replied { signer := srv.idKey, body := .errorReply code })
    | none =>
      let p' := { p with files := els.foldl applyElem p.files }
      ({ srv with publishers := update srv.publishers publisher (fun _ => p') },
        .replied { signer := srv.idKey, body := .success })
  | _ => (srv, .refused .processing)

theorem rfc8181_authentic {Bytes : Type} (decode : Bytes → Option (Signed PMsg)) (srv : Server)
    (publisher : Handle) (bytes : Bytes) (sg : Signed PMsg) (p : Publisher)
    (hl : lookup srv.publishers publisher = some p) (hd : decode bytes = some sg)
    (hs : sg.signer = p.idKey) (hf : sg.fresh = true) :
    rfc8181 decode srv publisher bytes = process8181 srv publisher p sg.body := by
  simp only [rfc8181, hl, hd, hs, hf, beq_self_eq_true, Bool.and_self, Bool.not_true, Bool.false_eq_true,
    if_false]
  cases sg.body <;> rfl

/-- How `process8181` comes by each answer.  `noQuery` leaves out that the message is neither a list query nor a delta:
the relation is only read off an answer of `process8181` (`process8181_is`), never used to compute one. -/
inductive Did8181 (srv : Server) (publisher : Handle) (p : Publisher) : PMsg → Server × Out PMsg → Prop
  | list : Did8181 srv publisher p .listQuery (srv, .replied { signer := srv.idKey, body := .listReply p.files })
  | rejected {els code} (h : els.findSome? (elemError p) = some code) :
      Did8181 srv publisher p (.delta els) (srv, .replied { signer := srv.idKey, body := .errorReply code })
  | applied {els} (h : els.findSome? (elemError p) = none) :
      Did8181 srv publisher p (.delta els)
        ({ srv with publishers := update srv.publishers publisher
                                    (fun _ => { p with files := els.foldl applyElem p.files }) },
          .replied { signer := srv.idKey, body := .success })
  | noQuery {msg} : Did8181 srv publisher p msg (srv, .refused .processing)

theorem process8181_is {srv : Server} {publisher : Handle} {p : Publisher} {msg : PMsg} {r : Server × Out PMsg}
    (h : process8181 srv publisher p msg = r) : Did8181 srv publisher p msg r := by
  subst h
  cases msg with
  | listQuery => exact .list
  | delta els =>
    simp only [process8181]
    cases hf : els.findSome? (elemError p) with
    | some code => exact .rejected hf
    | none => exact .applied hf
  | _ => exact .noQuery

theorem process8181_reply {srv : Server} {publisher : Handle} {p : Publisher} {msg : PMsg} {m : Signed PMsg}
    (h : (process8181 srv publisher p msg).2 = .replied m) :
    m.signer = srv.idKey ∧ ∀ fs, m.body = .listReply fs → fs = p.files := by
  generalize hr : process8181 srv publisher p msg = r at h
  cases process8181_is hr with
  | list => cases h; exact ⟨rfl, fun fs hfs => (PMsg.listReply.inj hfs).symm⟩
  | noQuery => cases h
  | _ => cases h; exact ⟨rfl, nofun⟩

theorem rfc8181_cases {Bytes : Type} (decode : Bytes → Option (Signed PMsg)) (srv : Server)
    (publisher : Handle) (bytes : Bytes) :
    (∃ why, rfc8181 decode srv publisher bytes = (srv, .refused why) ∧ why ≠ .processing) ∨
    ∃ sg p, decode bytes = some sg ∧ lookup srv.publishers publisher = some p ∧
      sg.signer = p.idKey ∧ sg.fresh = true ∧
      rfc8181 decode srv publisher bytes = process8181 srv publisher p sg.body := by
  cases hl : lookup srv.publishers publisher with
  | none => exact Or.inl ⟨.unknownSender, by simp [rfc8181, hl], by decide⟩
  | some p =>
    cases hd : decode bytes with
    | none => exact Or.inl ⟨.undecodable, by simp [rfc8181, hl, hd], by decide⟩
    | some sg =>
      by_cases hs : sg.signer = p.idKey ∧ sg.fresh = true
      · exact Or.inr ⟨sg, p, rfl, rfl, hs.1, hs.2, rfc8181_authentic decode srv publisher bytes sg p hl hd hs.1 hs.2⟩
      · refine Or.inl ⟨.badSignature, ?_, by decide⟩
        have : (sg.signer == p.idKey && sg.fresh) = false := by simpa using hs
        simp [rfc8181, hl, hd, this]

theorem mem_applyElem (fs : List (Uri × Nat)) (e : PElem) (f : Uri × Nat) (hne : f.1 ≠ e.uri) :
    f ∈ applyElem fs e ↔ f ∈ fs := by
  cases e with
  | publish u h =>
    simp only [applyElem, List.mem_cons]
    exact ⟨fun h1 => h1.resolve_left fun e => hne (e ▸ rfl), Or.inr⟩
  | update u old new =>
    simp only [applyElem, List.mem_cons, List.mem_filter, bne_iff_ne, ne_eq]
    exact ⟨fun h1 => (h1.resolve_left fun e => hne (e ▸ rfl)).1, fun h1 => Or.inr ⟨h1, hne⟩⟩
  | withdraw u old =>
    simp only [applyElem, List.mem_filter, bne_iff_ne, ne_eq]
    exact ⟨fun h1 => h1.1, fun h1 => ⟨h1, hne⟩⟩

theorem mem_foldl_applyElem (els : List PElem) (fs : List (Uri × Nat)) (f : Uri × Nat)
    (hne : ∀ e ∈ els, f.1 ≠ e.uri) : f ∈ els.foldl applyElem fs ↔ f ∈ fs := by
  induction els generalizing fs with
  | nil => rfl
  | cons e t ih =>
    simp only [List.foldl]
    rw [ih (applyElem fs e) (fun e' he' => hne e' (List.mem_cons_of_mem _ he'))]
    exact mem_applyElem fs e f (hne e List.mem_cons_self)

theorem delta_accepted (p : Publisher) (els : List PElem) (h : els.findSome? (elemError p) = none) :
    ∀ e ∈ els, e.uri.under p.base = true ∧
      (∀ u hh, e = .publish u hh → hasUri p.files u = false) ∧
      (∀ u old new, e = .update u old new → hasFile p.files u old = true) ∧
      (∀ u old, e = .withdraw u old → hasFile p.files u old = true) := by
  -- every arm of `elemError` is `if !inJail then … else if bad then … else none`
  have arm : ∀ (a b : Bool) (x y : String),
      (if (!a) = true then some x else if b = true then some y else none) = none → a = true ∧ b = false := by
    intro a b x y; cases a <;> cases b <;> simp
  intro e he
  have hn : elemError p e = none := List.findSome?_eq_none_iff.mp h e he
  cases e with
  | publish u hh =>
    obtain ⟨h1, h2⟩ := arm _ _ _ _ hn
    exact ⟨h1, fun _ _ heq => by cases heq; exact h2, fun _ _ _ heq => PElem.noConfusion heq,
      fun _ _ heq => PElem.noConfusion heq⟩
  | update u old new =>
    obtain ⟨h1, h2⟩ := arm _ _ _ _ hn
    exact ⟨h1, fun _ _ heq => PElem.noConfusion heq, fun _ _ _ heq => by cases heq; simpa using h2,
      fun _ _ heq => PElem.noConfusion heq⟩
  | withdraw u old =>
    obtain ⟨h1, h2⟩ := arm _ _ _ _ hn
    exact ⟨h1, fun _ _ heq => PElem.noConfusion heq, fun _ _ _ heq => PElem.noConfusion heq,
      fun _ _ heq => by cases heq; simpa using h2⟩

theorem issueRes_some (classRes asked limit g : List Nat) (h : issueRes classRes asked limit = some g) :
    subset g asked = true ∧ subset g classRes = true := by
  simp only [issueRes] at h
  split at h
  · cases h
    exact ⟨Res.inter_subset_left _ _, Res.inter_subset_right _ _⟩
  · split at h
    · rename_i hs
      cases h
      exact ⟨Res.subset_trans hs (Res.inter_subset_left _ _), Res.subset_trans hs (Res.inter_subset_right _ _)⟩
    · cases h

theorem issueRes_none_iff (classRes asked limit : List Nat) :
    issueRes classRes asked limit = none ↔
      limit ≠ [] ∧ subset limit (inter asked classRes) = false := by
  simp only [issueRes]
  cases limit with
  | nil => simp
  | cons x t =>
    cases hs : subset (x :: t) (inter asked classRes) <;> simp

/-- RFC 6492 list: the reply names only classes the sender is entitled in, with resources inside
its entitlement, and only certificates issued to that sender for that class – with the resources
these certificates carry. -/
theorem list_only_own (ca : Ca) (child : Handle) (c : ChildRec) :
    ∀ e ∈ entitlements ca child c, subset e.2.1 c.resources = true ∧
      ∀ kc ∈ e.2.2, ∃ ce ∈ ca.certs, ce.1 = kc.1 ∧ ce.2.1 = e.1 ∧ ce.2.2.1 = child ∧
        ce.2.2.2.1 = kc.2 := by
  intro e he
  simp only [entitlements, List.mem_map, List.mem_filter] at he
  obtain ⟨cl, _, rfl⟩ := he
  refine ⟨Res.inter_subset_left _ _, ?_⟩
  intro kc hkc
  simp only [List.mem_filterMap, List.mem_filter, Option.map_eq_some_iff] at hkc
  obtain ⟨ku, _, ce, hfind, rfl⟩ := hkc
  have h1 := List.mem_of_find?_eq_some hfind
  have h2 := List.find?_some hfind
  simp only [Bool.and_eq_true, beq_iff_eq] at h2
  exact ⟨ce, h1, h2.1.1, h2.1.2, h2.2, rfl⟩

def Payload.key? : Payload → Option Key
  | .issue _ k _ _ => some k
  | .revoke _ k => some k
  | _ => none

theorem mem_removeKey (l : List Cert) (k : Key) (ce : Cert) :
    ce ∈ removeKey l k ↔ ce ∈ l ∧ ce.1 ≠ k := by
  simp [removeKey]

theorem mem_removeSusp (l : List SuspCert) (k : Key) (cls : String) (s : SuspCert) :
    s ∈ removeSusp l k cls ↔ s ∈ l ∧ ¬ (s.key = k ∧ s.cls = cls) := by
  simp only [removeSusp, List.mem_filter, Bool.not_eq_true', ← Bool.not_eq_true, Bool.and_eq_true, beq_iff_eq]

/-- What handling the request `pl` of `child` (record `c`) may do to the parent: nothing to its own identity, its
classes and the other children; a certificate that appears is issued to `child` inside its entitlement and inside
the class; one that disappears is for the key the request names (for a revocation: a key `child` has in use); no
suspended certificate appears, and one disappears only from the slot of the key named or – when `child` comes back
from suspension – of a key it has in use. -/
structure Touches (ca ca' : Ca) (child : Handle) (c : ChildRec) (pl : Payload) : Prop where
  handle : ca'.handle = ca.handle
  idKey : ca'.idKey = ca.idKey
  classes : ca'.classes = ca.classes
  others : ∀ h, h ≠ child → lookup ca'.children h = lookup ca.children h
  issued : ∀ ce ∈ ca'.certs, ce ∈ ca.certs ∨
    (ce.2.2.1 = child ∧ subset ce.2.2.2.1 c.resources = true ∧
      ∃ res, lookup ca.classes ce.2.1 = some res ∧ subset ce.2.2.2.1 res = true)
  removed : ∀ ce ∈ ca.certs, ce ∈ ca'.certs ∨
    (pl.key? = some ce.1 ∧ ∀ cls k, pl = .revoke cls k → c.inUse.any (·.1 == k) = true)
  noSusp : ∀ s ∈ ca'.suspendedCerts, s ∈ ca.suspendedCerts
  slot : ∀ s ∈ ca.suspendedCerts, s ∈ ca'.suspendedCerts ∨ pl.key? = some s.key ∨
    (c.suspended = true ∧ (c.inUse.any fun ku => ku.1 == s.key && ku.2 == s.cls) = true)

theorem Touches.refl (ca : Ca) (child : Handle) (c : ChildRec) (pl : Payload) : Touches ca ca child c pl :=
  ⟨rfl, rfl, rfl, fun _ _ => rfl, fun _ h => Or.inl h, fun _ h => Or.inl h, fun _ h => h, fun _ h => Or.inl h⟩

/-- What `dispatch` answers, by request kind. -/
def ReplyFor (ca ca' : Ca) (child : Handle) (c : ChildRec) : Payload → Payload → Prop
  | .list, rp => ca' = ca ∧ rp = .listResponse (entitlements ca child c)
  | .issue cls key limit _, rp =>
    ∃ grant res, rp = .issueResponse cls key grant ∧ (key, cls, child, grant, limit) ∈ ca'.certs ∧
      lookup ca.classes cls = some res ∧ subset grant c.resources = true ∧ subset grant res = true
  | .revoke cls key, rp =>
    rp = .revokeResponse cls key ∧
      ((lookup ca.classes cls = none ∧ ca' = ca) ∨
        c.inUse.any (fun ku => ku.1 == key && ku.2 == cls) = true ∨
        (c.revoked.contains key = true ∧ ca' = ca))
  | _, _ => False

theorem dispatch_spec (ca : Ca) (child : Handle) (c : ChildRec) (pl : Payload) :
    ((dispatch ca child c pl).1 = ca ∨
      ∃ key cls c' new,
        (dispatch ca child c pl).1 =
          { ca with children := update ca.children child (fun _ => c'),
                    certs := new ++ removeKey ca.certs key,
                    suspendedCerts := removeSusp ca.suspendedCerts key cls } ∧
        pl.key? = some key ∧ (∀ cls' k, pl = .revoke cls' k → c.inUse.any (·.1 == k) = true) ∧
        c'.idKey = c.idKey ∧ c'.suspended = c.suspended ∧ c'.resources = c.resources ∧
        ∀ ce ∈ new, ce.2.2.1 = child ∧ subset ce.2.2.2.1 c.resources = true ∧
          ∃ res, lookup ca.classes ce.2.1 = some res ∧ subset ce.2.2.2.1 res = true) ∧
    ∀ rp, (dispatch ca child c pl).2 = some rp → ReplyFor ca (dispatch ca child c pl).1 child c pl rp := by
  fun_cases dispatch ca child c pl
  -- list
  · refine ⟨Or.inl rfl, fun rp h => ?_⟩
    dsimp only at h
    split at h
    · exact ⟨rfl, (Option.some.inj h).symm⟩
    · cases h
  -- issue: unknown class
  · exact ⟨Or.inl rfl, fun rp h => nomatch h⟩
  -- issue: no grant (bad CSR, or the limit does not fit)
  · exact ⟨Or.inl rfl, fun rp h => nomatch h⟩
  -- issue: granted
  · next cls key limit csrOk res hc grant hg _ _ =>
    have hir : issueRes res c.resources limit = some grant := by
      cases csrOk
      · cases hg
      · exact hg
    obtain ⟨g1, g2⟩ := issueRes_some _ _ _ _ hir
    refine ⟨Or.inr ⟨key, cls, _, [(key, cls, child, grant, limit)], rfl, rfl,
      fun _ _ h => Payload.noConfusion h, rfl, rfl, rfl, fun ce hce => ?_⟩, fun rp h => ?_⟩
    · cases List.mem_singleton.mp hce
      exact ⟨rfl, g1, res, hc, g2⟩
    · dsimp only at h
      split at h
      · split at h
        · exact ⟨grant, res, (Option.some.inj h).symm, List.mem_cons_self, hc, g1, g2⟩
        · cases h
      · cases h
  -- revoke: unknown class
  · next cls key hc =>
    exact ⟨Or.inl rfl, fun rp h => ⟨(Option.some.inj h).symm, Or.inl ⟨hc, rfl⟩⟩⟩
  -- revoke: the key is in use in this class
  · next cls key _ _ hu _ =>
    refine ⟨Or.inr ⟨key, cls, _, [], rfl, rfl, fun _ _ h => ?_, rfl, rfl, rfl, fun _ h => nomatch h⟩,
      fun rp h => ⟨(Option.some.inj h).symm, Or.inr (Or.inl hu)⟩⟩
    cases h
    obtain ⟨ku, hku, hk⟩ := List.any_eq_true.mp hu
    exact List.any_eq_true.mpr ⟨ku, hku, (Bool.and_eq_true_iff.mp hk).1⟩
  -- revoke: the key is in use in another class
  · exact ⟨Or.inl rfl, fun rp h => nomatch h⟩
  -- revoke: a key this CA revoked itself
  · next cls key _ _ _ _ hrev =>
    exact ⟨Or.inl rfl, fun rp h => ⟨(Option.some.inj h).symm, Or.inr (Or.inr ⟨hrev, rfl⟩)⟩⟩
  -- revoke: a key the sender never had
  · exact ⟨Or.inl rfl, fun rp h => nomatch h⟩
  -- any other payload
  · exact ⟨Or.inl rfl, fun rp h => nomatch h⟩

theorem dispatch_touches (ca : Ca) (child : Handle) (c : ChildRec) (pl : Payload) :
    Touches ca (dispatch ca child c pl).1 child c pl := by
  rcases (dispatch_spec ca child c pl).1 with h | ⟨key, cls, c', new, h, hk, hrev, _, _, _, hnew⟩
  · rw [h]; exact .refl ca child c pl
  · rw [h]
    refine ⟨rfl, rfl, rfl, fun h' hne => lookup_update_ne ca.children child h' (fun _ => c') hne, fun ce hce => ?_,
      fun ce hce => ?_,
      fun s hs => ((mem_removeSusp _ _ _ _).mp hs).1, fun s hs => ?_⟩
    · rcases List.mem_append.mp hce with hce | hce
      · exact Or.inr (hnew ce hce)
      · exact Or.inl ((mem_removeKey _ _ _).mp hce).1
    · by_cases hck : ce.1 = key
      · exact Or.inr ⟨hck ▸ hk, hrev⟩
      · exact Or.inl (List.mem_append_right _ ((mem_removeKey _ _ _).mpr ⟨hce, hck⟩))
    · by_cases hsk : s.key = key ∧ s.cls = cls
      · exact Or.inr (Or.inl (hsk.1 ▸ hk))
      · exact Or.inl ((mem_removeSusp _ _ _ _).mpr ⟨hs, hsk⟩)

theorem dispatch_child_rec (ca : Ca) (child : Handle) (c : ChildRec) (pl : Payload)
    (hl : lookup ca.children child = some c) :
    ∃ c', lookup (dispatch ca child c pl).1.children child = some c' ∧
      c'.suspended = c.suspended ∧ c'.idKey = c.idKey ∧ c'.resources = c.resources := by
  rcases (dispatch_spec ca child c pl).1 with h | ⟨key, cls, c', new, h, _, _, h1, h2, h3, _⟩
  · rw [h]; exact ⟨c, hl, rfl, rfl, rfl⟩
  · rw [h]; exact ⟨c', lookup_update_eq ca.children child (fun _ => c') c hl, h2, h1, h3⟩

theorem suspFor_some (ca : Ca) (cls : String) (k : Key) (s : SuspCert) (h : suspFor ca cls k = some s) :
    s ∈ ca.suspendedCerts ∧ s.key = k ∧ s.cls = cls := by
  simp only [suspFor] at h
  have h2 := List.find?_some h
  simp only [Bool.and_eq_true, beq_iff_eq] at h2
  exact ⟨List.mem_of_find?_eq_some h, h2.1, h2.2⟩

theorem fate_of_slot (ca : Ca) (c : ChildRec) (ku : Key × String) (cres : List Nat) (s : SuspCert)
    (hc : lookup ca.classes ku.2 = some cres) (hs : suspFor ca ku.2 ku.1 = some s) :
    fate ca c ku =
      if s.expiring = false ∧ subset s.res c.resources = true then
        (match issueRes cres s.res s.limit with
         | some g => .reissue g s.limit
         | none => .fail)
      else .drop := by
  simp only [fate, hc, hs]
  by_cases h : s.expiring = false ∧ subset s.res c.resources = true
  · rw [if_pos h, if_pos (by simp [h.1, h.2])]
    rfl
  · rw [if_neg h, if_neg (by simpa using h)]

/-- How `fate` comes by each of its values. -/
inductive FateIs (ca : Ca) (c : ChildRec) (ku : Key × String) : Fate → Prop
  | noClass (hc : lookup ca.classes ku.2 = none) : FateIs ca c ku .keep
  | noSlot (hs : suspFor ca ku.2 ku.1 = none) : FateIs ca c ku .keep
  | reissue {cres s g} (hc : lookup ca.classes ku.2 = some cres) (hs : suspFor ca ku.2 ku.1 = some s)
      (he : s.expiring = false) (hr : subset s.res c.resources = true)
      (hi : issueRes cres s.res s.limit = some g) : FateIs ca c ku (.reissue g s.limit)
  | fail {cres s} (hc : lookup ca.classes ku.2 = some cres) (hs : suspFor ca ku.2 ku.1 = some s)
      (he : s.expiring = false) (hr : subset s.res c.resources = true)
      (hi : issueRes cres s.res s.limit = none) : FateIs ca c ku .fail
  | drop {cres s} (hc : lookup ca.classes ku.2 = some cres) (hs : suspFor ca ku.2 ku.1 = some s)
      (hn : ¬ (s.expiring = false ∧ subset s.res c.resources = true)) : FateIs ca c ku .drop

theorem fate_is {ca : Ca} {c : ChildRec} {ku : Key × String} {f : Fate} (h : fate ca c ku = f) :
    FateIs ca c ku f := by
  have cond : ∀ s : SuspCert, (!s.expiring && subset s.res c.resources) = true ↔
      s.expiring = false ∧ subset s.res c.resources = true := fun s => by
    rw [Bool.and_eq_true, Bool.not_eq_true']
  subst h
  fun_cases fate ca c ku
  · next hc => exact .noClass hc
  · next hs => exact .noSlot hs
  · next hc s hs hcond g hi => exact .reissue hc hs ((cond s).mp hcond).1 ((cond s).mp hcond).2 hi
  · next hc s hs hcond hi => exact .fail hc hs ((cond s).mp hcond).1 ((cond s).mp hcond).2 hi
  · next hc s hs hcond => exact .drop hc hs fun h => hcond ((cond s).mpr h)

theorem fate_drop (ca : Ca) (c : ChildRec) (ku : Key × String) (h : fate ca c ku = .drop) :
    ∃ cres s, lookup ca.classes ku.2 = some cres ∧ suspFor ca ku.2 ku.1 = some s ∧
      ¬ (s.expiring = false ∧ subset s.res c.resources = true) := by
  cases fate_is h with
  | drop hc hs hn => exact ⟨_, _, hc, hs, hn⟩

theorem fate_fail_iff (ca : Ca) (c : ChildRec) (ku : Key × String) :
    fate ca c ku = .fail ↔
      ∃ cres s, lookup ca.classes ku.2 = some cres ∧ suspFor ca ku.2 ku.1 = some s ∧
        s.expiring = false ∧ subset s.res c.resources = true ∧ issueRes cres s.res s.limit = none := by
  constructor
  · intro h
    cases fate_is h with
    | fail hc hs he hr hi => exact ⟨_, _, hc, hs, he, hr, hi⟩
  · rintro ⟨cres, s, hc, hs, h1, h2, h3⟩
    rw [fate_of_slot ca c ku cres s hc hs, if_pos ⟨h1, h2⟩, h3]

/-- The record of the child after `ChildUnsuspend`. -/
def unsuspendedRec (ca : Ca) (c : ChildRec) : ChildRec :=
  { c with suspended := false,
           inUse := c.inUse.filter (fun ku => !(fate ca c ku).isDrop),
           revoked := (c.inUse.filter (fun ku => (fate ca c ku).isDrop)).map (·.1) ++ c.revoked }

theorem unsuspend_eq_some (ca : Ca) (child : Handle) (c : ChildRec) (ca1 : Ca) (c1 : ChildRec)
    (h : unsuspend ca child c = some (ca1, c1)) :
    (∀ ku ∈ c.inUse, (fate ca c ku).isFail = false) ∧
    c1 = unsuspendedRec ca c ∧
    ca1 = { ca with
        children := update ca.children child (fun _ => c1),
        certs := c.inUse.filterMap (fun ku => (fate ca c ku).cert? child ku) ++ ca.certs,
        suspendedCerts := ca.suspendedCerts.filter fun s =>
          !(c.inUse.any fun ku => ku.1 == s.key && ku.2 == s.cls && (lookup ca.classes ku.2).isSome) } := by
  simp only [unsuspend] at h
  cases hf : c.inUse.any (fun ku => (fate ca c ku).isFail) with
  | true => simp [hf] at h
  | false =>
    simp only [hf, Bool.false_eq_true, if_false, Option.some.injEq, Prod.mk.injEq] at h
    obtain ⟨h1, h2⟩ := h
    exact ⟨List.any_eq_false.mp hf |> fun hno ku hku => Bool.eq_false_iff.mpr (hno ku hku), h2.symm,
      by rw [← h1, ← h2]⟩

/-- The certificates after `ChildUnsuspend`: those there were, and one for each key in use whose fate is a re-issue. -/
theorem mem_certs_unsuspend {ca : Ca} {child : Handle} {c : ChildRec} {ca1 : Ca} {c1 : ChildRec}
    (h : unsuspend ca child c = some (ca1, c1)) (ce : Cert) :
    ce ∈ ca1.certs ↔ ce ∈ ca.certs ∨
      ∃ ku ∈ c.inUse, ∃ g l, fate ca c ku = .reissue g l ∧ ce = (ku.1, ku.2, child, g, l) := by
  obtain ⟨_, _, rfl⟩ := unsuspend_eq_some ca child c ca1 c1 h
  simp only [List.mem_append, List.mem_filterMap]
  rw [or_comm]
  refine or_congr Iff.rfl (exists_congr fun ku => and_congr_right fun _ => ?_)
  cases fate ca c ku with
  | reissue g l =>
    simp only [Fate.cert?, Option.some.injEq, Fate.reissue.injEq]
    exact ⟨fun e => ⟨g, l, ⟨rfl, rfl⟩, e.symm⟩, fun ⟨_, _, ⟨rfl, rfl⟩, e⟩ => e.symm⟩
  | _ => simp [Fate.cert?]

theorem unsuspend_eq_none (ca : Ca) (child : Handle) (c : ChildRec) :
    unsuspend ca child c = none ↔ ∃ ku ∈ c.inUse, fate ca c ku = .fail := by
  have hfail : ∀ f : Fate, f.isFail = true ↔ f = .fail := fun f => by cases f <;> simp [Fate.isFail]
  simp only [unsuspend, ite_eq_left_iff, reduceCtorEq, imp_false, List.any_eq_true, hfail, Classical.not_not]

/-- What `ChildUnsuspend` can touch (`pl` is the request that is dispatched afterwards). -/
theorem unsuspend_touches (ca : Ca) (child : Handle) (c : ChildRec) (ca1 : Ca) (c1 : ChildRec)
    (h : unsuspend ca child c = some (ca1, c1)) (hsus : c.suspended = true) (pl : Payload) :
    Touches ca ca1 child c pl := by
  have hcerts := mem_certs_unsuspend h
  obtain ⟨_, _, hca1⟩ := unsuspend_eq_some ca child c ca1 c1 h
  subst hca1
  refine ⟨rfl, rfl, rfl, fun h hne => lookup_update_ne ca.children child h (fun _ => c1) hne,
    fun ce hce => ?_, fun ce hce => Or.inl ((hcerts ce).mpr (Or.inl hce)),
    fun s hs => (List.mem_filter.mp hs).1, fun s hs => ?_⟩
  · refine ((hcerts ce).mp hce).imp_right ?_
    rintro ⟨ku, _, g, l, hfa, rfl⟩
    cases fate_is hfa with
    | reissue hcl _ _ hsub hiss =>
      obtain ⟨g1, g2⟩ := issueRes_some _ _ _ _ hiss
      exact ⟨rfl, Res.subset_trans g1 hsub, _, hcl, g2⟩
  · cases hx : (c.inUse.any fun ku => ku.1 == s.key && ku.2 == s.cls) with
    | true => exact Or.inr (Or.inr ⟨hsus, rfl⟩)
    | false =>
      refine Or.inl (List.mem_filter.mpr ⟨hs, ?_⟩)
      simp only [Bool.not_eq_true', List.any_eq_false]
      intro ku hku a
      exact List.any_eq_false.mp hx ku hku (Bool.and_eq_true_iff.mp a).1

theorem unsuspend_rec (ca : Ca) (child : Handle) (c : ChildRec) (ca1 : Ca) (c1 : ChildRec)
    (h : unsuspend ca child c = some (ca1, c1)) :
    (∀ v, lookup ca.children child = some v → lookup ca1.children child = some c1) ∧
    c1.idKey = c.idKey ∧ c1.resources = c.resources ∧ c1.suspended = false ∧
    (∀ ku ∈ c1.inUse, ku ∈ c.inUse) ∧
    ∀ k ∈ c1.revoked, k ∈ c.revoked ∨ ∃ ku ∈ c.inUse, ku.1 = k := by
  obtain ⟨_, hc1, hca1⟩ := unsuspend_eq_some ca child c ca1 c1 h
  subst hca1
  refine ⟨fun v hv => lookup_update_eq ca.children child (fun _ => c1) v hv, ?_⟩
  subst hc1
  refine ⟨rfl, rfl, rfl, fun ku hku => (List.mem_filter.mp hku).1, fun k hk => ?_⟩
  simp only [unsuspendedRec, List.mem_append, List.mem_map, List.mem_filter] at hk
  rcases hk with ⟨ku, ⟨hku, _⟩, rfl⟩ | hk
  · exact Or.inr ⟨ku, hku, rfl⟩
  · exact Or.inl hk

theorem processRequest_cases (ca : Ca) (child : Handle) (c : ChildRec) (pl : Payload) :
    (c.suspended = false ∧ processRequest ca child c pl = dispatch ca child c pl) ∨
    (c.suspended = true ∧ unsuspend ca child c = none ∧ processRequest ca child c pl = (ca, none)) ∨
    (c.suspended = true ∧ ∃ ca1 c1, unsuspend ca child c = some (ca1, c1) ∧
      processRequest ca child c pl = dispatch ca1 child c1 pl) := by
  fun_cases processRequest ca child c pl
  · next hs hu => exact Or.inr (Or.inl ⟨hs, hu, rfl⟩)
  · next hs ca1 c1 hu => exact Or.inr (Or.inr ⟨hs, ca1, c1, hu, rfl⟩)
  · next hs => exact Or.inl ⟨Bool.eq_false_iff.mpr hs, rfl⟩

theorem processRequest_touches (ca : Ca) (child : Handle) (c : ChildRec) (pl : Payload) :
    Touches ca (processRequest ca child c pl).1 child c pl := by
  rcases processRequest_cases ca child c pl with ⟨_, he⟩ | ⟨_, _, he⟩ | ⟨hsus, ca1, c1, hu, he⟩
  · rw [he]; exact dispatch_touches ca child c pl
  · rw [he]; exact .refl ca child c pl
  · rw [he]
    have u := unsuspend_touches ca child c ca1 c1 hu hsus pl
    obtain ⟨_, _, ures, uact, uin, _⟩ := unsuspend_rec ca child c ca1 c1 hu
    have d := dispatch_touches ca1 child c1 pl
    refine ⟨d.handle.trans u.handle, d.idKey.trans u.idKey, d.classes.trans u.classes,
      fun h hne => (d.others h hne).trans (u.others h hne), fun ce hce => ?_, fun ce hce => ?_,
      fun s hs => u.noSusp s (d.noSusp s hs), fun s hs => ?_⟩
    · rcases d.issued ce hce with h | ⟨h1, h2, res, h3, h4⟩
      · exact u.issued ce h
      · exact Or.inr ⟨h1, ures ▸ h2, res, u.classes ▸ h3, h4⟩
    · rcases u.removed ce hce with h | h
      · rcases d.removed ce h with h' | ⟨h1, h2⟩
        · exact Or.inl h'
        · refine Or.inr ⟨h1, fun cls k hp => ?_⟩
          obtain ⟨ku, hku, hk⟩ := List.any_eq_true.mp (h2 cls k hp)
          exact List.any_eq_true.mpr ⟨ku, uin ku hku, hk⟩
      · exact Or.inr h
    · rcases u.slot s hs with h | h
      · rcases d.slot s h with h' | h' | ⟨h', _⟩
        · exact Or.inl h'
        · exact Or.inr (Or.inl h')
        · rw [uact] at h'; cases h'
      · exact Or.inr h

/-- An answered request was dispatched on the state `X` after the un-suspension (the state itself
for a sender that was not suspended). -/
theorem processRequest_replied (ca : Ca) (child : Handle) (c : ChildRec) (pl : Payload) (ca2 : Ca)
    (p : Payload) (h : processRequest ca child c pl = (ca2, some p)) :
    ∃ X cX, dispatch X child cX pl = (ca2, some p) ∧ X.classes = ca.classes ∧
      cX.resources = c.resources ∧ (∀ ku ∈ cX.inUse, ku ∈ c.inUse) ∧
      (c.suspended = false → X = ca ∧ cX = c) ∧
      (∀ k ∈ cX.revoked, k ∈ c.revoked ∨ ∃ ku ∈ c.inUse, ku.1 = k) := by
  rcases processRequest_cases ca child c pl with ⟨_, he⟩ | ⟨_, _, he⟩ | ⟨hs, ca1, c1, hu, he⟩
  · rw [he] at h
    exact ⟨ca, c, h, rfl, rfl, fun _ x => x, fun _ => ⟨rfl, rfl⟩, fun _ hk => Or.inl hk⟩
  · rw [he] at h; cases h
  · rw [he] at h
    obtain ⟨_, _, ures, _, uin, urev⟩ := unsuspend_rec ca child c ca1 c1 hu
    exact ⟨ca1, c1, h, (unsuspend_touches ca child c ca1 c1 hu hs pl).classes, ures, uin,
      fun x => absurd (hs.symm.trans x) (by decide), urev⟩

end KM.Proto
