/-
Lemmas for the trust anchor model.  Proxy and signer are read through their accepting branches: an accepted command
met its guard and is recorded as its one event (`process_ok_iff`, `exec_cases`), an accepted signer request leaves a
`SignerAnswer`.  A step of the whole system is read through the relation `Effect` (`step_effect`); the invariants of
`Ta/Invariant.lean` and `Ta/Numbers.lean` go through its cases.  The property statements are in `Props/C15.lean`.
-/
import KrillModel.Ta.System
import KrillModel.Base.Assoc
namespace KM.Ta

/-! ## The association lists of the model read as maps -/

section alist
variable {κ β : Type} [DecidableEq κ]

theorem aget_eq_lookup (l : List (κ × β)) (k : κ) : aget l k = l.lookup k :=
  Assoc.eq_lookup_of_eqns aget (fun _ => rfl) (fun _ _ _ _ => rfl) l k

theorem aget_adel (l : List (κ × β)) (k k' : κ) :
    aget (adel l k) k' = if k' = k then none else aget l k' := by
  rw [aget_eq_lookup, aget_eq_lookup]; exact Assoc.lookup_erase l k k'

theorem aget_aput (l : List (κ × β)) (k k' : κ) (v : β) :
    aget (aput l k v) k' = if k = k' then some v else aget l k' := by
  rw [aget_eq_lookup, aget_eq_lookup, Assoc.ite_eq_comm]; exact Assoc.lookup_insert l k k' v

theorem aget_aput_cases {l : List (κ × β)} {k k' : κ} {v w : β} (h : aget (aput l k v) k' = some w) :
    (k = k' ∧ w = v) ∨ (k ≠ k' ∧ aget l k' = some w) := by
  rw [aget_aput] at h
  by_cases hk : k = k'
  · rw [if_pos hk, Option.some.injEq] at h
    exact .inl ⟨hk, h.symm⟩
  · rw [if_neg hk] at h
    exact .inr ⟨hk, h⟩

theorem ahas_adel (l : List (κ × β)) (k k' : κ) :
    ahas (adel l k) k' = (ahas l k' && !decide (k' = k)) := by
  unfold ahas
  rw [aget_adel]
  by_cases h : k' = k <;> simp [h]

theorem ahas_aput (l : List (κ × β)) (k k' : κ) (v : β) :
    ahas (aput l k v) k' = (decide (k = k') || ahas l k') := by
  unfold ahas
  rw [aget_aput]
  by_cases h : k = k' <;> simp [h]

theorem ahas_of_aget {l : List (κ × β)} {k : κ} {v : β} (h : aget l k = some v) : ahas l k = true := by
  rw [ahas, h]; rfl

theorem aget_of_ahas {l : List (κ × β)} {k : κ} (h : ahas l k = true) : ∃ v, aget l k = some v :=
  Option.isSome_iff_exists.mp h

theorem ahas_iff_mem (l : List (κ × β)) (k : κ) :
    ahas l k = true ↔ k ∈ l.map (·.1) := by
  rw [ahas, aget_eq_lookup]; exact Assoc.isSome_lookup

theorem nodup_adel (l : List (κ × β)) (k : κ) (h : (l.map (·.1)).Nodup) :
    ((adel l k).map (·.1)).Nodup :=
  Assoc.nodup_erase h k

theorem nodup_aput (l : List (κ × β)) (k : κ) (v : β) (h : (l.map (·.1)).Nodup) :
    ((aput l k v).map (·.1)).Nodup :=
  Assoc.nodup_insert h k v

theorem aget_foldl_adel {ι : Type} (f : ι → κ) (ws : List ι) (l : List (κ × β)) (k : κ) :
    aget (ws.foldl (fun l w => adel l (f w)) l) k = if k ∈ ws.map f then none else aget l k :=
  Assoc.get_foldl_erase aget adel (fun l k' k => aget_adel l k' k) f ws l k

theorem aget_foldl_aput (es l : List (κ × β)) (k : κ) :
    aget (es.foldl (fun l e => aput l e.1 e.2) l) k = (Assoc.lastOf es k).or (aget l k) :=
  Assoc.get_foldl_insert aget aput (fun l k' v k => by rw [aget_aput, Assoc.ite_eq_comm]) es l k

theorem ahas_foldl_adel {ι : Type} (f : ι → κ) (ws : List ι) (l : List (κ × β)) (k : κ) :
    ahas (ws.foldl (fun l w => adel l (f w)) l) k = true ↔ ahas l k = true ∧ k ∉ ws.map f := by
  rw [ahas, aget_foldl_adel]
  split
  · exact ⟨nofun, fun h => absurd ‹_› h.2⟩
  · exact (and_iff_left ‹_›).symm

theorem ahas_foldl_aput (es l : List (κ × β)) (k : κ) :
    ahas (es.foldl (fun l e => aput l e.1 e.2) l) k = true ↔ ahas l k = true ∨ k ∈ es.map (·.1) := by
  rw [ahas, aget_foldl_aput, Option.isSome_or, Bool.or_eq_true, Assoc.lastOf_isSome_iff, or_comm]; rfl

theorem nodup_foldl_adel {ι : Type} (f : ι → κ) (ws : List ι) (l : List (κ × β)) (h : (l.map (·.1)).Nodup) :
    ((ws.foldl (fun l w => adel l (f w)) l).map (·.1)).Nodup := by
  induction ws generalizing l with
  | nil => exact h
  | cons w t ih => exact ih _ (nodup_adel l (f w) h)

end alist

/-! ## The proxy: an accepted command met its guard and is recorded as its one event -/

theorem exec_error (p : Proxy) (c : Cmd) (e : Err) (h : process p c = .error e) :
    exec p c = (p, .error e) := by
  unfold exec; rw [h]

theorem exec_ok (p : Proxy) (c : Cmd) (evs : List Ev) (h : process p c = .ok evs) :
    exec p c = (applyAll p evs, .ok evs) := by
  unfold exec; rw [h]

theorem validFor_iff {α} [DecidableEq α] (m : Signed α) (k : Key) :
    m.validFor k = true ↔ m.signer = k ∧ m.fresh = true ∧ m.body = m.clear := by
  simp [Signed.validFor, and_assoc]

/-- A command with one test in front of its one event. -/
theorem guarded_ok_iff {ε α} {c : Prop} [Decidable c] {e : ε} {v w : α} :
    (if c then Except.error e else .ok v) = .ok w ↔ ¬c ∧ w = v := by
  by_cases hc : c
  · rw [if_pos hc]; exact ⟨nofun, fun h => absurd hc h.1⟩
  · rw [if_neg hc, Except.ok.injEq, eq_comm]; exact (and_iff_right hc).symm

/-- The event an accepted command is recorded as. -/
def Cmd.event : Cmd → Ev
  | .addRepository => .repositoryAdded
  | .addSigner i => .signerAdded i
  | .updateSigner i => .signerUpdated i
  | .makeSignerRequest n => .signerRequestMade n
  | .processSignerResponse m => .signerResponseReceived m.clear
  | .addChild c res => .childAdded c res
  | .addChildRequest c r => .childRequestAdded c r
  | .giveChildResponse c k => .childResponseGiven c k

/-- What `process_command` asks of the proxy before it accepts, arm by arm. -/
def Cmd.guard (p : Proxy) : Cmd → Prop
  | .addRepository => p.repo = false
  | .addSigner _ => p.signer = none
  | .updateSigner i => p.openNonce = none ∧ ∃ s, p.signer = some s ∧ s.taKey = i.taKey
  | .makeSignerRequest _ => p.openNonce = none
  | .processSignerResponse m =>
    ∃ i, p.openNonce = some m.clear.nonce ∧ p.signer = some i ∧ m.validFor i.idKey = true
  | .addChild c _ => p.known c = false
  | .addChildRequest c r => ∃ evs, processAddChildRequest p c r = .ok evs
  | .giveChildResponse c k => p.known c = true ∧ ahas p.openResp (c, k) = true

theorem processAddChildRequest_ok {p : Proxy} {c : Child} {r : Req} {evs : List Ev}
    (h : processAddChildRequest p c r = .ok evs) : p.known c = true ∧ evs = [.childRequestAdded c r] := by
  revert h
  fun_cases processAddChildRequest p c r
  case case5 hc _ _ _ _ | case8 hc _ _ _ =>
    exact fun h => ⟨ahas_of_aget hc, (Except.ok.inj h).symm⟩
  all_goals nofun

theorem processSignerResponse_ok_iff {p : Proxy} {m : Signed RespBody} {evs : List Ev} :
    process p (.processSignerResponse m) = .ok evs ↔
      ∃ i, p.openNonce = some m.clear.nonce ∧ p.signer = some i ∧
        m.validFor i.idKey = true ∧ evs = [.signerResponseReceived m.clear] := by
  rw [process]
  constructor
  · fun_cases processSignerResponse p m
    -- the one accepting branch
    case case4 n hn hne i hi hv =>
      exact fun h => ⟨i, by rw [hn, Decidable.not_not.mp hne], hi, hv, (Except.ok.inj h).symm⟩
    all_goals nofun
  · rintro ⟨i, hn, hi, hv, rfl⟩
    rw [processSignerResponse, hn, hi]
    simp only
    rw [if_neg (fun h => h rfl), if_pos hv]

theorem process_ok_iff {p : Proxy} {c : Cmd} {evs : List Ev} :
    process p c = .ok evs ↔ c.guard p ∧ evs = [c.event] := by
  cases c with
  | addRepository => rw [process, Cmd.guard, Cmd.event, guarded_ok_iff, Bool.not_eq_true]
  | addSigner i =>
    rw [process, Cmd.guard, Cmd.event, guarded_ok_iff, Bool.not_eq_true, Option.isSome_eq_false_iff,
      Option.isNone_iff_eq_none]
  | updateSigner i =>
    rw [process, Cmd.guard, Cmd.event]
    cases p.openNonce with
    | some n => simp
    | none =>
      cases p.signer with
      | none => simp
      | some s =>
        by_cases h : s.taKey = i.taKey
        · simp [h, eq_comm]
        · simp [h]
  | makeSignerRequest n =>
    rw [process, Cmd.guard, Cmd.event, guarded_ok_iff, Bool.not_eq_true, Option.isSome_eq_false_iff,
      Option.isNone_iff_eq_none]
  | processSignerResponse m =>
    exact processSignerResponse_ok_iff.trans
      ⟨fun ⟨i, a, b, c, e⟩ => ⟨⟨i, a, b, c⟩, e⟩, fun ⟨⟨i, a, b, c⟩, e⟩ => ⟨i, a, b, c, e⟩⟩
  | addChild c res => rw [process, Cmd.guard, Cmd.event, guarded_ok_iff, Bool.not_eq_true]
  | addChildRequest c r =>
    rw [process, Cmd.guard, Cmd.event]
    exact ⟨fun h => ⟨⟨_, h⟩, (processAddChildRequest_ok h).2⟩,
      fun ⟨⟨_, h⟩, he⟩ => by rw [he, ← (processAddChildRequest_ok h).2]; exact h⟩
  | giveChildResponse c k =>
    rw [process, Cmd.guard, Cmd.event]
    cases p.known c <;> cases ahas p.openResp (c, k) <;> simp [eq_comm]

theorem exec_cases (p : Proxy) (c : Cmd) :
    (∃ e, exec p c = (p, .error e)) ∨ (c.guard p ∧ exec p c = (apply p c.event, .ok [c.event])) := by
  cases hp : process p c with
  | error e => exact .inl ⟨e, exec_error _ _ _ hp⟩
  | ok evs =>
    obtain ⟨hg, rfl⟩ := process_ok_iff.mp hp
    exact .inr ⟨hg, exec_ok _ _ _ hp⟩

theorem exec_ok_inv {p p' : Proxy} {c : Cmd} {evs : List Ev} (h : exec p c = (p', .ok evs)) :
    c.guard p ∧ p' = apply p c.event := by
  rcases exec_cases p c with ⟨e, h'⟩ | ⟨hg, h'⟩ <;> rw [h'] at h <;> cases h
  exact ⟨hg, rfl⟩

theorem exec_error_inv {p p' : Proxy} {c : Cmd} {e : Err} (h : exec p c = (p', .error e)) : p' = p := by
  rcases exec_cases p c with ⟨e', h'⟩ | ⟨_, h'⟩ <;> rw [h'] at h <;> cases h
  rfl

/-! ## An accepted signer response, entry by entry -/

/-- Entry by entry an accepted response removes the answered requests of known children and stores their answers
(the entries `step` records in `answered`); of the rest of the proxy only `used` changes. -/
theorem fold_applyEntry (es : List (CK × Resp)) (p : Proxy) :
    (es.foldl applyEntry p).idKey = p.idKey ∧ (es.foldl applyEntry p).signer = p.signer ∧
    (es.foldl applyEntry p).openNonce = p.openNonce ∧ (es.foldl applyEntry p).children = p.children ∧
    (es.foldl applyEntry p).openReq = (es.filter (entryKnown p)).foldl (fun l e => adel l e.1) p.openReq ∧
    (es.foldl applyEntry p).openResp =
      (es.filter (entryKnown p)).foldl (fun l e => aput l e.1 e.2) p.openResp := by
  induction es generalizing p with
  | nil => exact ⟨rfl, rfl, rfl, rfl, rfl, rfl⟩
  | cons e t ih =>
    obtain ⟨a, b, c, d, r, s⟩ := ih (applyEntry p e)
    -- who is known does not change on the way
    have hk : entryKnown (applyEntry p e) = entryKnown p := by
      funext x; unfold applyEntry; split <;> rfl
    rw [List.foldl_cons, a, b, c, d, r, s, hk, List.filter_cons]
    unfold applyEntry
    by_cases h : p.known e.1.1 = true
    · rw [if_pos h, if_pos (show entryKnown p e = true from h)]; exact ⟨rfl, rfl, rfl, rfl, rfl, rfl⟩
    · rw [if_neg h, if_neg (show ¬ entryKnown p e = true from h)]; exact ⟨rfl, rfl, rfl, rfl, rfl, rfl⟩

theorem apply_response (p : Proxy) (b : RespBody) :
    (apply p (.signerResponseReceived b)).openNonce = none ∧
    (apply p (.signerResponseReceived b)).signer = p.signer.map (fun s => { s with objects := b.objects }) ∧
    (apply p (.signerResponseReceived b)).idKey = p.idKey ∧
    (apply p (.signerResponseReceived b)).children = p.children ∧
    (apply p (.signerResponseReceived b)).openReq =
      (b.entries.filter (entryKnown p)).foldl (fun l e => adel l e.1) p.openReq ∧
    (apply p (.signerResponseReceived b)).openResp =
      (b.entries.filter (entryKnown p)).foldl (fun l e => aput l e.1 e.2) p.openResp := by
  obtain ⟨m1, m2, -, m4, m5, m6⟩ := fold_applyEntry b.entries p
  refine ⟨rfl, ?_, m1, m4, m5, m6⟩
  show Option.map _ (List.foldl applyEntry p b.entries).signer = _
  rw [m2]

/-! ## The signer: an accepted request is answered entry for entry, in kind, under a number that has risen -/

theorem addIssued_number (o : Objects) (k : Key) (n : Nat) :
    (o.addIssued k n).number = o.number := by
  unfold Objects.addIssued; split <;> rfl

theorem revokeIssued_number (o o' : Objects) (k : Key) (h : o.revokeIssued k = some o') :
    o'.number = o.number := by
  unfold Objects.revokeIssued at h
  split at h <;> cases h
  rfl

theorem signOne_ok {res : List (Child × List Nat)} {a a' : Acc} {e : CK × Req}
    (h : signOne res a e = .ok a') :
    (∃ x, a'.out = a.out ++ [(e.1, x)] ∧ e.2.matchesResponse x = true ∧ x ≠ .error) ∧
    a'.objects.number = a.objects.number := by
  revert h
  fun_cases signOne res a e
  case case4 hk _ _ _ =>
    rintro ⟨⟩
    exact ⟨⟨_, rfl, by simp [Req.matchesResponse, hk], nofun⟩, addIssued_number ..⟩
  case case7 hk _ o ho =>
    rintro ⟨⟩
    exact ⟨⟨_, rfl, by simp [Req.matchesResponse, hk], nofun⟩, revokeIssued_number _ _ _ ho⟩
  all_goals nofun

theorem signAll_ok (res : List (Child × List Nat)) (es : List (CK × Req)) (a a' : Acc)
    (h : signAll res a es = .ok a') :
    (∃ ys, a'.out = a.out ++ ys ∧ keysOf ys = keysOf es ∧
      ∀ o ∈ ys, ∃ e ∈ es, e.1 = o.1 ∧ e.2.matchesResponse o.2 = true ∧ o.2 ≠ .error) ∧
    a'.objects.number = a.objects.number := by
  fun_induction signAll res a es with
  | case1 a => cases h; exact ⟨⟨[], (List.append_nil _).symm, rfl, nofun⟩, rfl⟩
  | case2 a e t a1 h1 ih =>
    obtain ⟨⟨x, hx, hm, hne⟩, hn⟩ := signOne_ok h1
    obtain ⟨⟨ys, hys, hkeys, hall⟩, hn'⟩ := ih h
    refine ⟨⟨(e.1, x) :: ys, by rw [hys, hx, List.append_assoc]; rfl,
      congrArg (e.1 :: ·) hkeys, fun o ho => ?_⟩, hn'.trans hn⟩
    rcases List.mem_cons.mp ho with rfl | ho
    · exact ⟨e, List.mem_cons_self, rfl, hm, hne⟩
    · obtain ⟨e', he', h3⟩ := hall o ho
      exact ⟨e', List.mem_cons_of_mem _ he', h3⟩
  | case3 => cases h

theorem processSignerRequest_ok_iff {s s' : Signer} {m : Signed ReqBody} {ovr : Option Nat}
    {r : Signed RespBody} :
    processSignerRequest s m ovr = .ok (s', r) ↔
      m.validFor s.proxyKey = true ∧ (∀ v, ovr = some v → s.objects.number < v) ∧
      ∃ a, signAll m.clear.resources { objects := s.objects, serial := s.nextSerial } m.clear.entries
          = .ok a ∧
        r = (let rb : RespBody := ⟨m.clear.nonce, a.objects.republish ovr, a.out⟩
             { signer := s.idKey, body := rb, clear := rb, fresh := true }) ∧
        s' = { s with objects := a.objects.republish ovr,
                      exchanges := s.exchanges ++ [(m.clear, r.body)], nextSerial := a.serial } := by
  have hovr : (ovr.all fun v => decide (s.objects.number < v)) = true ↔
      ∀ v, ovr = some v → s.objects.number < v := by
    cases ovr <;> simp
  constructor
  · fun_cases processSignerRequest s m ovr
    -- the one accepting branch
    case case4 hv ho a ha _ _ =>
      rw [Bool.not_eq_true', Bool.not_eq_false] at hv ho
      rintro ⟨⟩
      exact ⟨hv, hovr.mp ho, a, ha, rfl, rfl⟩
    all_goals nofun
  · rintro ⟨hv, ho, a, ha, rfl, rfl⟩
    rw [processSignerRequest, hv, hovr.mpr ho, ha]
    rfl

/-- What an accepted signer request leaves: the response `r` and the signer's next state `s'`. -/
structure SignerAnswer (s s' : Signer) (m : Signed ReqBody) (ovr : Option Nat) (r : Signed RespBody) : Prop where
  valid : m.validFor s.proxyKey = true
  signer : r.signer = s.idKey
  clear : r.body = r.clear
  fresh : r.fresh = true
  nonce : r.body.nonce = m.clear.nonce
  keys : keysOf r.body.entries = keysOf m.clear.entries
  inKind : ∀ o ∈ r.body.entries, ∃ e ∈ m.clear.entries,
    e.1 = o.1 ∧ e.2.matchesResponse o.2 = true ∧ o.2 ≠ .error
  idKey : s'.idKey = s.idKey
  proxyKey : s'.proxyKey = s.proxyKey
  taKey : s'.taKey = s.taKey
  objects : s'.objects = r.body.objects
  number : r.body.objects.number = ovr.getD (s.objects.number + 1)
  rises : s.objects.number < r.body.objects.number

theorem processSignerRequest_ok (s s' : Signer) (m : Signed ReqBody) (ovr : Option Nat)
    (r : Signed RespBody) (h : processSignerRequest s m ovr = .ok (s', r)) : SignerAnswer s s' m ovr r := by
  obtain ⟨hv, hovr, a, ha, rfl, rfl⟩ := processSignerRequest_ok_iff.mp h
  obtain ⟨⟨ys, hys, hkeys, hall⟩, hn⟩ := signAll_ok _ _ _ _ ha
  cases (List.nil_append ys ▸ hys : a.out = ys)
  have hnum : (a.objects.republish ovr).number = ovr.getD (s.objects.number + 1) := by
    rw [Objects.republish, hn]
  refine ⟨hv, rfl, rfl, rfl, rfl, hkeys, hall, rfl, rfl, rfl, rfl, hnum, ?_⟩
  · show _ < (a.objects.republish ovr).number
    rw [hnum]
    cases ovr with
    | none => exact Nat.lt_succ_self _
    | some v => exact hovr v rfl

/-! ## The manager glue and the tally of a command history -/

/-- What `taSlowRequest` can do to the proxy. -/
inductive SlowOutcome (p : Proxy) (c : Child) (r : Req) : Proxy × Reply → Prop
  | unchanged (rep : Reply) (h1 : ∀ x, rep ≠ .response x) (h2 : rep ≠ .notPerformed 1104) :
      SlowOutcome p c r (p, rep)
  | given (x : Resp) (hx : aget p.openResp (c, r.key) = some x) (hk : p.known c = true)
      (hm : r.matchesResponse x = true) :
      SlowOutcome p c r ({ p with openResp := adel p.openResp (c, r.key) }, .response x)
  | added (hx : aget p.openResp (c, r.key) = none) (hk : p.known c = true) :
      SlowOutcome p c r ({ p with openReq := aput p.openReq (c, r.key) r }, .notPerformed 1104)

theorem taSlow_cases (p : Proxy) (c : Child) (r : Req) :
    SlowOutcome p c r (taSlowRequest p c r) := by
  fun_cases taSlowRequest p c r
  case case2 _ x hx hm p' evs he =>  -- a stored response of the right kind, `giveChildResponse` accepted
    obtain ⟨hg, rfl⟩ := exec_ok_inv he
    exact .given x hx hg.1 hm
  case case7 hk hx _ p' evs he =>  -- nothing stored, no such request open, `addChildRequest` accepted
    obtain ⟨_, rfl⟩ := exec_ok_inv he
    exact .added hx (by rwa [Bool.not_eq_true, Bool.not_eq_false'] at hk)
  case case3 p' e he | case8 p' e he =>  -- the command refused
    cases exec_error_inv he
    exact .unchanged _ nofun nofun
  -- the rest sends no command: unknown child, response of other kind, `matchingOpenRequest` fails or finds it (1101)
  all_goals exact .unchanged _ nofun nofun

/-- One command: what it adds to the requests made, less what it adds to the responses accepted, is
what it adds to the open requests. -/
theorem execTally_balance (t : Tally) (c : Cmd) :
    (execTally t c).made + openN t.proxy + t.accepted =
      (execTally t c).accepted + openN (execTally t c).proxy + t.made := by
  have unchanged (a b c : Nat) : a + b + c = c + b + a := by omega
  unfold execTally
  rcases exec_cases t.proxy c with ⟨e, h⟩ | ⟨hg, h⟩ <;> rw [h]
  · exact unchanged ..
  · cases c with
    | makeSignerRequest n =>
      -- none was open, one is
      have h1 : openN t.proxy = 0 := by rw [openN, (hg : t.proxy.openNonce = none)]; rfl
      have h2 : openN (apply t.proxy (.signerRequestMade n)) = 1 := rfl
      simp only [Cmd.event, h1, h2]
      omega
    | processSignerResponse m =>
      -- one was open, none is
      obtain ⟨i, h0, _⟩ := hg
      have h1 : openN t.proxy = 1 := by rw [openN, h0]; rfl
      have h2 : openN (apply t.proxy (.signerResponseReceived m.clear)) = 0 := rfl
      simp only [Cmd.event, h1, h2]
      omega
    | _ => exact unchanged ..

theorem execAll_balance (cs : List Cmd) (t : Tally) :
    (cs.foldl execTally t).made + openN t.proxy + t.accepted =
      (cs.foldl execTally t).accepted + openN (cs.foldl execTally t).proxy + t.made := by
  induction cs generalizing t with
  | nil => rw [List.foldl_nil]; omega
  | cons c rest ih =>
    have h1 := ih (execTally t c)
    have h2 := execTally_balance t c
    rw [List.foldl_cons]
    omega

/-! ## A step of the whole system: what admissibility rules out, and the effect of a step as a relation -/

theorem admissible_signerInit {s : Sys} {id pk tk : Key} {num : Option Nat}
    (h : admissible s (.signerInit id pk tk num) = true) : ahas s.signers id = false := by
  rw [admissible, Bool.and_eq_true, Bool.not_eq_true'] at h
  exact h.1

theorem admissible_makeRequest {s : Sys} {n : Nonce} (h : admissible s (.makeRequest n) = true) :
    n ∉ s.nonces := fun hin => by
  rw [admissible, List.contains_iff_mem.mpr hin] at h
  cases h

/-- What a step does to the system.  A refused command, a message to an unknown signer and a request
that is only answered from what is stored change nothing (`same`; a refused `makeRequest` still
spends its nonce). -/
inductive Effect (s : Sys) : Op → Sys → Prop
  | same (o : Op) : Effect s o s
  | addChild (c : Child) (res : List Nat) (h : s.proxy.known c = false) :
      Effect s (.addChild c res)
        { s with proxy := { s.proxy with children := aput s.proxy.children c res } }
  | given (c : Child) (r : Req) (x : Resp) (hx : aget s.proxy.openResp (c, r.key) = some x)
      (hk : s.proxy.known c = true) (hm : r.matchesResponse x = true) :
      Effect s (.childRequest c r)
        { s with proxy := { s.proxy with openResp := adel s.proxy.openResp (c, r.key) },
                 given := ((c, r.key), x) :: s.given }
  | added (c : Child) (r : Req) (hx : aget s.proxy.openResp (c, r.key) = none)
      (hk : s.proxy.known c = true) :
      Effect s (.childRequest c r)
        { s with proxy := { s.proxy with openReq := aput s.proxy.openReq (c, r.key) r },
                 added := (c, r.key) :: s.added }
  | nonceSpent (n : Nonce) : Effect s (.makeRequest n) { s with nonces := n :: s.nonces }
  | makeRequest (n : Nonce) (h : s.proxy.openNonce = none) :
      Effect s (.makeRequest n)
        { s with proxy := { s.proxy with openNonce := some n }, nonces := n :: s.nonces }
  | getRequest (n : Nonce) (h : s.proxy.openNonce = some n) :
      Effect s .getRequest { s with reqs := ⟨n, s.proxy.openReq, s.proxy.children⟩ :: s.reqs }
  | signerInit (id pk tk : Key) (num : Option Nat) :
      Effect s (.signerInit id pk tk num)
        { s with signers := aput s.signers id (Signer.init id pk tk num) }
  | addSigner (id : Key) (t : Signer) (ht : aget s.signers id = some t) (h : s.proxy.signer = none) :
      Effect s (.addSigner id) { s with proxy := { s.proxy with signer := some t.info } }
  | updateSigner (id : Key) (t : Signer) (ht : aget s.signers id = some t)
      (h : s.proxy.openNonce = none) (s0 : SignerInfo) (hs : s.proxy.signer = some s0) :
      Effect s (.updateSigner id) { s with proxy := { s.proxy with signer := some t.info } }
  | sign (id : Key) (m : Signed ReqBody) (ovr : Option Nat) (t t' : Signer) (r : Signed RespBody)
      (ht : aget s.signers id = some t) (hp : processSignerRequest t m ovr = .ok (t', r)) :
      Effect s (.sign id m ovr)
        { s with signers := aput s.signers id t', resps := (id, r.body) :: s.resps,
                 nonces := m.clear.nonce :: s.nonces }
  | respond (m : Signed RespBody) (i : SignerInfo) (hn : s.proxy.openNonce = some m.clear.nonce)
      (hi : s.proxy.signer = some i) (hv : m.validFor i.idKey = true) :
      Effect s (.respond m)
        { s with proxy := apply s.proxy (.signerResponseReceived m.clear),
                 answered := (m.clear.entries.filter (entryKnown s.proxy)).reverse ++ s.answered }

theorem step_effect (s : Sys) (o : Op) : Effect s o (step s o) := by
  fun_cases step s o
  case case1 c res =>  -- addChild
    rcases exec_cases s.proxy (.addChild c res) with ⟨e, h⟩ | ⟨hg, h⟩ <;> rw [h]
    · exact .same _
    · exact .addChild c res hg
  case case2 c r out =>  -- childRequest
    have hc : SlowOutcome s.proxy c r out := taSlow_cases s.proxy c r
    clear_value out
    cases hc with
    | unchanged rep h1 h2 =>
      rw [if_neg h2]
      cases rep with
      | response x => exact absurd rfl (h1 x)
      | notPerformed code => exact .same _
      | error e => exact .same _
    | given x hx hk hm => rw [if_neg nofun]; exact .given c r x hx hk hm
    | added hx hk => rw [if_pos rfl]; exact .added c r hx hk
  case case3 n =>  -- makeRequest
    rcases exec_cases s.proxy (.makeSignerRequest n) with ⟨e, h⟩ | ⟨hg, h⟩ <;> rw [h]
    · exact .nonceSpent n
    · exact .makeRequest n hg
  case case4 m hm =>  -- getRequest, a request is open
    rw [getSignerRequest] at hm
    cases hn : s.proxy.openNonce with
    | none => rw [hn] at hm; cases hm
    | some n => rw [hn] at hm; cases hm; exact .getRequest n hn
  case case6 id pk tk num => exact .signerInit id pk tk num  -- signerInit
  case case7 id t ht =>  -- addSigner, to a signer that exists
    rcases exec_cases s.proxy (.addSigner t.info) with ⟨e, h⟩ | ⟨hg, h⟩ <;> rw [h]
    · exact .same _
    · exact .addSigner id t ht hg
  case case9 id t ht =>  -- updateSigner, to a signer that exists
    rcases exec_cases s.proxy (.updateSigner t.info) with ⟨e, h⟩ | ⟨⟨h0, s0, hs, _⟩, h⟩ <;> rw [h]
    · exact .same _
    · exact .updateSigner id t ht h0 s0 hs
  case case13 id m ovr t ht t' r hp => exact .sign id m ovr t t' r ht hp  -- sign, accepted
  case case15 m evs hp =>  -- respond, accepted
    obtain ⟨i, hn, hi, hv, rfl⟩ := processSignerResponse_ok_iff.mp hp
    exact .respond m i hn hi hv
  -- what is left: no such signer, a refused message, no open request
  all_goals exact .same _

end KM.Ta
