/-
`Inv`, the inductive invariant of the system behind `exactly_once` (`Props/C15.lean`): what is waiting at
the proxy, what it has signed under the open nonce and what the honest signers have answered hang together,
and the ghost counters balance.  `inv_step` goes through the effects of a step (`step_effect`);
`runWith_invariant` is the one induction over runs.
-/
import KrillModel.Ta.Lemmas
namespace KM.Ta

structure Inv (s : Sys) : Prop where
  ndReq  : (keysOf s.proxy.openReq).Nodup
  /-- open requests belong to known children -/
  reqKnown : ∀ ck, ahas s.proxy.openReq ck = true → s.proxy.known ck.1 = true
  /-- never a waiting request and a waiting response for the same child and key -/
  disj : ∀ ck, ahas s.proxy.openReq ck = true → ahas s.proxy.openResp ck = false
  /-- whatever the proxy signed under the open nonce lists open requests only, each once -/
  reqsOpen : ∀ n, s.proxy.openNonce = some n → ∀ b ∈ s.reqs, b.nonce = n →
      (keysOf b.entries).Nodup ∧ ∀ ck ∈ keysOf b.entries, ahas s.proxy.openReq ck = true
  /-- a response of a signer that belongs to this proxy answers a request the proxy signed -/
  link : ∀ id t, aget s.signers id = some t → t.proxyKey = s.proxy.idKey →
      ∀ rb, (id, rb) ∈ s.resps →
        ∃ b ∈ s.reqs, b.nonce = rb.nonce ∧ keysOf rb.entries = keysOf b.entries
  respKeys : ∀ id rb, (id, rb) ∈ s.resps → ahas s.signers id = true
  /-- the proxy is only ever associated with a signer that is associated with it -/
  assoc : ∀ i, s.proxy.signer = some i →
      ∃ t, aget s.signers i.idKey = some t ∧ t.proxyKey = s.proxy.idKey
  signerIds : ∀ id t, aget s.signers id = some t → t.idKey = id
  reqNonces : ∀ b ∈ s.reqs, b.nonce ∈ s.nonces
  nonceSeen : ∀ n, s.proxy.openNonce = some n → n ∈ s.nonces
  /-- the ghost counters, per child and key: accepted answers = handed over + waiting, and never more answers and
  waiting requests than requests stored -/
  acct : ∀ ck, cntK s.answered ck = cntK s.given ck + openRespN s.proxy ck ∧
               cntK s.answered ck + openReqN s.proxy ck ≤ cnt s.added ck

theorem inv_init (k : Key) : Inv (Sys.init k) where
  ndReq := .nil
  reqKnown := fun _ h => nomatch h
  disj := fun _ h => nomatch h
  reqsOpen := fun _ h => nomatch h
  link := fun _ _ h => nomatch h
  respKeys := fun _ _ h => nomatch h
  assoc := fun _ h => nomatch h
  signerIds := fun _ _ h => nomatch h
  reqNonces := fun _ h => nomatch h
  nonceSeen := fun _ h => nomatch h
  acct := fun _ => ⟨rfl, Nat.le_refl _⟩

theorem cntK_cons {β} (l : List (CK × β)) (e : CK × β) (ck : CK) :
    cntK (e :: l) ck = cntK l ck + (if e.1 = ck then 1 else 0) := by
  simp only [cntK, List.map_cons, List.count_cons, beq_iff_eq]

theorem cnt_cons (l : List CK) (e ck : CK) :
    cnt (e :: l) ck = cnt l ck + (if e = ck then 1 else 0) := by
  simp only [cnt, List.count_cons, beq_iff_eq]

theorem cntK_rev_append {β} (l1 l2 : List (CK × β)) (ck : CK) :
    cntK (l1.reverse ++ l2) ck = cntK l1 ck + cntK l2 ck := by
  simp only [cntK, List.map_append, List.map_reverse, List.count_append, List.count_reverse]

theorem cntK_eq_zero {κ β} [DecidableEq κ] {l : List (κ × β)} {k : κ} (h : k ∉ l.map (·.1)) :
    cntK l k = 0 :=
  List.count_eq_zero_of_not_mem h

theorem cntK_eq_one {κ β} [DecidableEq κ] {l : List (κ × β)} {k : κ} (hnd : (l.map (·.1)).Nodup)
    (h : k ∈ l.map (·.1)) : cntK l k = 1 :=
  hnd.count.trans (if_pos h)

/-- A waiting response is handed over (`a`: the number of accepted answers for `ck`). -/
theorem acct_given {l : List (CK × Resp)} {given : List (CK × Resp)} {k ck : CK} {x : Resp} {a : Nat}
    (hx : ahas l k = true) (b : a = cntK given ck + (if ahas l ck then 1 else 0)) :
    a = cntK ((k, x) :: given) ck + (if ahas (adel l k) ck then 1 else 0) := by
  rw [cntK_cons, ahas_adel, b]
  by_cases hck : k = ck
  · subst hck
    rw [hx, if_pos rfl, if_pos rfl, decide_eq_true rfl]
    rfl
  · rw [if_neg hck, decide_eq_false (Ne.symm hck), Bool.not_false, Bool.and_true]
    rfl

/-- A request is stored; it replaces a waiting one for the same child and key (`a` as in `acct_given`). -/
theorem acct_added {l : List (CK × Req)} {added : List CK} {k ck : CK} {r : Req} {a : Nat}
    (b : a + (if ahas l ck then 1 else 0) ≤ cnt added ck) :
    a + (if ahas (aput l k r) ck then 1 else 0) ≤ cnt (k :: added) ck := by
  rw [cnt_cons, ahas_aput]
  by_cases hck : k = ck
  · rw [if_pos hck, decide_eq_true hck, Bool.true_or, if_pos rfl]
    exact Nat.succ_le_succ (Nat.le_trans (Nat.le_add_right _ _) b)
  · rw [if_neg hck, decide_eq_false hck, Bool.false_or]
    exact b

/-- A response is accepted: the entries it answers move from waiting requests to waiting responses. -/
theorem acct_respond {p p' : Proxy} {es answered given : List (CK × Resp)} {added : List CK} {ck : CK}
    (hreq : p'.openReq = es.foldl (fun l e => adel l e.1) p.openReq)
    (hresp : p'.openResp = es.foldl (fun l e => aput l e.1 e.2) p.openResp)
    (hnd : (keysOf es).Nodup) (hopen : ck ∈ keysOf es → ahas p.openReq ck = true)
    (hdisj : ahas p.openReq ck = true → ahas p.openResp ck = false)
    (b : cntK answered ck = cntK given ck + openRespN p ck ∧
      cntK answered ck + openReqN p ck ≤ cnt added ck) :
    cntK (es.reverse ++ answered) ck = cntK given ck + openRespN p' ck ∧
      cntK (es.reverse ++ answered) ck + openReqN p' ck ≤ cnt added ck := by
  obtain ⟨b1, b2⟩ := b
  have hfo := ahas_foldl_adel (·.1) es p.openReq ck
  have hfr := ahas_foldl_aput es p.openResp ck
  rw [← hreq] at hfo
  rw [← hresp] at hfr
  rw [cntK_rev_append]
  by_cases hin : ck ∈ keysOf es
  · have r1 : openRespN p' ck = 1 := if_pos (hfr.mpr (.inr hin))
    have r2 : openReqN p' ck = 0 := if_neg fun hc => (hfo.mp hc).2 hin
    rw [show openRespN p ck = 0 from if_neg (by rw [hdisj (hopen hin)]; nofun)] at b1
    rw [show openReqN p ck = 1 from if_pos (hopen hin)] at b2
    rw [cntK_eq_one hnd hin, r1, r2, Nat.add_comm 1]
    exact ⟨congrArg (· + 1) b1, b2⟩
  · have e1 : ahas p'.openResp ck = ahas p.openResp ck :=
      Bool.eq_iff_iff.mpr (hfr.trans (or_iff_left hin))
    have e2 : ahas p'.openReq ck = ahas p.openReq ck :=
      Bool.eq_iff_iff.mpr (hfo.trans (and_iff_left hin))
    rw [cntK_eq_zero hin, Nat.zero_add, openRespN, openReqN, e1, e2]
    exact ⟨b1, b2⟩

theorem inv_nonce (s : Sys) (n : Nonce) (h : Inv s) : Inv { s with nonces := n :: s.nonces } :=
  { h with
    reqNonces := fun b hb => List.mem_cons_of_mem _ (h.reqNonces b hb)
    nonceSeen := fun n' hn' => List.mem_cons_of_mem _ (h.nonceSeen n' hn') }

/-- A signer's state is stored under `id` – at its initialisation, or as the next state of the signer
that is there: it carries `id` as its own key and, where it replaces a state, stays with the same proxy. -/
theorem inv_putSigner (s : Sys) (id : Key) (t' : Signer) (h : Inv s) (hid : t'.idKey = id)
    (hpk : ∀ t, aget s.signers id = some t → t'.proxyKey = t.proxyKey) :
    Inv { s with signers := aput s.signers id t' } :=
  { h with
    link := fun id' t'' ht'' hpk' rb hrb => by
      rcases aget_aput_cases ht'' with ⟨rfl, rfl⟩ | ⟨_, ht''⟩
      · -- a signer that has made a response was there before
        obtain ⟨t, ht⟩ := aget_of_ahas (h.respKeys id rb hrb)
        exact h.link id t ht ((hpk t ht).symm.trans hpk') rb hrb
      · exact h.link id' t'' ht'' hpk' rb hrb
    respKeys := fun id' rb hrb => by rw [ahas_aput, h.respKeys id' rb hrb, Bool.or_true]
    assoc := fun i hi => by
      obtain ⟨t0, ht0, hpk0⟩ := h.assoc i hi
      rw [aget_aput]
      by_cases hidd : id = i.idKey
      · rw [if_pos hidd]; exact ⟨t', rfl, (hpk t0 (hidd ▸ ht0)).trans hpk0⟩
      · rw [if_neg hidd]; exact ⟨t0, ht0, hpk0⟩
    signerIds := fun id' t'' ht'' => by
      rcases aget_aput_cases ht'' with ⟨rfl, rfl⟩ | ⟨_, ht''⟩
      · exact hid
      · exact h.signerIds id' t'' ht'' }

theorem inv_assoc (s : Sys) (id : Key) (t : Signer) (ht : aget s.signers id = some t)
    (hpk : t.proxyKey = s.proxy.idKey) (h : Inv s) :
    Inv { s with proxy := { s.proxy with signer := some t.info } } :=
  { h with
    assoc := fun i hi => by
      cases hi
      exact ⟨t, by rw [Signer.info, h.signerIds id t ht]; exact ht, hpk⟩ }

/-- An accepted response in an invariant state was made by the signer the proxy is associated with
from a request this proxy signed under the open nonce: it answers pairwise different requests that
are waiting, all of known children, so it removes exactly those requests and stores exactly its entries. -/
theorem respond_facts (s : Sys) (m : Signed RespBody) (i : SignerInfo) (h : Inv s)
    (ha : admissible s (.respond m) = true) (hn : s.proxy.openNonce = some m.clear.nonce)
    (hsig : s.proxy.signer = some i) (hv : m.validFor i.idKey = true) :
    (i.idKey, m.clear) ∈ s.resps ∧ (keysOf m.clear.entries).Nodup ∧
    (∀ ck ∈ keysOf m.clear.entries, ahas s.proxy.openReq ck = true) ∧
    m.clear.entries.filter (entryKnown s.proxy) = m.clear.entries ∧
    (apply s.proxy (.signerResponseReceived m.clear)).openReq =
      m.clear.entries.foldl (fun l e => adel l e.1) s.proxy.openReq ∧
    (apply s.proxy (.signerResponseReceived m.clear)).openResp =
      m.clear.entries.foldl (fun l e => aput l e.1 e.2) s.proxy.openResp := by
  obtain ⟨hms, _, hbc⟩ := (validFor_iff m i.idKey).mp hv
  obtain ⟨t, ht, hpk⟩ := h.assoc i hsig
  have hres : (i.idKey, m.clear) ∈ s.resps := by
    simp only [admissible, Bool.or_eq_true, Bool.not_eq_true', List.contains_iff_mem] at ha
    rw [hms, hbc] at ha
    exact ha.resolve_left (by rw [ahas_of_aget ht]; nofun)
  obtain ⟨b, hb, hbn, hbk⟩ := h.link i.idKey t ht hpk m.clear hres
  obtain ⟨hnd, hopen⟩ := h.reqsOpen _ hn b hb hbn
  rw [← hbk] at hnd hopen
  have hf : m.clear.entries.filter (entryKnown s.proxy) = m.clear.entries :=
    List.filter_eq_self.mpr fun e he => h.reqKnown e.1 (hopen e.1 (List.mem_map_of_mem he))
  obtain ⟨-, -, -, -, r, q⟩ := apply_response s.proxy m.clear
  rw [hf] at r q
  exact ⟨hres, hnd, hopen, hf, r, q⟩

theorem inv_step (s : Sys) (o : Op) (h : Inv s) (ha : admissible s o = true) : Inv (step s o) := by
  have he := step_effect s o
  generalize step s o = s' at he
  cases he with
  | same => exact h
  | addChild c res =>
    refine { h with reqKnown := fun ck hck => ?_ }
    show ahas (aput s.proxy.children c res) ck.1 = true
    rw [ahas_aput, Bool.or_eq_true]
    exact .inr (h.reqKnown ck hck)
  | given c r x hx hk hm =>
    refine { h with
      disj := fun ck hck => by
        show ahas (adel s.proxy.openResp (c, r.key)) ck = false
        rw [ahas_adel, h.disj ck hck]; rfl
      acct := fun ck => ⟨?_, (h.acct ck).2⟩ }
    exact acct_given (ahas_of_aget hx) (h.acct ck).1
  | added c r hx hk =>
    have hput : ∀ ck, ahas (aput s.proxy.openReq (c, r.key) r) ck = true →
        (c, r.key) = ck ∨ ahas s.proxy.openReq ck = true := fun ck hck => by
      rwa [ahas_aput, Bool.or_eq_true, decide_eq_true_eq] at hck
    refine { h with
      ndReq := nodup_aput _ _ _ h.ndReq
      reqKnown := fun ck hck => (hput ck hck).elim (fun e => e ▸ hk) (h.reqKnown ck)
      disj := fun ck hck => (hput ck hck).elim
        (fun e => e ▸ by rw [ahas, hx]; rfl) (h.disj ck)
      reqsOpen := fun n hn b hb hbn => (h.reqsOpen n hn b hb hbn).imp_right fun hopen ck hck => by
        show ahas (aput s.proxy.openReq (c, r.key) r) ck = true
        rw [ahas_aput, hopen ck hck, Bool.or_true]
      acct := fun ck => ⟨(h.acct ck).1, ?_⟩ }
    exact acct_added (h.acct ck).2
  | nonceSpent n => exact inv_nonce s n h
  | makeRequest n hopen =>
    have hfresh := admissible_makeRequest ha
    exact { inv_nonce s n h with
      -- nothing has been signed under a fresh nonce
      reqsOpen := fun n' hn' b hb hbn => by
        cases hn'
        exact absurd (hbn ▸ h.reqNonces b hb) hfresh
      nonceSeen := fun n' hn' => by cases hn'; exact List.mem_cons_self }
  | getRequest n hn =>
    exact { h with
      reqsOpen := fun n' hn' b hb hbn => by
        rcases List.mem_cons.mp hb with rfl | hb
        · exact ⟨h.ndReq, fun ck hck => (ahas_iff_mem _ _).mpr hck⟩
        · exact h.reqsOpen n' hn' b hb hbn
      link := fun id t ht hpk rb hrb =>
        let ⟨b, hb, x⟩ := h.link id t ht hpk rb hrb
        ⟨b, List.mem_cons_of_mem _ hb, x⟩
      reqNonces := fun b hb => by
        rcases List.mem_cons.mp hb with rfl | hb
        · exact h.nonceSeen n hn
        · exact h.reqNonces b hb }
  | signerInit id pk tk num =>
    have hnew := admissible_signerInit ha
    exact inv_putSigner s id _ h rfl fun t ht => by rw [ahas_of_aget ht] at hnew; cases hnew
  | addSigner id t ht | updateSigner id t ht =>
    simp only [admissible, ht, beq_iff_eq] at ha
    exact inv_assoc s id t ht ha h
  | sign id m ovr t t' r ht hp =>
    have ans := processSignerRequest_ok t t' m ovr r hp
    obtain ⟨hsig, _, hbc⟩ := (validFor_iff m t.proxyKey).mp ans.valid
    have h1 := inv_nonce _ m.clear.nonce <|
      inv_putSigner s id t' h (ans.idKey.trans (h.signerIds id t ht)) fun t0 ht0 => by
        rw [ht] at ht0; cases ht0; exact ans.proxyKey
    exact { h1 with
      link := fun id' t'' ht'' hpk rb hrb => by
        rcases List.mem_cons.mp hrb with heq | hold
        · -- the new response: made from `m`, which the proxy signed if the signer is its own
          cases heq
          rw [aget_aput, if_pos rfl] at ht''
          cases ht''
          have hmem : m.body ∈ s.reqs := by
            simp only [admissible, Bool.or_eq_true, bne_iff_ne, ne_eq, List.contains_iff_mem] at ha
            exact ha.resolve_left (fun hne => hne (hsig.trans (ans.proxyKey.symm.trans hpk)))
          exact ⟨m.body, hmem, by rw [ans.nonce, hbc], by rw [ans.keys, hbc]⟩
        · exact h1.link id' t'' ht'' hpk rb hold
      respKeys := fun id' rb hrb => by
        rcases List.mem_cons.mp hrb with heq | hold
        · cases heq; rw [ahas_aput, decide_eq_true rfl]; rfl
        · exact h1.respKeys id' rb hold }
  | respond m i hn hsig hv =>
    obtain ⟨_, hnd, hopen, hfilt, hreq, hresp⟩ := respond_facts s m i h ha hn hsig hv
    obtain ⟨a1, a2, a3, a4, -, -⟩ := apply_response s.proxy m.clear
    rw [hfilt]
    refine { h with
      ndReq := hreq ▸ nodup_foldl_adel _ _ _ h.ndReq
      reqKnown := fun ck hck => ?_
      disj := fun ck hck => ?_
      reqsOpen := fun n' hn' => by rw [a1] at hn'; cases hn'
      link := fun id t' ht' hpk' => h.link id t' ht' (a3 ▸ hpk')
      assoc := fun i' hi' => ?_
      nonceSeen := fun n' hn' => by rw [a1] at hn'; cases hn'
      acct := fun ck => ?_ }
    · rw [hreq, ahas_foldl_adel] at hck
      rw [Proxy.known, a4]
      exact h.reqKnown ck hck.1
    · rw [hreq, ahas_foldl_adel] at hck
      rw [hresp, ← Bool.not_eq_true, ahas_foldl_aput]
      exact fun h3 => h3.elim (by rw [h.disj ck hck.1]; nofun) hck.2
    · rw [a2, hsig, Option.map_some, Option.some.injEq] at hi'
      subst hi'
      rw [a3]
      exact h.assoc i hsig
    · exact acct_respond hreq hresp hnd (hopen ck) (h.disj ck) (h.acct ck)

theorem step_respond_proxy {s : Sys} {m : Signed RespBody} {evs : List Ev}
    (hp : process s.proxy (.processSignerResponse m) = .ok evs) :
    (step s (.respond m)).proxy = apply s.proxy (.signerResponseReceived m.clear) := by
  obtain ⟨_, _, _, _, rfl⟩ := processSignerResponse_ok_iff.mp hp
  simp only [step, hp]
  rfl

theorem respond_batch (s : Sys) (m : Signed RespBody) (evs : List Ev) (h : Inv s)
    (ha : admissible s (.respond m) = true)
    (hp : process s.proxy (.processSignerResponse m) = .ok evs) :
    (keysOf m.clear.entries).Nodup ∧
    (∀ ck ∈ keysOf m.clear.entries, ahas s.proxy.openReq ck = true ∧
        ahas s.proxy.openResp ck = false ∧ s.proxy.known ck.1 = true) ∧
    (∀ e ∈ m.clear.entries, aget (step s (.respond m)).proxy.openResp e.1 = some e.2) ∧
    (∀ ck, ahas (step s (.respond m)).proxy.openReq ck = true ↔
        ahas s.proxy.openReq ck = true ∧ ck ∉ keysOf m.clear.entries) ∧
    (∀ ck, ck ∉ keysOf m.clear.entries →
        aget (step s (.respond m)).proxy.openResp ck = aget s.proxy.openResp ck) := by
  obtain ⟨i, hn, hsig, hv, _⟩ := processSignerResponse_ok_iff.mp hp
  obtain ⟨_, hnd, hopen, -, hreq, hresp⟩ := respond_facts s m i h ha hn hsig hv
  rw [step_respond_proxy hp, hreq, hresp]
  exact ⟨hnd, fun ck hck => ⟨hopen ck hck, h.disj ck (hopen ck hck), h.reqKnown ck (hopen ck hck)⟩,
    fun e he => by rw [aget_foldl_aput, Assoc.lastOf_of_nodup hnd he]; rfl,
    ahas_foldl_adel _ _ _,
    fun ck hck => by rw [aget_foldl_aput, Assoc.lastOf_eq_none.mpr hck]; rfl⟩

theorem runWith_invariant (ok : Sys → Op → Bool) (P : Sys → Prop)
    (hstep : ∀ s o, P s → admissible s o = true → ok s o = true → P (step s o))
    (s s' : Sys) (ops : List Op) (hP : P s) (hr : runWith ok s ops = some s') : P s' := by
  fun_induction runWith ok s ops with
  | case1 s => cases hr; exact hP
  | case2 s o t hab ih =>
    rw [Bool.and_eq_true] at hab
    exact ih (hstep s o hP hab.1 hab.2) hr
  | case3 => cases hr

theorem run_eq_runWith (s : Sys) (ops : List Op) : run s ops = runWith (fun _ _ => true) s ops := by
  induction ops generalizing s with
  | nil => rfl
  | cons o t ih => rw [run, runWith, Bool.and_true, ih]

theorem inv_run (s s' : Sys) (ops : List Op) (h : Inv s) (hr : run s ops = some s') : Inv s' :=
  runWith_invariant _ Inv (fun s o h ha _ => inv_step s o h ha) s s' ops h (run_eq_runWith s ops ▸ hr)

end KM.Ta
