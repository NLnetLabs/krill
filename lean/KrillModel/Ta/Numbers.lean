/-
Manifest/CRL numbers of the trust anchor over runs of the system: the guards on histories (`regular`,
`lowReassociation`, `benign`), the invariant `NumInv` that orders the numbers of signers, responses and proxy,
and from it that the published number does not decrease over a benign run (`number_runWith`).
-/
import KrillModel.Ta.Invariant
namespace KM.Ta

/-- Standing assumption on histories: the first association of the proxy with a signer
(`addSigner`, possible once per proxy) happens while no signer request is open, as in every
documented set-up.  Nothing else is assumed about a history. -/
def regular (s : Sys) : Op → Bool
  | .addSigner _ => s.proxy.openNonce.isNone
  | _ => true

/-- The recorded exception F-C15-2, as a guard on single steps: the proxy is re-associated
(`UpdateSigner`) with a signer whose manifest number is behind the one the proxy publishes – a
signer initialised again with the same TA key and a too low initial number. -/
def lowReassociation (s : Sys) : Op → Bool
  | .updateSigner id =>
    match s.proxy.number, aget s.signers id with
    | some a, some t => decide (t.objects.number < a)
    | _, _ => false
  | _ => false

/-- Regular and not the recorded exception.  (A forced manifest number that does not exceed the
signer's current one and a signer update while a request is open are refused by the code since
109701d8 / 764cd480, so they need no exclusion.) -/
def benign (s : Sys) (o : Op) : Bool := regular s o && !lowReassociation s o

theorem benign_regular (s : Sys) (o : Op) (h : benign s o = true) : regular s o = true := by
  simp only [benign, Bool.and_eq_true] at h; exact h.1

theorem benign_update (s : Sys) (id : Key) (a : Nat) (t : Signer)
    (h : benign s (.updateSigner id) = true) (h1 : s.proxy.number = some a)
    (h2 : aget s.signers id = some t) : a ≤ t.objects.number := by
  simp only [benign, regular, lowReassociation, h1, h2, Bool.true_and, Bool.not_eq_true',
    decide_eq_false_iff_not, Nat.not_lt] at h
  exact h

/-- `≤` on published numbers; `none` (nothing published yet) is below everything. -/
def numLe : Option Nat → Option Nat → Bool
  | none, _ => true
  | some a, some b => decide (a ≤ b)
  | some _, none => false

/-- `<` on published numbers; nothing is strictly below or above `none`. -/
def numLt : Option Nat → Option Nat → Bool
  | some a, some b => decide (a < b)
  | _, _ => false

theorem numLe_refl (x : Option Nat) : numLe x x = true := by
  cases x with
  | none => rfl
  | some a => exact decide_eq_true (Nat.le_refl a)

theorem numLe_trans {x y z : Option Nat} (h1 : numLe x y = true) (h2 : numLe y z = true) :
    numLe x z = true := by
  cases x with
  | none => rfl
  | some a =>
    cases y with
    | none => cases h1
    | some b =>
      cases z with
      | none => cases h2
      | some c => exact decide_eq_true (Nat.le_trans (of_decide_eq_true h1) (of_decide_eq_true h2))

theorem numLe_of_numLt {x y : Option Nat} (h : numLt x y = true) : numLe x y = true := by
  cases x with
  | none => rfl
  | some a =>
    cases y with
    | none => cases h
    | some b => exact decide_eq_true (Nat.le_of_lt (of_decide_eq_true h))

/-- What the numbers in the system have to do with each other: a signer is never behind a response
it has made nor behind the proxy associated with it, and a response made under the open nonce is
ahead of the proxy. -/
structure NumInv (s : Sys) : Prop where
  respLe : ∀ id t, aget s.signers id = some t → ∀ rb, (id, rb) ∈ s.resps →
      rb.objects.number ≤ t.objects.number
  proxyLe : ∀ i, s.proxy.signer = some i → ∀ t, aget s.signers i.idKey = some t →
      i.objects.number ≤ t.objects.number
  openGt : ∀ n i, s.proxy.openNonce = some n → s.proxy.signer = some i →
      ∀ rb, (i.idKey, rb) ∈ s.resps → rb.nonce = n → i.objects.number < rb.objects.number
  respNonces : ∀ id rb, (id, rb) ∈ s.resps → rb.nonce ∈ s.nonces

theorem numInv_init (k : Key) : NumInv (Sys.init k) where
  respLe := fun _ _ h => nomatch h
  proxyLe := fun _ h => nomatch h
  openGt := fun _ _ h => nomatch h
  respNonces := fun _ _ h => nomatch h

/-- `NumInv` speaks of the signers, their responses, the nonces seen and the proxy's association
and open nonce only. -/
theorem NumInv.congr {s s' : Sys} (h : NumInv s) (h1 : s'.signers = s.signers)
    (h2 : s'.resps = s.resps) (h3 : ∀ n ∈ s.nonces, n ∈ s'.nonces)
    (h4 : s'.proxy.signer = s.proxy.signer) (h5 : s'.proxy.openNonce = s.proxy.openNonce) :
    NumInv s' where
  respLe := by rw [h1, h2]; exact h.respLe
  proxyLe := by rw [h1, h4]; exact h.proxyLe
  openGt := by rw [h2, h4, h5]; exact h.openGt
  respNonces := fun id rb hrb => h3 _ (h.respNonces id rb (h2 ▸ hrb))

theorem numInv_assoc (s : Sys) (id : Key) (t : Signer) (ht : aget s.signers id = some t)
    (hopen : s.proxy.openNonce = none) (hi : Inv s) (h : NumInv s) :
    NumInv { s with proxy := { s.proxy with signer := some t.info } } :=
  { h with
    proxyLe := fun i hsig t' ht' => by
      cases hsig
      rw [Signer.info, hi.signerIds id t ht, ht] at ht'
      cases ht'
      exact Nat.le_refl _
    openGt := fun n i hn => by rw [hopen] at hn; cases hn }

theorem numInv_putSigner (s : Sys) (id : Key) (t' : Signer) (hi : Inv s) (h : NumInv s)
    (hge : ∀ t, aget s.signers id = some t → t.objects.number ≤ t'.objects.number) :
    NumInv { s with signers := aput s.signers id t' } := by
  -- whoever was there before is not ahead of who is there now
  have old : ∀ id' t'', aget (aput s.signers id t') id' = some t'' → ahas s.signers id' = true →
      ∃ t0, aget s.signers id' = some t0 ∧ t0.objects.number ≤ t''.objects.number :=
    fun id' t'' ht'' hid' => by
      rcases aget_aput_cases ht'' with ⟨rfl, rfl⟩ | ⟨_, ht''⟩
      · obtain ⟨t, ht⟩ := aget_of_ahas hid'
        exact ⟨t, ht, hge t ht⟩
      · exact ⟨t'', ht'', Nat.le_refl _⟩
  refine ⟨fun id' t'' ht'' rb hrb => ?_, fun i hsig t'' ht'' => ?_, h.openGt, h.respNonces⟩
  · obtain ⟨t0, ht0, hle⟩ := old id' t'' ht'' (hi.respKeys id' rb hrb)
    exact Nat.le_trans (h.respLe id' t0 ht0 rb hrb) hle
  · obtain ⟨t1, ht1, _⟩ := hi.assoc i hsig
    obtain ⟨t0, ht0, hle⟩ := old _ t'' ht'' (ahas_of_aget ht1)
    exact Nat.le_trans (h.proxyLe i hsig t0 ht0) hle

theorem numInv_step (s : Sys) (o : Op) (hi : Inv s) (h : NumInv s)
    (ha : admissible s o = true) (hb : regular s o = true) : NumInv (step s o) := by
  have he := step_effect s o
  generalize step s o = s' at he
  cases he with
  | nonceSpent n => exact h.congr rfl rfl (fun _ hn => List.mem_cons_of_mem _ hn) rfl rfl
  | makeRequest n hopen =>
    have hfresh := admissible_makeRequest ha
    refine ⟨h.respLe, h.proxyLe, fun n' i hn' hsig rb hrb hnn => ?_,
      fun id rb hrb => List.mem_cons_of_mem _ (h.respNonces id rb hrb)⟩
    -- no response carries a fresh nonce
    cases hn'
    exact absurd (hnn ▸ h.respNonces _ rb hrb) hfresh
  | signerInit id pk tk num =>
    have hnew := admissible_signerInit ha
    exact numInv_putSigner s id _ hi h fun t ht => by rw [ahas_of_aget ht] at hnew; cases hnew
  | addSigner id t ht => exact numInv_assoc s id t ht (Option.isNone_iff_eq_none.mp hb) hi h
  | updateSigner id t ht hopen => exact numInv_assoc s id t ht hopen hi h
  | sign id m ovr t t' r ht hp =>
    have ans := processSignerRequest_ok t t' m ovr r hp
    -- the signer that answered has moved ahead, to the number of its new response
    have h1 := numInv_putSigner s id t' hi h fun t0 ht0 => by
      rw [ht] at ht0; cases ht0; exact ans.objects ▸ Nat.le_of_lt ans.rises
    refine ⟨fun id' t'' ht'' rb hrb => ?_, h1.proxyLe, fun n i hn hsig rb hrb hrn => ?_,
      fun id' rb hrb => ?_⟩
    · rcases List.mem_cons.mp hrb with heq | hold
      · cases heq
        rw [aget_aput, if_pos rfl] at ht''
        cases ht''
        exact Nat.le_of_eq (congrArg _ ans.objects).symm
      · exact h1.respLe id' t'' ht'' rb hold
    · rcases List.mem_cons.mp hrb with heq | hold
      · cases heq
        exact Nat.lt_of_le_of_lt (h.proxyLe i hsig t ht) (ans.objects ▸ ans.rises)
      · exact h.openGt n i hn hsig rb hold hrn
    · rcases List.mem_cons.mp hrb with heq | hold
      · cases heq; rw [ans.nonce]; exact List.mem_cons_self
      · exact List.mem_cons_of_mem _ (h.respNonces id' rb hold)
  | respond m i hn hsig hv =>
    obtain ⟨hres, _⟩ := respond_facts s m i hi ha hn hsig hv
    obtain ⟨a1, a2, _⟩ := apply_response s.proxy m.clear
    refine ⟨h.respLe, fun i' hi' t' ht' => ?_, fun n' i' hn' => ?_, h.respNonces⟩
    · rw [a2, hsig, Option.map_some, Option.some.injEq] at hi'
      subst hi'
      exact h.respLe i.idKey t' ht' m.clear hres
    · rw [a1] at hn'; cases hn'
  -- what is left touches neither the signers, their responses, nor the proxy's association and nonce
  | _ => exact h.congr rfl rfl (fun _ hn => hn) rfl rfl

theorem number_accept (s : Sys) (m : Signed RespBody) (evs : List Ev) (hi : Inv s) (h : NumInv s)
    (ha : admissible s (.respond m) = true)
    (hp : process s.proxy (.processSignerResponse m) = .ok evs) :
    numLt s.proxy.number (step s (.respond m)).proxy.number = true := by
  obtain ⟨i, hn, hsig, hv, _⟩ := processSignerResponse_ok_iff.mp hp
  obtain ⟨hres, _⟩ := respond_facts s m i hi ha hn hsig hv
  obtain ⟨-, hsigner, -⟩ := apply_response s.proxy m.clear
  rw [step_respond_proxy hp, Proxy.number, Proxy.number, hsigner, hsig]
  exact decide_eq_true (h.openGt _ i hn hsig m.clear hres rfl)

theorem number_step (s : Sys) (o : Op) (hi : Inv s) (h : NumInv s)
    (ha : admissible s o = true) (hb : benign s o = true) :
    numLe s.proxy.number (step s o).proxy.number = true := by
  have he := step_effect s o
  generalize hs' : step s o = s' at he
  -- only an association and an accepted response change what the proxy publishes
  cases he with
  | addSigner id t ht hnone =>
    -- nothing was published before
    rw [Proxy.number, hnone]; rfl
  | updateSigner id t ht hopen s0 hs0 =>
    rw [Proxy.number, hs0]
    exact decide_eq_true (benign_update s id _ t hb (by rw [Proxy.number, hs0]; rfl) ht)
  | respond m i hn hsig hv =>
    rw [← hs']
    exact numLe_of_numLt (number_accept s m _ hi h ha (processSignerResponse_ok_iff.mpr ⟨i, hn, hsig, hv, rfl⟩))
  | _ => exact numLe_refl _

theorem numInv_runWith (ok : Sys → Op → Bool) (hok : ∀ s o, ok s o = true → regular s o = true)
    (s s' : Sys) (ops : List Op) (hi : Inv s) (hn : NumInv s) (hr : runWith ok s ops = some s') :
    Inv s' ∧ NumInv s' :=
  runWith_invariant ok (fun s => Inv s ∧ NumInv s)
    (fun s o ⟨a, b⟩ ha hb => ⟨inv_step s o a ha, numInv_step s o a b ha (hok s o hb)⟩) s s' ops ⟨hi, hn⟩ hr

theorem number_runWith (s s' : Sys) (ops : List Op) (hi : Inv s) (hn : NumInv s)
    (hr : runWith benign s ops = some s') : numLe s.proxy.number s'.proxy.number = true :=
  (runWith_invariant benign (fun x => (Inv x ∧ NumInv x) ∧ numLe s.proxy.number x.proxy.number = true)
    (fun x o ⟨⟨a, b⟩, c⟩ ha hb =>
      ⟨⟨inv_step x o a ha, numInv_step x o a b ha (benign_regular x o hb)⟩,
        numLe_trans c (number_step x o a b ha hb)⟩)
    s s' ops ⟨⟨hi, hn⟩, numLe_refl _⟩ hr).2

end KM.Ta
