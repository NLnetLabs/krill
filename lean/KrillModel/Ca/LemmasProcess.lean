/-
The event list `process` returns is a ready sequence, so the invariant holds in every reachable state.  The class
part of an event (`Rc.applyEv`; `Rc.applyEvs` along a list) is what the later files state their results with.  Three
ways to readiness: events that rewrite one class record are judged on the record, and a class record sees only the
events that name its class - also in the loops over the classes (`forClasses`); events that keep all key states are
ready wherever they were ready before (`Env`); the entitlement loop only adds classes (`Grow`).  Each function of
`process` that emits the events of one class is inverted once (`…_cases`), and so is `process` itself (`Emits`,
`process_cases`).  Used for C04 and C02.
-/
import KrillModel.Ca.LemmasSeq
import KrillModel.Ca.LemmasDomain
import KrillModel.Ca.Reach
namespace KM.CaK
open KM.Res KM.AMap

/-- Class part of `Ca.apply` for the events that rewrite one class record. -/
def Rc.applyEv (rc : Rc) : Ev → Option Rc
  | .key _ ke => (rc.keys.apply ke).map fun ks => { rc with keys := ks }
  | .products _ u => some (rc.applyProducts u)
  | .childCerts _ u => some { rc with certs := rc.certs.applyUpd u }
  | _ => none

/-- Events that rewrite the record of class `r` and nothing else of the class map. -/
def Ev.onClass (r : Rcn) : Ev → Bool
  | .key _ (.unexpected _) => false
  | .key r' _ => r' = r
  | .products r' _ => r' = r
  | .childCerts r' _ => r' = r
  | _ => false

/-- The children after a class-local event: a `ChildCertificatesUpdated` marks its removed keys `revoked`. -/
def childrenAfter (ch : AMap Handle Child) : Ev → AMap Handle Child
  | .childCerts _ u => u.removed.foldl revokeEverywhere ch
  | _ => ch

theorem onClass_cases {r : Rcn} {e : Ev} (h : e.onClass r = true) :
    (∃ ke, e = .key r ke ∧ ∀ k, ke ≠ .unexpected k) ∨ (∃ u, e = .products r u) ∨ ∃ u, e = .childCerts r u := by
  revert h
  fun_cases Ev.onClass r e <;> intro h
  · cases h
  · next r' ke hu => cases of_decide_eq_true h; exact .inl ⟨ke, rfl, hu⟩
  · cases of_decide_eq_true h; exact .inr (.inl ⟨_, rfl⟩)
  · cases of_decide_eq_true h; exact .inr (.inr ⟨_, rfl⟩)
  · cases h

theorem apply_onClass {s : Ca} {r : Rcn} {rc : Rc} {e : Ev} (he : e.onClass r = true)
    (hg : get s.classes r = some rc) :
    s.apply e = (rc.applyEv e).map fun rc' =>
      { s with classes := set s.classes r rc', children := childrenAfter s.children e } := by
  rcases onClass_cases he with ⟨ke, rfl, hu⟩ | ⟨u, rfl⟩ | ⟨u, rfl⟩
  · rw [apply_key hu]
    simp only [Ca.withClass, hg, Rc.applyEv]
    cases rc.keys.apply ke <;> rfl
  · simp only [Ca.apply, Ca.withClass, hg]; rfl
  · simp only [Ca.apply, Ca.withClass, hg]; rfl

/-- Readiness of a class-local event, read off the class record. -/
structure RcReady (rc : Rc) (e : Ev) : Prop where
  good : match e with
    | .key _ (.pendingAdded k) => ∀ c, rc.keys = .active c → k ≠ c.id
    | .key _ (.pendingToNew n) => ∀ p c, rc.keys = .rollPending p c → n.id = p.id
    | _ => True
  app : (rc.applyEv e).isSome = true
  obj : match e with
    | .products .. => rc.keys.current.isSome = true
    | .childCerts .. => rc.keys.current.isSome = true
    | .key _ (.received ki _) => ki ∈ rc.keys.certified
    | _ => True

theorem ready_of_rc {s : Ca} {r : Rcn} {rc : Rc} {e : Ev} (he : e.onClass r = true)
    (hg : get s.classes r = some rc) (h : RcReady rc e) : Ready s e := by
  obtain ⟨hgood, happ, hobj⟩ := h
  have hrc : ∀ {rc'}, get s.classes r = some rc' → rc' = rc := fun h' => Option.some.inj (h'.symm.trans hg)
  have app : (s.apply e).isSome = true := by rw [apply_onClass he hg, Option.isSome_map]; exact happ
  rcases onClass_cases he with ⟨ke, rfl, _⟩ | ⟨u, rfl⟩ | ⟨u, rfl⟩
  · cases ke with
    | pendingAdded k => exact ⟨fun rc' c hg' hk => by cases hrc hg'; exact hgood c hk, app, trivial⟩
    | pendingToNew n => exact ⟨fun rc' p c hg' hk => by cases hrc hg'; exact hgood p c hk, app, trivial⟩
    | received ki cert => exact ⟨trivial, app, rc, hg, hobj⟩
    | _ => exact ⟨trivial, app, trivial⟩
  · exact ⟨trivial, app, rc, hg, hobj⟩
  · exact ⟨trivial, app, rc, hg, hobj⟩

def RcReadySeq (rc : Rc) : List Ev → Prop
  | [] => True
  | e :: es => RcReady rc e ∧ ∀ rc', rc.applyEv e = some rc' → RcReadySeq rc' es

def Rc.applyEvs (rc : Rc) : List Ev → Option Rc
  | [] => some rc
  | e :: es => (rc.applyEv e).bind (·.applyEvs es)

theorem isSome_revokeAll (ks : List KeyId) (m : AMap Handle Child) (ch : Handle) :
    (get (ks.foldl revokeEverywhere m) ch).isSome = (get m ch).isSome := by
  induction ks generalizing m with
  | nil => rfl
  | cons k ks ih =>
    simp only [List.foldl_cons]
    rw [ih, get_revokeEverywhere, Option.isSome_map]

theorem onClass_unique {e : Ev} {r r' : Rcn} (h : e.onClass r = true) (h' : e.onClass r' = true) : r' = r := by
  rcases onClass_cases h with ⟨ke, rfl, hu⟩ | ⟨u, rfl⟩ | ⟨u, rfl⟩
  · cases ke <;> first | exact (of_decide_eq_true h').symm | exact absurd rfl (hu _)
  · exact (of_decide_eq_true h').symm
  · exact (of_decide_eq_true h').symm

theorem apply_onClass_none {s : Ca} {r : Rcn} {e : Ev} (he : e.onClass r = true) (hg : get s.classes r = none) :
    s.apply e = none := by
  rcases onClass_cases he with ⟨ke, rfl, hu⟩ | ⟨u, rfl⟩ | ⟨u, rfl⟩
  · rw [apply_key hu]; simp only [Ca.withClass, hg]
  · simp only [Ca.apply, Ca.withClass, hg]
  · simp only [Ca.apply, Ca.withClass, hg]

/-- The events of `evs` that rewrite the record of class `r`. -/
abbrev evsOf (r : Rcn) (evs : List Ev) : List Ev := evs.filter (·.onClass r)

theorem evsOf_cons_of_ne {e : Ev} {r r' : Rcn} (he : e.onClass r' = true) (hr : r ≠ r') (es : List Ev) :
    evsOf r (e :: es) = evsOf r es :=
  List.filter_cons_of_neg fun h => hr (onClass_unique he h)

theorem evsOf_eq_self {r : Rcn} {evs : List Ev} (he : ∀ e ∈ evs, e.onClass r = true) : evsOf r evs = evs :=
  List.filter_eq_self.mpr he

theorem evsOf_eq_nil {r r2 : Rcn} {evs : List Ev} (he : ∀ e ∈ evs, e.onClass r = true) (hr : r2 ≠ r) :
    evsOf r2 evs = [] :=
  List.filter_eq_nil_iff.mpr fun e hm h2 => hr (onClass_unique (he e hm) h2)

/-- Along events that each rewrite one class record, a class sees its own events and no others. -/
theorem get_applyAll {evs : List Ev} (hon : ∀ e ∈ evs, ∃ r', e.onClass r' = true) {s s' : Ca}
    (hs : s.applyAll evs = some s') :
    s'.hasRepo = s.hasRepo ∧ ∀ r,
      match get s.classes r with
      | none => get s'.classes r = none
      | some rc => ∃ rc', rc.applyEvs (evsOf r evs) = some rc' ∧ get s'.classes r = some rc' := by
  induction evs generalizing s with
  | nil => cases hs; exact ⟨rfl, fun r => by split <;> first | assumption | exact ⟨_, rfl, ‹_›⟩⟩
  | cons e es ih =>
    obtain ⟨⟨r', he⟩, hes⟩ := List.forall_mem_cons.mp hon
    obtain ⟨s1, hs1, hs⟩ := Option.bind_eq_some_iff.mp hs
    cases hg' : get s.classes r' with
    | none => rw [apply_onClass_none he hg'] at hs1; cases hs1
    | some rc0 =>
      rw [apply_onClass he hg'] at hs1
      obtain ⟨rc1, hrc, rfl⟩ := Option.map_eq_some_iff.mp hs1
      refine ⟨(ih hes hs).1, fun r => ?_⟩
      have ih := (ih hes hs).2 r
      by_cases hr : r = r'
      · subst hr
        simp only [get_set_self] at ih
        obtain ⟨rc', h1, h2⟩ := ih
        rw [hg']
        exact ⟨rc', by simp only [evsOf, List.filter_cons_of_pos he, Rc.applyEvs, hrc, Option.bind_some]; exact h1, h2⟩
      · simp only [get_set_ne _ _ (Ne.symm hr)] at ih
        rw [evsOf_cons_of_ne he hr]
        exact ih

/-- Events that each rewrite a class record that is there form a ready sequence if, for every class, its own events
are ready on its record. -/
theorem readySeq_of_evsOf {evs : List Ev} {s : Ca}
    (hon : ∀ e ∈ evs, ∃ r', e.onClass r' = true ∧ (get s.classes r').isSome = true)
    (h : ∀ r rc, get s.classes r = some rc → RcReadySeq rc (evsOf r evs)) : ReadySeq s evs := by
  induction evs generalizing s with
  | nil => trivial
  | cons e es ih =>
    obtain ⟨⟨r', he, hex⟩, hes⟩ := List.forall_mem_cons.mp hon
    obtain ⟨rc0, hg⟩ := Option.isSome_iff_exists.mp hex
    have h0 := h r' rc0 hg
    rw [evsOf, List.filter_cons_of_pos he] at h0
    refine ⟨ready_of_rc he hg h0.1, fun s' hs' => ?_⟩
    rw [apply_onClass he hg] at hs'
    obtain ⟨rc1, hrc, rfl⟩ := Option.map_eq_some_iff.mp hs'
    refine ih (fun e' he' => ?_) fun r rc hgr => ?_
    · obtain ⟨r2, h1, h2⟩ := hes e' he'
      exact ⟨r2, h1, isSome_get_set_of_isSome _ h2⟩
    · by_cases hr : r = r'
      · subst hr
        rw [get_set_self] at hgr
        cases hgr
        exact h0.2 _ hrc
      · rw [get_set_ne _ _ (Ne.symm hr)] at hgr
        rw [← evsOf_cons_of_ne he hr]
        exact h r rc hgr

theorem readySeq_of_rc {s : Ca} {r : Rcn} {rc : Rc} {evs : List Ev}
    (he : ∀ e ∈ evs, e.onClass r = true) (hg : get s.classes r = some rc) (h : RcReadySeq rc evs) :
    ReadySeq s evs := by
  refine readySeq_of_evsOf (fun e hm => ⟨r, he e hm, Option.isSome_of_eq_some hg⟩) fun r2 rc2 hg2 => ?_
  by_cases hr : r2 = r
  · subst hr
    cases hg.symm.trans hg2
    rwa [evsOf_eq_self he]
  · rw [evsOf_eq_nil he hr]
    trivial

/-- From `s` to `s'`, of the class records only that of `r` has changed, to `rc'`, and the repository is as it was. -/
structure OnlyClass (s s' : Ca) (r : Rcn) (rc' : Rc) : Prop where
  classAt : get s'.classes r = some rc'
  frame : ∀ r2, r2 ≠ r → get s'.classes r2 = get s.classes r2
  hasRepo : s'.hasRepo = s.hasRepo

theorem applyAll_of_rc {s s' : Ca} {r : Rcn} {rc : Rc} {evs : List Ev}
    (he : ∀ e ∈ evs, e.onClass r = true) (hg : get s.classes r = some rc)
    (hs : s.applyAll evs = some s') : ∃ rc', rc.applyEvs evs = some rc' ∧ OnlyClass s s' r rc' := by
  obtain ⟨hrepo, hget⟩ := get_applyAll (fun e hm => ⟨r, he e hm⟩) hs
  have h1 := hget r
  rw [hg, evsOf_eq_self he] at h1
  obtain ⟨rc', happ, hg'⟩ := h1
  refine ⟨rc', happ, hg', fun r2 hr2 => ?_, hrepo⟩
  -- `r2` has no events in `evs`: its record, if it has one, goes by `Rc.applyEvs []`
  have h2 := hget r2
  rw [evsOf_eq_nil he hr2] at h2
  cases hg2 : get s.classes r2 with
  | none => rwa [hg2] at h2
  | some rc2 =>
    rw [hg2] at h2
    obtain ⟨_, h3, h4⟩ := h2
    cases h3
    exact h4

/-- A loop over the class list that fails as a whole when one class fails. -/
def forClasses (f : Rcn → Rc → Except Err (List Ev)) : List (Rcn × Rc) → Except Err (List Ev)
  | [] => .ok []
  | p :: ps =>
    match f p.1 p.2 with
    | .error e => .error e
    | .ok a =>
      match forClasses f ps with
      | .error e => .error e
      | .ok b => .ok (a ++ b)

theorem forClasses_cons {f : Rcn → Rc → Except Err (List Ev)} {p : Rcn × Rc} {ps : List (Rcn × Rc)}
    {evs : List Ev} (h : forClasses f (p :: ps) = .ok evs) :
    ∃ a b, f p.1 p.2 = .ok a ∧ forClasses f ps = .ok b ∧ evs = a ++ b := by
  simp only [forClasses] at h
  cases hfp : f p.1 p.2 with
  | error e => simp [hfp] at h
  | ok a =>
    cases hrest : forClasses f ps with
    | error e => simp [hfp, hrest] at h
    | ok b => simp only [hfp, hrest, Except.ok.injEq] at h; exact ⟨a, b, rfl, rfl, h.symm⟩

theorem mem_forClasses {f : Rcn → Rc → Except Err (List Ev)} {l : List (Rcn × Rc)} {evs : List Ev}
    (h : forClasses f l = .ok evs) {e : Ev} (he : e ∈ evs) :
    ∃ p ∈ l, ∃ a, f p.1 p.2 = .ok a ∧ e ∈ a := by
  induction l generalizing evs with
  | nil => cases h; cases he
  | cons p ps ih =>
    obtain ⟨a, b, hfp, hrest, rfl⟩ := forClasses_cons h
    rcases List.mem_append.mp he with he | he
    · exact ⟨p, List.mem_cons_self .., a, hfp, he⟩
    · obtain ⟨q, hq, a', ha', he'⟩ := ih hrest he
      exact ⟨q, List.mem_cons_of_mem _ hq, a', ha', he'⟩

/-- In the output of a class loop the events of a class of the list are its chunk, and no other class has any. -/
theorem forClasses_evsOf {f : Rcn → Rc → Except Err (List Ev)}
    (hf : ∀ r rc a, f r rc = .ok a → ∀ e ∈ a, e.onClass r = true)
    {l : List (Rcn × Rc)} {evs : List Ev} (hnd : (keys l).Nodup) (h : forClasses f l = .ok evs) :
    (∀ e ∈ evs, ∃ r', e.onClass r' = true) ∧ (∀ p ∈ l, f p.1 p.2 = .ok (evsOf p.1 evs)) ∧
      ∀ r, r ∉ keys l → evsOf r evs = [] := by
  have hother : ∀ {r : Rcn} {l' : List (Rcn × Rc)} {c : List Ev}, forClasses f l' = .ok c → r ∉ keys l' → evsOf r c = [] :=
    fun hc hr => List.filter_eq_nil_iff.mpr fun e he h => by
      obtain ⟨p', hp', a, ha, hea⟩ := mem_forClasses hc he
      exact hr (List.mem_map.mpr ⟨p', hp', onClass_unique h (hf _ _ _ ha e hea)⟩)
  refine ⟨fun e he => let ⟨p, _, a, ha, hea⟩ := mem_forClasses h he; ⟨p.1, hf _ _ _ ha e hea⟩, ?_, fun r => hother h⟩
  induction l generalizing evs with
  | nil => exact fun _ hp => nomatch hp
  | cons q ps ih =>
    obtain ⟨a, b, hfq, hrest, rfl⟩ := forClasses_cons h
    obtain ⟨hq, hnd'⟩ := List.nodup_cons.mp hnd
    intro p hp
    simp only [evsOf, List.filter_append]
    rcases List.mem_cons.mp hp with rfl | hp
    · rw [show b.filter (·.onClass p.1) = [] from hother hrest hq, List.append_nil,
        List.filter_eq_self.mpr fun e he => hf _ _ _ hfq e he]
      exact hfq
    · have ha : a.filter (·.onClass p.1) = [] := List.filter_eq_nil_iff.mpr fun e he h =>
        hq (List.mem_map.mpr ⟨p, hp, onClass_unique (hf _ _ _ hfq e he) h⟩)
      rw [ha, List.nil_append]
      exact ih hnd' hrest p hp

/-- If every class's chunk is class-local and ready on the class record, the loop's output is a ready sequence. -/
theorem readySeq_forClasses {f : Rcn → Rc → Except Err (List Ev)}
    (hf : ∀ r rc evs, f r rc = .ok evs → (∀ e ∈ evs, e.onClass r = true) ∧ RcReadySeq rc evs)
    {evs : List Ev} {s : Ca} (hnd : (keys s.classes).Nodup) (h : forClasses f s.classes = .ok evs) :
    ReadySeq s evs := by
  obtain ⟨_, hchunk, _⟩ := forClasses_evsOf (fun r rc a h => (hf r rc a h).1) hnd h
  refine readySeq_of_evsOf (fun e he => ?_) fun r rc hg => (hf _ _ _ (hchunk (r, rc) (mem_of_get hg))).2
  obtain ⟨p, hp, a, ha, hea⟩ := mem_forClasses h he
  exact ⟨p.1, (hf _ _ _ ha).1 e hea, get_isSome_of_mem hp⟩

theorem forClasses_nil {f : Rcn → Rc → Except Err (List Ev)} {l : List (Rcn × Rc)} {evs : List Ev}
    (h : forClasses f l = .ok evs) (hf : ∀ p ∈ l, ∀ a, f p.1 p.2 = .ok a → a = []) : evs = [] := by
  cases evs with
  | nil => rfl
  | cons e es =>
    obtain ⟨p, hp, a, ha, he⟩ := mem_forClasses h (List.mem_cons_self ..)
    rw [hf p hp a ha] at he; cases he

theorem forClasses_ok_of_all {f : Rcn → Rc → Except Err (List Ev)} {l : List (Rcn × Rc)}
    (h : ∀ p ∈ l, ∃ evs, f p.1 p.2 = .ok evs) : ∃ evs, forClasses f l = .ok evs := by
  induction l with
  | nil => exact ⟨[], rfl⟩
  | cons p ps ih =>
    obtain ⟨a, ha⟩ := h p (List.mem_cons_self ..)
    obtain ⟨b, hb⟩ := ih (fun q hq => h q (List.mem_cons_of_mem _ hq))
    exact ⟨a ++ b, by simp only [forClasses, ha, hb]⟩

/-- ROA/ASPA/BGPsec object updates and child certificate updates. -/
def Ev.isPayload : Ev → Bool
  | .products .. => true
  | .childCerts .. => true
  | _ => false

theorem applyEv_cases {rc rc' : Rc} {e : Ev} (h : rc.applyEv e = some rc') :
    (∃ r ke ks', e = .key r ke ∧ rc.keys.apply ke = some ks' ∧ rc' = { rc with keys := ks' }) ∨
    (∃ r u, e = .products r u ∧ rc' = rc.applyProducts u) ∨
    (∃ r u, e = .childCerts r u ∧ rc' = { rc with certs := rc.certs.applyUpd u }) := by
  revert h
  fun_cases Rc.applyEv rc e <;> intro h
  case case1 r ke =>
    cases hk : rc.keys.apply ke with
    | none => rw [hk] at h; cases h
    | some ks' => rw [hk] at h; cases h; exact Or.inl ⟨r, ke, ks', rfl, hk, rfl⟩
  · cases h; exact Or.inr (Or.inl ⟨_, _, rfl, rfl⟩)
  · cases h; exact Or.inr (Or.inr ⟨_, _, rfl, rfl⟩)
  · cases h

theorem applyEv_current {rc rc' : Rc} {e : Ev} (h : rc.applyEv e = some rc')
    (hc : rc.keys.current.isSome = true) : rc'.keys.current.isSome = true := by
  obtain ⟨_, _, _, rfl, hk, rfl⟩ | ⟨_, _, rfl, rfl⟩ | ⟨_, _, rfl, rfl⟩ := applyEv_cases h
  · exact apply_current_isSome hk hc
  · exact hc
  · exact hc

theorem isPayload_cases {e : Ev} (h : e.isPayload = true) :
    (∃ r u, e = .products r u) ∨ ∃ r u, e = .childCerts r u := by
  revert h
  fun_cases Ev.isPayload e <;> intro h
  · exact Or.inl ⟨_, _, rfl⟩
  · exact Or.inr ⟨_, _, rfl⟩
  · cases h

theorem payload_cases {r : Rcn} {e : Ev} (h : e.isPayload = true ∧ e.rcn? = some r) :
    (∃ u, e = .products r u) ∨ ∃ u, e = .childCerts r u := by
  rcases isPayload_cases h.1 with ⟨r', u, rfl⟩ | ⟨r', u, rfl⟩
  · cases h.2; exact .inl ⟨u, rfl⟩
  · cases h.2; exact .inr ⟨u, rfl⟩

theorem payloads_onClass {r : Rcn} {evs : List Ev} (hp : ∀ e ∈ evs, e.isPayload = true ∧ e.rcn? = some r) :
    ∀ e ∈ evs, e.onClass r = true := fun e he => by
  rcases payload_cases (hp e he) with ⟨u, rfl⟩ | ⟨u, rfl⟩ <;> exact decide_eq_true rfl

theorem payloads_ready {r : Rcn} {rc : Rc} {evs : List Ev} (hc : rc.keys.current.isSome = true)
    (hp : ∀ e ∈ evs, e.isPayload = true ∧ e.rcn? = some r) : RcReadySeq rc evs := by
  induction evs generalizing rc with
  | nil => trivial
  | cons e es ih =>
    rcases payload_cases (hp e (List.mem_cons_self ..)) with ⟨u, rfl⟩ | ⟨u, rfl⟩ <;>
      exact ⟨⟨trivial, rfl, hc⟩, fun _ h => ih (by cases h; exact hc) fun e' he' => hp e' (List.mem_cons_of_mem _ he')⟩

theorem cons_payloads_ready {r : Rcn} {rc rc' : Rc} {e : Ev} {evs : List Ev} (h : RcReady rc e)
    (happ : rc.applyEv e = some rc') (hc : rc'.keys.current.isSome = true)
    (hp : ∀ e ∈ evs, e.isPayload = true ∧ e.rcn? = some r) (he : e.onClass r = true) :
    (∀ e' ∈ e :: evs, e'.onClass r = true) ∧ RcReadySeq rc (e :: evs) :=
  ⟨List.forall_mem_cons.mpr ⟨he, payloads_onClass hp⟩,
    h, fun _ h' => by rw [happ] at h'; cases h'; exact payloads_ready hc hp⟩

theorem current_mem_certified {ks : KeyState} {c : CertKey} (h : ks.current = some c) :
    c.id ∈ ks.certified := by
  cases ks <;> cases h <;> simp [KeyState.certified]

theorem renewal_products (r : Rcn) (rc : Rc) (k : PKind) : ∀ e ∈ renewal r rc k, ∃ u, e = Ev.products r u := by
  intro e he
  simp only [renewal] at he
  split at he
  · cases he
  · exact ⟨_, List.mem_singleton.mp he⟩

theorem renewal_payload (r : Rcn) (rc : Rc) (k : PKind) :
    ∀ e ∈ renewal r rc k, e.isPayload = true ∧ e.rcn? = some r := fun e he => by
  obtain ⟨u, rfl⟩ := renewal_products r rc k e he
  exact ⟨rfl, rfl⟩

/-- The `ChildCertificatesUpdated` event that is left out when the update is empty. -/
def certsEv (r : Rcn) (u : CertUpd) : List Ev := if u.isEmpty then [] else [.childCerts r u]

theorem certsEv_payload (r : Rcn) (upd : CertUpd) :
    ∀ e ∈ certsEv r upd, e.isPayload = true ∧ e.rcn? = some r := by
  intro e he
  unfold certsEv at he
  split at he
  · cases he
  · cases List.mem_singleton.mp he; exact ⟨rfl, rfl⟩

theorem prods_products (r : Rcn) (prods : List ProdUpd) :
    ∀ e ∈ (prods.filter (!·.isEmpty)).map (Ev.products r), ∃ u, e = Ev.products r u := fun e he => by
  obtain ⟨u, _, rfl⟩ := List.mem_map.mp he
  exact ⟨u, rfl⟩

theorem prods_payload (r : Rcn) (prods : List ProdUpd) :
    ∀ e ∈ (prods.filter (!·.isEmpty)).map (Ev.products r), e.isPayload = true ∧ e.rcn? = some r := fun e he => by
  obtain ⟨u, rfl⟩ := prods_products r prods e he
  exact ⟨rfl, rfl⟩

theorem ready_single {s : Ca} {e : Ev} (h : Ready s e) : ReadySeq s [e] := ⟨h, fun _ _ => trivial⟩

theorem route_toActive {ks : KeyState} {ki : KeyId} (h : ks.route ki = .ok .toActive) :
    ∃ p, ks = .pending p ∧ ki = p.id := by
  revert h
  fun_cases KeyState.route ks ki <;> intro h <;> cases h
  exact ⟨_, rfl, Classical.not_not.mp ‹_›⟩

theorem route_toNew {ks : KeyState} {ki : KeyId} (h : ks.route ki = .ok .toNew) :
    ∃ p c, ks = .rollPending p c ∧ ki = p.id := by
  revert h
  fun_cases KeyState.route ks ki <;> intro h <;> cases h
  exact ⟨_, _, rfl, ‹_›⟩

theorem route_newCert {ks : KeyState} {ki : KeyId} (h : ks.route ki = .ok .newCert) :
    ∃ n c, ks = .rollNew n c ∧ ki = n.id := by
  revert h
  fun_cases KeyState.route ks ki <;> intro h <;> cases h
  exact ⟨_, _, rfl, ‹_›⟩

theorem route_current {ks : KeyState} {ki : KeyId} {c : CertKey} (h : ks.route ki = .ok (.current c)) :
    ks.current = some c ∧ ki = c.id := by
  revert h
  fun_cases KeyState.route ks ki <;> intro h <;> cases h <;> exact ⟨rfl, Classical.not_not.mp ‹_›⟩

theorem route_current_applyReceived {ks : KeyState} {ki : KeyId} {c : CertKey} (cert : Cert)
    (h : ks.route ki = .ok (.current c)) :
    ∃ ks', ks.applyReceived ki cert = some ks' ∧ ks'.current = some (c.setIncoming cert) ∧
      ks.current = some c := by
  revert h
  fun_cases KeyState.route ks ki <;> intro h
  -- `active` and `rollPending`: the only certified key; `rollNew`: not the new key; `rollOld`: the current key
  case case4 | case7 => cases h; exact ⟨_, rfl, rfl, rfl⟩
  case case10 hne _ => cases h; exact ⟨_, if_neg fun he => hne he.symm, rfl, rfl⟩
  case case12 hne => cases h; exact ⟨_, if_pos (Classical.not_not.mp hne).symm, rfl, rfl⟩
  all_goals cases h

theorem rcReady_received {rc : Rc} {r : Rcn} {ki : KeyId} {cert : Cert} (hm : ki ∈ rc.keys.certified) :
    RcReady rc (.key r (.received ki cert)) := by
  refine ⟨trivial, ?_, hm⟩
  simp only [Rc.applyEv, Option.isSome_map, keyApply_isSome]
  cases hk : rc.keys with
  | pending p => rw [hk] at hm; cases hm
  | _ => rfl

/-- `process_rcvd_cert_current`: the certificate alone when the resources are the same; otherwise followed by
the shrink of the child certificates and the object updates. -/
theorem rcvdCertCurrent_cases {rc : Rc} {rcn : Rcn} {c : CertKey} {ki : KeyId} {cert : Cert} {na : Int}
    {prods : List ProdUpd} {evs : List Ev} (h : rc.rcvdCertCurrent rcn c ki cert na prods = .ok evs) :
    (seteq cert.res c.cert.res = true ∧ evs = [.key rcn (.received ki cert)]) ∨
    ∃ upd, rc.certs.shrinkOverclaiming cert na = .ok upd ∧
      evs = .key rcn (.received ki cert) :: (certsEv rcn upd ++ (prods.filter (!·.isEmpty)).map (.products rcn)) := by
  revert h
  fun_cases Rc.rcvdCertCurrent rc rcn c ki cert na prods <;> intro h <;> cases h
  · exact .inl ⟨‹_›, rfl⟩
  · exact .inr ⟨_, ‹_›, rfl⟩

theorem readySeq_rcvdCertCurrent {s : Ca} {rcn : Rcn} {rc : Rc} {c : CertKey} {ki : KeyId} {cert : Cert}
    {na : Int} {prods : List ProdUpd} {evs : List Ev} (hg : get s.classes rcn = some rc)
    (hr : rc.keys.route ki = .ok (.current c)) (h : rc.rcvdCertCurrent rcn c ki cert na prods = .ok evs) :
    ReadySeq s evs := by
  obtain ⟨hcur, rfl⟩ := route_current hr
  have hrecv := rcReady_received (r := rcn) (cert := cert) (current_mem_certified hcur)
  obtain ⟨rc', happ⟩ := Option.isSome_iff_exists.mp hrecv.app
  have hchunk := fun pay hpay => cons_payloads_ready (evs := pay) hrecv happ
    (applyEv_current happ (Option.isSome_of_eq_some hcur)) hpay (decide_eq_true rfl)
  obtain ⟨_, rfl⟩ | ⟨upd, _, rfl⟩ := rcvdCertCurrent_cases h
  · exact readySeq_of_rc (hchunk [] (List.forall_mem_nil _)).1 hg (hchunk [] (List.forall_mem_nil _)).2
  · have h12 := hchunk _ (List.forall_mem_append.mpr ⟨certsEv_payload rcn upd, prods_payload rcn prods⟩)
    exact readySeq_of_rc h12.1 hg h12.2

/-- Two aggregate states with the same class names, key states and children names. -/
structure Env (s s' : Ca) : Prop where
  keys : ∀ r, (get s'.classes r).map (·.keys) = (get s.classes r).map (·.keys)
  child : ∀ ch, (get s'.children ch).isSome = (get s.children ch).isSome

theorem Env.refl (s : Ca) : Env s s := ⟨fun _ => rfl, fun _ => rfl⟩

theorem Env.trans {a b c : Ca} (h1 : Env a b) (h2 : Env b c) : Env a c :=
  ⟨fun r => (h2.keys r).trans (h1.keys r), fun ch => (h2.child ch).trans (h1.child ch)⟩

/-- Events that change no key state, no class name and no child name. -/
def Ev.keysPres : Ev → Bool
  | .products .. => true
  | .childCerts .. => true
  | .childCertIssued .. => true
  | .childKeyRevoked .. => true
  | .childUpdatedResources .. => true
  | .childUpdatedId _ => true
  | .childMapping .. => true
  | .childSuspended _ => true
  | .childUnsuspended _ => true
  | .parentAdded _ => true
  | .repoUpdated => true
  | .other => true
  | .key _ (.unexpected _) => true
  | _ => false

theorem env_withClass {s s' : Ca} {r : Rcn} {f : Rc → Option Rc}
    (hf : ∀ rc rc', f rc = some rc' → rc'.keys = rc.keys) (h : s.withClass r f = some s') : Env s s' := by
  obtain ⟨rc, rc', hg, hrc, rfl⟩ := Ca.withClass_some h
  refine ⟨fun r2 => ?_, fun _ => rfl⟩
  show (get (set s.classes r rc') r2).map (·.keys) = _
  rw [get_set]
  split
  · next h => rw [← h, hg]; exact congrArg some (hf rc rc' hrc)
  · rfl

theorem env_withChild {s s' : Ca} {ch : Handle} {f : Child → Child} (h : s.withChild ch f = some s') :
    Env s s' := by
  obtain ⟨c, hc, rfl⟩ := Ca.withChild_some h
  exact ⟨fun _ => rfl, isSome_get_set _ (Option.isSome_of_eq_some hc)⟩

theorem apply_env {s s' : Ca} {e : Ev} (hp : e.keysPres = true) (ha : s.apply e = some s') : Env s s' := by
  cases e with
  | products r u =>
    dsimp only [Ca.apply] at ha
    exact env_withClass (fun _ _ h => by cases h; rfl) ha
  | childCerts r u =>
    dsimp only [Ca.apply] at ha
    split at ha
    · cases ha
    · next s1 hw =>
      cases ha
      exact Env.trans (env_withClass (fun _ _ h => by cases h; rfl) hw) ⟨fun _ => rfl, fun _ => isSome_revokeAll _ _ _⟩
  | childKeyRevoked ch r k =>
    dsimp only [Ca.apply] at ha
    split at ha
    · cases ha
    · next s1 hw => exact Env.trans (env_withClass (fun _ _ h => by cases h; rfl) hw) (env_withChild ha)
  | childCertIssued | childUpdatedResources | childUpdatedId | childMapping | childSuspended
  | childUnsuspended => exact env_withChild ha
  | parentAdded | repoUpdated | other => cases ha; exact ⟨fun _ => rfl, fun _ => rfl⟩
  | key r ke =>
    cases ke with
    | unexpected k => cases ha; exact Env.refl _
    | _ => exact absurd hp Bool.false_ne_true
  | _ => exact absurd hp Bool.false_ne_true

theorem ready_childCerts {s : Ca} {r : Rcn} {rc : Rc} (u : CertUpd) (hg : get s.classes r = some rc)
    (hc : rc.keys.current.isSome = true) : Ready s (.childCerts r u) :=
  ready_of_rc (r := r) (decide_eq_true rfl) hg ⟨trivial, rfl, hc⟩

theorem ready_products {s : Ca} {r : Rcn} {rc : Rc} (u : ProdUpd) (hg : get s.classes r = some rc)
    (hc : rc.keys.current.isSome = true) : Ready s (.products r u) :=
  ready_of_rc (r := r) (decide_eq_true rfl) hg ⟨trivial, rfl, hc⟩

theorem ready_withChild {s : Ca} {e : Ev} {ch : Handle} {f : Child → Child} (ha : s.apply e = s.withChild ch f)
    (hg : Good s e) (ho : ObjReady s e) (hch : (get s.children ch).isSome = true) : Ready s e :=
  ⟨hg, by rw [ha, withChild_isSome]; exact hch, ho⟩

theorem applicable_env {s s1 : Ca} (h : Env s s1) (e : Ev) : applicable s1 e = applicable s e := by
  unfold applicable
  cases e.rcn? with
  | none => simp only [h.child]
  | some r =>
    have := h.keys r
    cases h1 : get s1.classes r <;> cases h0 : get s.classes r <;>
      simp only [h1, h0, Option.map_some, Option.map_none, Option.some.injEq, reduceCtorEq] at this <;>
      simp only [h.child, h1, h0, this]

/-- Readiness of a key-preserving event is the same in key-equivalent states: `apply` is defined
where the table says, and what else is asked is that some class has a current key. -/
theorem ready_env {s s1 : Ca} {e : Ev} (henv : Env s s1) (hp : e.keysPres = true) (h : Ready s e) :
    Ready s1 e := by
  obtain ⟨hgood, happ, hobj⟩ := h
  have cls : ∀ r, (∃ rc, get s.classes r = some rc ∧ rc.keys.current.isSome = true) →
      ∃ rc, get s1.classes r = some rc ∧ rc.keys.current.isSome = true := by
    intro r ⟨rc, hg, hc⟩
    have hk := henv.keys r
    rw [hg] at hk
    obtain ⟨rc1, hg1, hk1⟩ := Option.map_eq_some_iff.mp hk
    exact ⟨rc1, hg1, (show rc1.keys = rc.keys from hk1) ▸ hc⟩
  have app : (s1.apply e).isSome = true := by
    rwa [apply_isSome_eq_applicable, applicable_env henv, ← apply_isSome_eq_applicable]
  cases e with
  | products r u => exact ⟨trivial, app, cls r hobj⟩
  | childCerts r u => exact ⟨trivial, app, cls r hobj⟩
  | childCertIssued ch r k => exact ⟨cls r hgood, app, trivial⟩
  | key r ke => cases ke <;> first | exact ⟨trivial, app, trivial⟩ | cases hp
  | _ => first | exact ⟨trivial, app, trivial⟩ | cases hp

theorem readySeq_of_all {s : Ca} {evs : List Ev} (h : ∀ e ∈ evs, e.keysPres = true ∧ Ready s e) :
    ReadySeq s evs :=
  (readySeq_of_inv (P := Env s) (fun e he _ henv =>
    have ⟨hp, hr⟩ := h e he
    ⟨ready_env henv hp hr, fun _ hs2 => henv.trans (apply_env hp hs2)⟩) (Env.refl s)).1

/-- `append_child_certify`: the key is booked for the child and a certificate made from the current key's
certificate is issued. -/
theorem childCertifyEvents_cases {s : Ca} {ch : Handle} {res : ResSet} {r : Rcn} {k : KeyId} {l : Limit}
    {na : Int} {evs : List Ev} (h : s.childCertifyEvents ch res r k l na = .ok evs) :
    ∃ rc c cc, get s.classes r = some rc ∧ rc.keys.current = some c ∧
      makeIssued (inter c.cert.res res) l c.cert na = .ok cc ∧
      evs = [.childCertIssued ch r k, .childCerts r { issued := [(k, cc)] }] := by
  revert h
  fun_cases Ca.childCertifyEvents s ch res r k l na <;> intro h <;> cases h
  next rc hg cc hi =>
    revert hi
    fun_cases issueCert rc.keys res l na <;> intro hi
    · cases hi
    · exact ⟨rc, _, cc, hg, ‹_›, hi, rfl⟩

theorem certifyEvents_ready {s : Ca} {ch : Handle} {res : ResSet} {r : Rcn} {k : KeyId} {l : Limit}
    {na : Int} {evs : List Ev} (h : s.childCertifyEvents ch res r k l na = .ok evs)
    (hch : (get s.children ch).isSome = true) : ∀ e ∈ evs, e.keysPres = true ∧ Ready s e := by
  obtain ⟨rc, c, cc, hg, hc, _, rfl⟩ := childCertifyEvents_cases h
  have hcur : rc.keys.current.isSome = true := by rw [hc]; rfl
  exact List.forall_mem_cons.mpr ⟨⟨rfl, ready_withChild rfl ⟨rc, hg, hcur⟩ trivial hch⟩,
    List.forall_mem_singleton.mpr ⟨rfl, ready_childCerts _ hg hcur⟩⟩

theorem class_of_issuedKeys {s : Ca} (hu : UsedInv s) {ch : Handle} {c : Child} {r : Rcn} {rc : Rc}
    (hc : get s.children ch = some c) (hk : (c.issuedKeys r).isEmpty = false)
    (hg : get s.classes r = some rc) : rc.keys.current.isSome = true := by
  obtain ⟨k, hk'⟩ := List.isEmpty_eq_false_iff_exists_mem.mp hk
  exact (hu ch c k r hc (of_decide_eq_true (List.mem_filter.mp hk').2)).2 rc hg

/-- The loops of `process_child_remove` and `process_child_suspend_inactive`: one
`ChildCertificatesUpdated` per class in which the child has keys in use. -/
theorem mem_classEvents {c : Child} {classes : List (Rcn × Rc)} {u : Rcn × Rc → CertUpd} {e : Ev}
    (he : e ∈ classes.filterMap fun p =>
      if (c.issuedKeys p.1).isEmpty then none else some (Ev.childCerts p.1 (u p))) :
    ∃ p, p ∈ classes ∧ (c.issuedKeys p.1).isEmpty = false ∧ e = .childCerts p.1 (u p) := by
  obtain ⟨p, hp, hsome⟩ := List.mem_filterMap.mp he
  split at hsome
  · cases hsome
  · next hk => cases hsome; exact ⟨p, hp, Bool.eq_false_iff.mpr hk, rfl⟩

theorem ready_childCerts_used {s : Ca} (hu : UsedInv s) {ch : Handle} {c : Child}
    (hc : get s.children ch = some c) {p : Rcn × Rc} (hp : p ∈ s.classes)
    (hk : (c.issuedKeys p.1).isEmpty = false) (u : CertUpd) : Ready s (.childCerts p.1 u) := by
  obtain ⟨rc, hg⟩ := Option.isSome_iff_exists.mp (get_isSome_of_mem hp)
  exact ready_childCerts u hg (class_of_issuedKeys hu hc hk hg)

theorem classEvents_ready {s : Ca} (hu : UsedInv s) {ch : Handle} {c : Child} (hc : get s.children ch = some c)
    {u : Rcn × Rc → CertUpd} {e : Ev}
    (he : e ∈ s.classes.filterMap fun p =>
      if (c.issuedKeys p.1).isEmpty then none else some (Ev.childCerts p.1 (u p))) :
    e.keysPres = true ∧ Ready s e := by
  obtain ⟨p, hp, hk, rfl⟩ := mem_classEvents he
  exact ⟨rfl, ready_childCerts_used hu hc hp hk _⟩

/-- What holds of the events of every `append_child_certify` holds of the events of the key loop of
`process_child_unsuspend`. -/
theorem unsuspendKeys_forall {s : Ca} {ch : Handle} {c : Child} {r : Rcn} {rc : Rc} {now1d na : Int}
    (P : Ev → Prop)
    (hP : ∀ res k l evs, s.childCertifyEvents ch res r k l na = .ok evs → ∀ e ∈ evs, P e)
    {ks : List KeyId} {evs : List Ev} {rem : List KeyId}
    (h : unsuspendKeys s ch c r rc now1d na ks = .ok (evs, rem)) : ∀ e ∈ evs, P e := by
  fun_induction unsuspendKeys s ch c r rc now1d na ks generalizing evs rem
  case case1 => cases h; exact fun _ h => nomatch h
  case case2 ih => exact ih h
  -- the key is re-issued / is removed
  case case5 hce _ _ hrest ih => cases h; exact List.forall_mem_append.mpr ⟨hP _ _ _ _ hce, ih hrest⟩
  case case7 hrest ih => cases h; exact ih hrest
  all_goals cases h

/-- The same for the class loop, whose own events remove keys from a class of the list in which the child has some. -/
theorem unsuspendClasses_forall {s : Ca} {ch : Handle} {c : Child} {now1d na : Int} (P : Ev → Prop)
    (hP : ∀ res r k l evs, s.childCertifyEvents ch res r k l na = .ok evs → ∀ e ∈ evs, P e)
    {l : List (Rcn × Rc)}
    (hrem : ∀ p ∈ l, (c.issuedKeys p.1).isEmpty = false → ∀ rem, P (.childCerts p.1 { removed := rem }))
    {evs : List Ev} (h : unsuspendClasses s ch c now1d na l = .ok evs) : ∀ e ∈ evs, P e := by
  fun_induction unsuspendClasses s ch c now1d na l generalizing evs
  case case1 => cases h; exact List.forall_mem_nil _
  case case2 ih => exact ih (fun q hq => hrem q (List.mem_cons_of_mem _ hq)) h
  -- a class with keys of the child: its re-issues, its own removal event, the rest
  case case5 p _ _ hk _ _ hkeys _ hrest ih =>
    cases h
    exact List.forall_mem_append.mpr ⟨List.forall_mem_append.mpr
      ⟨unsuspendKeys_forall P (fun res => hP res _) hkeys,
        List.forall_mem_singleton.mpr (hrem p (List.mem_cons_self ..) (Bool.eq_false_iff.mpr hk) _)⟩,
      ih (fun q hq => hrem q (List.mem_cons_of_mem _ hq)) hrest⟩
  all_goals cases h

/-- `append_keyroll_initiate` for one class, with the input checks of the model. -/
def initClass (fresh : AMap Rcn KeyId) (r : Rcn) (rc : Rc) : Except Err (List Ev) :=
  match rc.keys with
  | .active c =>
    match get fresh r with
    | none => .error .badFreshKey
    | some k => if k = c.id then .error .badFreshKey else .ok ((rc.keys.keyrollInitiate k).map (.key r))
  | _ => .ok []

theorem keyrollInitLoop_eq (fresh : AMap Rcn KeyId) (l : List (Rcn × Rc)) :
    keyrollInitLoop fresh l = forClasses (initClass fresh) l := by
  fun_induction keyrollInitLoop fresh l
  case case1 => rfl
  case case2 hk hf => simp only [forClasses, initClass, hk, hf]
  case case3 hk hf => simp only [forClasses, initClass, hk, hf, if_true]
  case case4 hk _ hf hkc _ hrest ih => simp only [forClasses, initClass, hk, hf, hkc, if_false, ← ih, hrest]
  case case5 hk _ hf hkc _ hrest ih => simp only [forClasses, initClass, hk, hf, hkc, if_false, ← ih, hrest]
  case case6 p ps hk ih =>
    have : initClass fresh p.1 p.2 = .ok [] := by
      unfold initClass; split
      · exact absurd ‹_› (hk _)
      · rfl
    simp only [forClasses, this, ← ih]
    cases keyrollInitLoop fresh ps <;> rfl

theorem initClass_cases {fresh : AMap Rcn KeyId} {r : Rcn} {rc : Rc} {evs : List Ev}
    (h : initClass fresh r rc = .ok evs) :
    (∃ c k, rc.keys = .active c ∧ get fresh r = some k ∧ k ≠ c.id ∧
      evs = [.key r (.pendingAdded k), .key r (.requested k)]) ∨
    ((∀ c, rc.keys ≠ .active c) ∧ evs = []) := by
  revert h
  fun_cases initClass fresh r rc <;> intro h
  -- `active` with a usable fresh key; not `active`; the other two arms are errors
  case case3 c hk k hf hne => cases h; exact Or.inl ⟨c, k, hk, hf, hne, by rw [hk]; rfl⟩
  case case4 hna => cases h; exact Or.inr ⟨hna, rfl⟩
  all_goals cases h

theorem initClass_ready (fresh : AMap Rcn KeyId) (r : Rcn) (rc : Rc) (evs : List Ev)
    (h : initClass fresh r rc = .ok evs) : (∀ e ∈ evs, e.onClass r = true) ∧ RcReadySeq rc evs := by
  obtain ⟨c, k, hk, _, hkc, rfl⟩ | ⟨_, rfl⟩ := initClass_cases h
  · have happ : rc.applyEv (.key r (.pendingAdded k)) = some { rc with keys := .rollPending ⟨k, false⟩ c } := by
      simp only [Rc.applyEv, hk]; rfl
    exact ⟨List.forall_mem_cons.mpr ⟨decide_eq_true rfl, List.forall_mem_singleton.mpr (decide_eq_true rfl)⟩,
      ⟨fun c' hc' => by rw [hk] at hc'; cases hc'; exact hkc, Option.isSome_of_eq_some happ, trivial⟩,
      fun rc' hrc' => ⟨⟨trivial, rfl, trivial⟩, fun _ _ => trivial⟩⟩
  · exact ⟨fun _ he => (nomatch he), trivial⟩

theorem variant_active {ks : KeyState} (h : ks.variant = .active) : ∃ c, ks = .active c := by
  cases ks <;> first | exact ⟨_, rfl⟩ | cases h

theorem initClass_nonactive {fresh : AMap Rcn KeyId} {r : Rcn} {rc : Rc} {a : List Ev}
    (hv : rc.keys.variant ≠ .active) (h : initClass fresh r rc = .ok a) : a = [] := by
  obtain ⟨c, _, hk, _⟩ | ⟨_, rfl⟩ := initClass_cases h
  · exact absurd (hk ▸ rfl) hv
  · rfl

theorem initClass_mem {fresh : AMap Rcn KeyId} {r : Rcn} {rc : Rc} {a : List Ev} {e : Ev}
    (h : initClass fresh r rc = .ok a) (he : e ∈ a) :
    ∃ c k, rc.keys = .active c ∧ (e = .key r (.pendingAdded k) ∨ e = .key r (.requested k)) := by
  obtain ⟨c, k, hk, _, _, rfl⟩ | ⟨_, rfl⟩ := initClass_cases h
  · simp only [List.mem_cons, List.not_mem_nil, or_false] at he
    exact ⟨c, k, hk, he⟩
  · cases he

theorem initClass_ok {fresh : AMap Rcn KeyId} {r : Rcn} {rc : Rc}
    (h : ∀ c, rc.keys = .active c → ∃ k, get fresh r = some k ∧ k ≠ c.id) :
    ∃ evs, initClass fresh r rc = .ok evs := by
  unfold initClass
  cases hk : rc.keys with
  | active c =>
    obtain ⟨k, hk1, hk2⟩ := h c hk
    simp only [hk1, hk2, if_false]; exact ⟨_, rfl⟩
  | _ => exact ⟨[], rfl⟩

theorem initClass_post (fresh : AMap Rcn KeyId) (r : Rcn) (rc : Rc) (evs : List Ev)
    (h : initClass fresh r rc = .ok evs) :
    ∀ rc', rc.applyEvs evs = some rc' → rc'.keys.variant ≠ .active := by
  intro rc' happ
  obtain ⟨c, k, hk, _, _, rfl⟩ | ⟨hna, rfl⟩ := initClass_cases h
  · -- `active` becomes `rollPending`
    simp only [Rc.applyEvs, Rc.applyEv, hk, KeyState.apply, KeyState.applyPendingAdded,
      KeyState.applyRequested, Option.map_some, Option.bind_some, Option.some.injEq] at happ
    subst happ
    simp only
    split <;> (intro hv; cases hv)
  · cases happ
    exact fun hv => let ⟨c, hc⟩ := variant_active hv; hna c hc

theorem activateLoop_eq (na : Int) (l : List (Rcn × Rc)) :
    activateLoop na l = forClasses (fun r rc => activateClass r rc na) l := by
  induction l with
  | nil => rfl
  | cons p ps ih => simp only [activateLoop, forClasses, ih]; rfl

/-- The payload events of the activation chunk: every product renewed under the new key, the
child certificates re-issued in between. -/
def activatePayload (r : Rcn) (rc : Rc) (upd : CertUpd) : List Ev :=
  renewal r rc .roa ++ renewal r rc .aspa ++ certsEv r upd ++ renewal r rc .bgpsec

theorem activateClass_noNew {r : Rcn} {rc : Rc} {na : Int} {evs : List Ev} (hn : rc.keys.newKey = none)
    (h : activateClass r rc na = .ok evs) : evs = [] := by
  simp only [activateClass, hn, Except.ok.injEq] at h; exact h.symm

/-- What `activateClass` found and emitted on a class with new key `n` and current key `c`: `activate_key` succeeded,
neither key has an open request, and the chunk is `KeyRollActivated` followed by the payload events. -/
structure ActivateChunk (r : Rcn) (rc : Rc) (na : Int) (n c : CertKey) (upd : CertUpd) (evs : List Ev) : Prop where
  keys : rc.keys = .rollNew n c
  activateKey : rc.certs.activateKey n.cert na = .ok upd
  newReq : n.req = false
  curReq : c.req = false
  events : evs = .key r .activated :: activatePayload r rc upd

theorem activateClass_rollNew {r : Rcn} {rc : Rc} {na : Int} {evs : List Ev} {n c : CertKey}
    (hk : rc.keys = .rollNew n c) (h : activateClass r rc na = .ok evs) :
    ∃ upd, ActivateChunk r rc na n c upd evs := by
  have hreq : (n.req || c.req) = false := by
    cases hr : (n.req || c.req) with
    | false => rfl
    | true => simp [activateClass, hk, KeyState.newKey, KeyState.keyrollActivate, hr] at h
  simp only [activateClass, hk, KeyState.newKey, KeyState.keyrollActivate, hreq, Bool.false_eq_true, if_false] at h
  cases hac : rc.certs.activateKey n.cert na with
  | error e => simp [hac] at h
  | ok upd =>
    simp only [hac, Except.ok.injEq] at h
    simp only [Bool.or_eq_false_iff] at hreq
    exact ⟨upd, hk, hac, hreq.1, hreq.2, by simp only [← h, activatePayload, certsEv, List.map_cons, List.map_nil,
      List.cons_append, List.nil_append]⟩

theorem newKey_some {ks : KeyState} {n : CertKey} (h : ks.newKey = some n) : ∃ c, ks = .rollNew n c := by
  cases ks <;> cases h
  exact ⟨_, rfl⟩

/-- The chunk of `activateClass`: empty for a class without a new key, else an `ActivateChunk`. -/
theorem activateClass_cases {r : Rcn} {rc : Rc} {na : Int} {evs : List Ev} (h : activateClass r rc na = .ok evs) :
    (rc.keys.newKey = none ∧ evs = []) ∨ ∃ n c upd, ActivateChunk r rc na n c upd evs := by
  cases hn : rc.keys.newKey with
  | none => exact .inl ⟨rfl, activateClass_noNew hn h⟩
  | some n =>
    obtain ⟨c, hk⟩ := newKey_some hn
    exact .inr ⟨n, c, activateClass_rollNew hk h⟩

theorem activatePayload_payload (r : Rcn) (rc : Rc) (upd : CertUpd) :
    ∀ e ∈ activatePayload r rc upd, e.isPayload = true ∧ e.rcn? = some r := by
  intro e he
  simp only [activatePayload, List.mem_append] at he
  rcases he with ((he | he) | he) | he
  · exact renewal_payload r rc .roa e he
  · exact renewal_payload r rc .aspa e he
  · exact certsEv_payload r upd e he
  · exact renewal_payload r rc .bgpsec e he

theorem activateClass_ready (na : Int) (r : Rcn) (rc : Rc) (evs : List Ev)
    (h : activateClass r rc na = .ok evs) : (∀ e ∈ evs, e.onClass r = true) ∧ RcReadySeq rc evs := by
  obtain ⟨_, rfl⟩ | ⟨n, c, upd, ha⟩ := activateClass_cases h
  · exact ⟨fun _ he => (nomatch he), trivial⟩
  · cases ha.events
    have happ : rc.applyEv (.key r .activated) = some { rc with keys := .rollOld n c } := by
      simp only [Rc.applyEv, ha.keys]; rfl
    exact cons_payloads_ready ⟨trivial, Option.isSome_of_eq_some happ, trivial⟩ happ rfl
      (activatePayload_payload r rc upd) (decide_eq_true rfl)

theorem applyAll_rcRemoved (s : Ca) (rs : List Rcn) :
    s.applyAll (rs.map Ev.rcRemoved) = some { s with classes := rs.foldl del s.classes } := by
  induction rs generalizing s with
  | nil => rfl
  | cons r rs ih =>
    simp only [List.map_cons, Ca.applyAll, Ca.apply, Option.bind_some, List.foldl_cons]
    exact ih _

theorem readySeq_removals {s : Ca} (l : List (Rcn × Rc)) {evs : List Ev}
    (h : ReadySeq { s with classes := (l.map (·.1)).foldl del s.classes } evs) :
    ReadySeq s (l.map (fun q => Ev.rcRemoved q.1) ++ evs) := by
  have hmap : l.map (fun q => Ev.rcRemoved q.1) = (l.map (·.1)).map Ev.rcRemoved := by
    rw [List.map_map]; rfl
  rw [hmap]
  -- a removal is ready in any state
  refine readySeq_append (readySeq_of_inv (P := fun _ => True) (fun e he _ _ => ?_) trivial).1 fun s' hs' => ?_
  · obtain ⟨r, _, rfl⟩ := List.mem_map.mp he
    exact ⟨⟨trivial, rfl, trivial⟩, fun _ _ => trivial⟩
  · rw [applyAll_rcRemoved] at hs'
    cases hs'; exact h

/-- Requests and unexpected-key notices for class `r`. -/
def Ev.isEntEv (r : Rcn) : Ev → Bool
  | .key r' (.requested _) => r' = r
  | .key r' (.unexpected _) => r' = r
  | _ => false

theorem entitlementEvents_isEntEv (ks : KeyState) (ent : Entitlement) (now : Int) (r : Rcn) :
    ∀ e ∈ (ks.entitlementEvents ent now).map (Ev.key r), e.isEntEv r = true := by
  intro e he
  obtain ⟨ke, hke, rfl⟩ := List.mem_map.mp he
  simp only [KeyState.entitlementEvents, List.mem_append, List.mem_map] at hke
  rcases hke with ⟨k, _, rfl⟩ | ⟨k, _, rfl⟩ <;> simp [Ev.isEntEv]

/-- Class names only grow, `next_class_name` is what it was. -/
structure Grow (s s' : Ca) : Prop where
  cls : ∀ r, (get s.classes r).isSome = true → (get s'.classes r).isSome = true
  next : s'.nextClass = s.nextClass

theorem Grow.refl (s : Ca) : Grow s s := ⟨fun _ h => h, rfl⟩

theorem Grow.trans {a b c : Ca} (h1 : Grow a b) (h2 : Grow b c) : Grow a c :=
  ⟨fun r h => h2.cls r (h1.cls r h), h2.next.trans h1.next⟩

theorem entEv_step {s : Ca} {r : Rcn} {e : Ev} (he : e.isEntEv r = true)
    (hex : (get s.classes r).isSome = true) :
    Ready s e ∧ ∀ s', s.apply e = some s' → Grow s s' := by
  revert he
  fun_cases Ev.isEntEv r e <;> intro he
  · next r' k =>
    cases of_decide_eq_true he
    obtain ⟨rc, hg⟩ := Option.isSome_iff_exists.mp hex
    have ha : s.apply (.key r (.requested k)) =
        some { s with classes := set s.classes r { rc with keys := rc.keys.applyRequested k } } := by
      simp only [Ca.apply, Ca.withClass, hg, KeyState.apply, Option.map_some]
    refine ⟨⟨trivial, Option.isSome_of_eq_some ha, trivial⟩, fun s' hs' => ?_⟩
    rw [ha] at hs'; cases hs'
    exact ⟨fun r2 h2 => isSome_get_set_of_isSome _ h2, rfl⟩
  · exact ⟨⟨trivial, rfl, trivial⟩, fun s' hs' => by cases hs'; exact Grow.refl s⟩
  · cases he

theorem readySeq_entEvs {s : Ca} {r : Rcn} {evs rest : List Ev} (he : ∀ e ∈ evs, e.isEntEv r = true)
    (hex : (get s.classes r).isSome = true) (hrest : ∀ s', Grow s s' → ReadySeq s' rest) :
    ReadySeq s (evs ++ rest) :=
  have ⟨hrs, hgrow⟩ := readySeq_of_inv (P := Grow s) (fun e hmem _ hg =>
    have ⟨hr, hn⟩ := entEv_step (he e hmem) (hg.cls r hex)
    ⟨hr, fun s' h' => hg.trans (hn s' h')⟩) (Grow.refl s)
  readySeq_append hrs fun s' hs' => hrest s' (hgrow s' hs')

/-- The loop of `process_update_entitlements` over the entitlements, from any state in which
the classes the loop found in the original state still exist and whose `next_class_name` is the
loop's counter. -/
theorem readySeq_entitlementLoop {s : Ca} {p : Handle} {now : Int} {ents : List Entitlement}
    {next : Nat} {fresh : List KeyId} {evs : List Ev} {s1 : Ca}
    (hnext : s1.nextClass = next)
    (hfound : ∀ ent ∈ ents, ∀ q, s.findParentRc p ent.rcn = some q → (get s1.classes q.1).isSome = true)
    (h : entitlementLoop s p now ents next fresh = .ok evs) : ReadySeq s1 evs := by
  fun_induction entitlementLoop s p now ents next fresh generalizing evs s1
  case case1 => cases h; trivial
  -- a class found in `s`: its entitlement events, then the rest from a state that has grown
  case case4 ent ents next _ rcn rc hf _ rest hrest ih =>
    cases h
    exact readySeq_entEvs (entitlementEvents_isEntEv rc.keys ent now rcn)
      (hfound ent (List.mem_cons_self ..) (rcn, rc) hf) fun s' hg =>
      ih (hg.next.trans hnext) (fun ent' hent' q hq =>
        hg.cls _ (hfound ent' (List.mem_cons_of_mem _ hent') q hq)) hrest
  -- no class found: a new one under the loop's counter, then as before
  case case8 ent ents next hf k _ _ rest hrest ih =>
    cases h
    refine ⟨⟨hnext.symm, rfl, trivial⟩, fun s2 hs2 => ?_⟩
    cases hs2
    exact readySeq_entEvs
      (s := { s1 with nextClass := s1.nextClass + 1, classes := set s1.classes next (Rc.create p ent.rcn k) })
      (entitlementEvents_isEntEv (KeyState.pending ⟨k, false⟩) ent now next)
      (by rw [get_set_self]; rfl) fun s' hg =>
      ih (hg.next.trans (congrArg (· + 1) hnext)) (fun ent' hent' q hq =>
        hg.cls _ (isSome_get_set_of_isSome _ (hfound ent' (List.mem_cons_of_mem _ hent') q hq))) hrest
  all_goals cases h

theorem readySeq_updateEntitlements {s : Ca} (hnd : (keys s.classes).Nodup) {p : Handle}
    {ents : List Entitlement} {now : Int} {fresh : List KeyId} {evs : List Ev}
    (hl : entitlementLoop s p now ents s.nextClass fresh = .ok evs) :
    ReadySeq s ((s.classes.filter fun q => q.2.parent = p ∧ !(ents.map (·.rcn)).contains q.2.parentRcn).map
      (fun q => Ev.rcRemoved q.1) ++ evs) := by
  refine readySeq_removals _ (readySeq_entitlementLoop rfl (fun ent hent ⟨r, rc⟩ hq => ?_) hl)
  -- the class found for an entitlement is not one of the removed ones
  unfold Ca.findParentRc at hq
  have hmem : (r, rc) ∈ s.classes := List.mem_of_find?_eq_some hq
  have hprop := List.find?_some hq
  have hrcn : rc.parentRcn = ent.rcn := (of_decide_eq_true hprop).2
  rw [get_foldl_del, if_neg, get_of_mem_nodup hnd hmem]
  · rfl
  intro hin
  obtain ⟨⟨r', rc'⟩, hq', hr'⟩ := List.mem_map.mp hin
  obtain ⟨hm', hc'⟩ := List.mem_filter.mp hq'
  -- same name, so the same record
  cases hr'
  cases (get_of_mem_nodup hnd hm').symm.trans (get_of_mem_nodup hnd hmem)
  have hc := (of_decide_eq_true hc').2
  simp [hrcn, List.mem_map.mpr ⟨ent, hent, rfl⟩] at hc

/-- What a successful `process` answers: one constructor per path of `Ca.process` that ends in `.ok`, named after the
command (and the route or branch), with the look-ups that succeeded and the guards that held on that path.  Seven paths
answer `.ok []` (nothing to do). -/
inductive Emits (s : Ca) : Cmd → List Ev → Prop
  | childAdd {ch res} (someRes : isEmpty res = false) (held : subset res s.allResources = true)
      (unknown : get s.children ch = none) : Emits s (.childAdd ch res) [.childAdded ch res]
  | childUpdateResources {ch res c} (held : subset res s.allResources = true) (child : get s.children ch = some c)
      (changed : seteq res c.res = false) : Emits s (.childUpdateResources ch res) [.childUpdatedResources ch res]
  | childUpdateResourcesSame {ch res c} (held : subset res s.allResources = true) (child : get s.children ch = some c)
      (same : seteq res c.res = true) : Emits s (.childUpdateResources ch res) []
  | childMapping {ch n m c} (child : get s.children ch = some c) (noCerts : (c.issuedKeys n).isEmpty = true)
      (free : s.nameTaken c n m = false) : Emits s (.childMapping ch n m) [.childMapping ch n m]
  | childCertify {ch childRcn ki limit na c evs} (child : get s.children ch = some c)
      (events : s.childCertifyEvents ch c.res (c.nameInParent childRcn) ki limit na = .ok evs) :
      Emits s (.childCertify ch childRcn ki limit na) evs
  | childRevokeKey {ch childRcn ki c rc} (child : get s.children ch = some c)
      (cls : get s.classes (c.nameInParent childRcn) = some rc) (issued : c.isIssued ki = true)
      (used : get c.usedKeys ki = some (.inUse (c.nameInParent childRcn))) :
      Emits s (.childRevokeKey ch childRcn ki)
        [.childKeyRevoked ch (c.nameInParent childRcn) ki, .childCerts (c.nameInParent childRcn) { removed := [ki] }]
  | childRevokeKeyNoClass {ch childRcn ki c} (child : get s.children ch = some c)
      (noClass : get s.classes (c.nameInParent childRcn) = none) : Emits s (.childRevokeKey ch childRcn ki) []
  | childRevokeKeyRevoked {ch childRcn ki c rc} (child : get s.children ch = some c)
      (cls : get s.classes (c.nameInParent childRcn) = some rc) (notIssued : c.isIssued ki = false)
      (revoked : get c.usedKeys ki = some .revoked) : Emits s (.childRevokeKey ch childRcn ki) []
  | childRemove {ch c} (child : get s.children ch = some c) :
      Emits s (.childRemove ch) (removeEventsFor c s.classes ++ [.childRemoved ch])
  | childSuspend {ch c} (child : get s.children ch = some c) (active : c.active = true)
      (someEvents : (suspendEventsFor c s.classes).isEmpty = false) :
      Emits s (.childSuspend ch) (suspendEventsFor c s.classes ++ [.childSuspended ch])
  | childSuspendInactive {ch c} (child : get s.children ch = some c) (inactive : c.active = false) :
      Emits s (.childSuspend ch) []
  | childSuspendNone {ch c} (child : get s.children ch = some c) (active : c.active = true)
      (noEvents : (suspendEventsFor c s.classes).isEmpty = true) : Emits s (.childSuspend ch) []
  | childUnsuspendActive {ch now1d na c} (child : get s.children ch = some c) (active : c.active = true) :
      Emits s (.childUnsuspend ch now1d na) []
  | childUnsuspend {ch now1d na c evs} (child : get s.children ch = some c) (inactive : c.active = false)
      (loop : unsuspendClasses s ch c now1d na s.classes = .ok evs) :
      Emits s (.childUnsuspend ch now1d na) (evs ++ [.childUnsuspended ch])
  | addParent {p} (unknown : s.parents.contains p = false) : Emits s (.addParent p) [.parentAdded p]
  | removeParent {p} (known : s.parents.contains p = true) : Emits s (.removeParent p)
      (((s.classes.filter fun q => q.2.parent = p).map fun q => Ev.rcRemoved q.1) ++ [.parentRemoved p])
  | updateEntitlements {p ents now fresh evs} (loop : entitlementLoop s p now ents s.nextClass fresh = .ok evs) :
      Emits s (.updateEntitlements p ents now fresh)
        ((s.classes.filter fun q => q.2.parent = p ∧ !(ents.map (·.rcn)).contains q.2.parentRcn).map
          (fun q => Ev.rcRemoved q.1) ++ evs)
  | rcvdToActive {rcn ki cert na prods rc} (cls : get s.classes rcn = some rc) (route : rc.keys.route ki = .ok .toActive) :
      Emits s (.updateRcvdCert rcn ki cert na prods)
        (.key rcn (.pendingToActive (CertKey.create ki cert)) :: (prods.filter (!·.isEmpty)).map (.products rcn))
  | rcvdToNew {rcn ki cert na prods rc} (cls : get s.classes rcn = some rc) (route : rc.keys.route ki = .ok .toNew) :
      Emits s (.updateRcvdCert rcn ki cert na prods) [.key rcn (.pendingToNew (CertKey.create ki cert))]
  | rcvdNewCert {rcn ki cert na prods rc} (cls : get s.classes rcn = some rc) (route : rc.keys.route ki = .ok .newCert) :
      Emits s (.updateRcvdCert rcn ki cert na prods) [.key rcn (.received ki cert)]
  | rcvdCurrent {rcn ki cert na prods rc c evs} (cls : get s.classes rcn = some rc)
      (route : rc.keys.route ki = .ok (.current c)) (events : rc.rcvdCertCurrent rcn c ki cert na prods = .ok evs) :
      Emits s (.updateRcvdCert rcn ki cert na prods) evs
  | dropClass {rcn rc} (cls : get s.classes rcn = some rc) : Emits s (.dropClass rcn) [.rcRemoved rcn]
  | keyrollInit {fresh evs} (someClasses : s.classes.isEmpty = false) (repo : s.hasRepo = true)
      (loop : keyrollInitLoop fresh s.classes = .ok evs) : Emits s (.keyrollInit fresh) evs
  | keyrollInitNone {fresh} (noClasses : s.classes.isEmpty = true) : Emits s (.keyrollInit fresh) []
  | keyrollActivate {na evs} (loop : activateLoop na s.classes = .ok evs) : Emits s (.keyrollActivate na) evs
  | repoUpdateFirst {fresh} (noRepo : s.hasRepo = false) : Emits s (.repoUpdate fresh) [.repoUpdated]
  | repoUpdateRoll {fresh evs} (repo : s.hasRepo = true)
      (allActive : (s.classes.any fun p => p.2.keys.variant ≠ .active) = false)
      (loop : keyrollInitLoop fresh s.classes = .ok evs) : Emits s (.repoUpdate fresh) (evs ++ [.repoUpdated])
  | keyrollFinish {rcn rc c o} (cls : get s.classes rcn = some rc) (old : rc.keys = .rollOld c o) :
      Emits s (.keyrollFinish rcn) [.key rcn .finished]
  | config {upds} : Emits s (.config upds) ((upds.filter fun u =>
      !u.2.isEmpty && (match get s.classes u.1 with
        | some rc => rc.keys.current.isSome
        | none => false)).map fun u => .products u.1 u.2)

theorem process_cases {s : Ca} {c : Cmd} {evs : List Ev} (h : s.process c = .ok evs) : Emits s c evs := by
  revert h
  -- `injection h` closes the 27 paths that refuse and leaves `l = evs` on a path that answers `.ok l` (`cases h` does the
  -- same, but is slow to check on 56 goals); then the 29 paths that answer, in the order of `process`
  fun_cases Ca.process s c <;> intro h <;> try (injection h <;> subst_vars)
  -- a guard `if g` that held arrives as `g = true`, one that did not as `¬g = true`: each is handed on as an equation
  next h1 h2 h3 => exact .childAdd (Bool.of_not_eq_true h1) (Bool.not_not_eq.mp h2) (Option.not_isSome_iff_eq_none.mp h3)
  next h1 _ hg h2 => exact .childUpdateResourcesSame (Bool.not_not_eq.mp h1) hg h2
  next h1 _ hg h2 => exact .childUpdateResources (Bool.not_not_eq.mp h1) hg (Bool.of_not_eq_true h2)
  next hg h1 h2 => exact .childMapping hg (Bool.not_not_eq.mp h1) (Bool.of_not_eq_true h2)
  next hg => exact .childCertify hg h
  next hg _ h1 => exact .childRevokeKeyNoClass hg (Option.isNone_iff_eq_none.mp (Option.not_isSome _ ▸ h1))
  next hg _ h1 h2 h3 =>
    obtain ⟨rc, hrc⟩ := Option.isSome_iff_exists.mp (Bool.not_not_eq.mp h1)
    exact .childRevokeKeyRevoked hg hrc ((Bool.not_eq_true' _).mp h2) h3
  next hg _ h1 h2 h3 =>
    obtain ⟨rc, hrc⟩ := Option.isSome_iff_exists.mp (Bool.not_not_eq.mp h1)
    exact .childRevokeKey hg hrc (Bool.not_not_eq.mp h2) (Decidable.of_not_not h3)
  next hg => exact .childRemove hg
  next hg h1 => exact .childSuspendInactive hg ((Bool.not_eq_true' _).mp h1)
  next hg h1 _ h2 => exact .childSuspendNone hg (Bool.not_not_eq.mp h1) h2
  next hg h1 _ h2 => exact .childSuspend hg (Bool.not_not_eq.mp h1) (Bool.of_not_eq_true h2)
  next hg h1 => exact .childUnsuspendActive hg h1
  next hg h1 _ hl => exact .childUnsuspend hg (Bool.of_not_eq_true h1) hl
  next h1 => exact .addParent (Bool.of_not_eq_true h1)
  next h1 => exact .removeParent (Bool.not_not_eq.mp h1)
  next hl => exact .updateEntitlements hl
  next hg hr => exact .rcvdToActive hg hr
  next hg hr => exact .rcvdToNew hg hr
  next hg hr => exact .rcvdNewCert hg hr
  next hg _ hr => exact .rcvdCurrent hg hr h
  next hg => exact .dropClass hg
  next h1 => exact .keyrollInitNone h1
  next h1 h2 => exact .keyrollInit (Bool.of_not_eq_true h1) (Bool.not_not_eq.mp h2) h
  · exact .keyrollActivate h
  next h1 => exact .repoUpdateFirst ((Bool.not_eq_true' _).mp h1)
  next h1 h2 _ hl => exact .repoUpdateRoll (Bool.not_not_eq.mp h1) (Bool.of_not_eq_true h2) hl
  next rc hg _ hk =>
    -- `keyrollFinish` answers for an old key only
    cases hks : rc.keys <;> rw [hks] at hk <;> cases hk
    exact .keyrollFinish hg hks
  · exact .config

/-- The events of every successful `process` are ready.  For a revocation request this rests on
fix 239f0a59: it is executed only for a key in use in the class the request names, and such a
class is past `pending` (`UsedInv`). -/
theorem readySeq_process {s : Ca} (hnd : (keys s.classes).Nodup) (hu : UsedInv s) {c : Cmd}
    {evs : List Ev} (h : s.process c = .ok evs) : ReadySeq s evs := by
  cases process_cases h with
  | childUpdateResourcesSame | childRevokeKeyNoClass | childRevokeKeyRevoked | childSuspendInactive | childSuspendNone
  | childUnsuspendActive | keyrollInitNone => exact trivial
  | childAdd | addParent | dropClass | repoUpdateFirst => exact ready_single ⟨trivial, rfl, trivial⟩
  | childUpdateResources _ child | childMapping child =>
    exact ready_single (ready_withChild rfl trivial trivial (Option.isSome_of_eq_some child))
  | childCertify child events => exact readySeq_of_all (certifyEvents_ready events (Option.isSome_of_eq_some child))
  -- the key is in use in THIS class, so the class is past `pending`
  | childRevokeKey child cls _ used =>
    have hcur := (hu _ _ _ _ child used).2 _ cls
    exact readySeq_of_all (List.forall_mem_cons.mpr
      ⟨⟨rfl, trivial, by simp [Ca.apply, Ca.withClass, cls, withChild_isSome, child], trivial⟩,
        List.forall_mem_singleton.mpr ⟨rfl, ready_childCerts _ cls hcur⟩⟩)
  | childRemove child =>
    exact readySeq_append (readySeq_of_all fun e he => classEvents_ready hu child he)
      fun s' _ => ready_single ⟨trivial, rfl, trivial⟩
  | childSuspend child =>
    exact readySeq_of_all (List.forall_mem_append.mpr ⟨fun e he => classEvents_ready hu child he,
      List.forall_mem_singleton.mpr ⟨rfl, ready_withChild rfl trivial trivial (Option.isSome_of_eq_some child)⟩⟩)
  | childUnsuspend child _ loop =>
    exact readySeq_of_all (List.forall_mem_append.mpr ⟨unsuspendClasses_forall _
        (fun _ _ _ _ _ hce => certifyEvents_ready hce (Option.isSome_of_eq_some child))
        (fun _ hp hk _ => ⟨rfl, ready_childCerts_used hu child hp hk _⟩) loop,
      List.forall_mem_singleton.mpr ⟨rfl, ready_withChild rfl trivial trivial (Option.isSome_of_eq_some child)⟩⟩)
  -- no class of the parent is left when it goes
  | removeParent =>
    refine readySeq_removals _ (ready_single ⟨fun r rc hg hpar => ?_, rfl, trivial⟩)
    simp only [get_foldl_del] at hg
    split at hg
    · cases hg
    · next hnot =>
      exact hnot (List.mem_map.mpr ⟨(r, rc), List.mem_filter.mpr ⟨mem_of_get hg, by simpa using hpar⟩, rfl⟩)
  | updateEntitlements loop => exact readySeq_updateEntitlements hnd loop
  | @rcvdToActive rcn _ cert _ prods rc cls route =>
    obtain ⟨p, hk, rfl⟩ := route_toActive route
    have happ : rc.applyEv (.key rcn (.pendingToActive (CertKey.create p.id cert))) =
        some { rc with keys := .active (CertKey.create p.id cert) } := by
      simp only [Rc.applyEv, hk]; rfl
    have ⟨h1, h2⟩ := cons_payloads_ready ⟨trivial, Option.isSome_of_eq_some happ, trivial⟩ happ rfl
      (prods_payload rcn prods) (decide_eq_true rfl)
    exact readySeq_of_rc h1 cls h2
  | rcvdToNew cls route =>
    obtain ⟨p, c, hk, rfl⟩ := route_toNew route
    refine ready_single (ready_of_rc (decide_eq_true rfl) cls ⟨?_, by simp only [Rc.applyEv, hk]; rfl, trivial⟩)
    intro p' c' hk'
    rw [hk] at hk'; cases hk'; rfl
  | rcvdNewCert cls route =>
    obtain ⟨n, c, hk, rfl⟩ := route_newCert route
    exact ready_single (ready_of_rc (decide_eq_true rfl) cls (rcReady_received (by rw [hk]; exact List.mem_cons_self ..)))
  | rcvdCurrent cls route events => exact readySeq_rcvdCertCurrent cls route events
  | keyrollInit _ _ loop =>
    rw [keyrollInitLoop_eq] at loop
    exact readySeq_forClasses (initClass_ready _) hnd loop
  | keyrollActivate loop =>
    rw [activateLoop_eq] at loop
    exact readySeq_forClasses (activateClass_ready _) hnd loop
  | repoUpdateRoll _ _ loop =>
    rw [keyrollInitLoop_eq] at loop
    exact readySeq_append (readySeq_forClasses (initClass_ready _) hnd loop)
      fun s' _ => ready_single ⟨trivial, rfl, trivial⟩
  | keyrollFinish cls old =>
    exact ready_single (ready_of_rc (decide_eq_true rfl) cls
      ⟨trivial, by simp only [Rc.applyEv, old]; rfl, trivial⟩)
  | config =>
    refine readySeq_of_all fun e he => ?_
    obtain ⟨u, hu', rfl⟩ := List.mem_map.mp he
    have hcur := (Bool.and_eq_true_iff.mp (List.mem_filter.mp hu').2).2
    split at hcur
    · next rc hg => exact ⟨rfl, ready_products _ hg hcur⟩
    · cases hcur

theorem exec_stored_iff {s s' : Sys} {c : Cmd} {evs : List Ev} :
    s.exec c = .stored evs s' ↔ s.ca.process c = .ok evs ∧ s.runEvs evs = some s' := by
  constructor
  · intro h
    revert h
    fun_cases Sys.exec s c <;> intro h <;> cases h
    next hp ha ho => exact ⟨hp, runEvs_some_iff.mpr ⟨ha, ho⟩⟩
  · rintro ⟨hp, hr⟩
    obtain ⟨ca', o'⟩ := s'
    obtain ⟨ha, ho⟩ := runEvs_some_iff.mp hr
    simp only [Sys.exec, hp, ha, ho]

theorem next_cases (s : Sys) (c : Cmd) :
    s.next c = s ∨ ∃ evs, s.ca.process c = .ok evs ∧ s.runEvs evs = some (s.next c) := by
  unfold Sys.next
  cases hex : s.exec c with
  | stored evs s' => exact .inr ⟨evs, exec_stored_iff.mp hex⟩
  | _ => exact .inl rfl

theorem inv_next {s : Sys} (hinv : Inv s) (c : Cmd) : Inv (s.next c) := by
  obtain h | ⟨evs, hp, hr⟩ := next_cases s c
  · rw [h]; exact hinv
  · obtain ⟨s'', hrun, hinv'⟩ := readySeq_run hinv (readySeq_process hinv.core.nodup hinv.used hp)
    rw [hr] at hrun; cases hrun; exact hinv'

theorem reachable_inv {s : Sys} (h : Reachable s) : Inv s := by
  induction h with
  | init => exact inv_init
  | step c _ ih => exact inv_next ih c

end KM.CaK
