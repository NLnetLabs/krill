/-
`Tidy` classes – the issued and suspended maps have pairwise different keys and no key is in
both: the exact effect of the shrink of over-claiming child certificates on the entries of a map with
pairwise different keys, the updates that keep a class tidy, and that every class of every reachable
state is `Tidy` (since fix bb96d233; on the pinned tree only without an unsuspension of a suspended child).
-/
import KrillModel.Ca.LemmasActivate
import KrillModel.Ca.Reach
namespace KM.CaK
open KM.Res KM.AMap

theorem shrinkList_fresh {t : List (KeyId × ChildCert)} {rcvd : Cert} {na : Int} {iss : List (KeyId × ChildCert)}
    {rem : List KeyId} (ht : shrinkList t rcvd na = .ok (iss, rem)) {k : KeyId} (hk : k ∉ t.map (·.1)) :
    lastOf iss k = none ∧ k ∉ rem := by
  obtain ⟨_, _, h3⟩ := shrinkList_spec ht
  exact ⟨lastOf_eq_none.mpr fun hm => hk (h3 k (Or.inr hm)), fun hm => hk (h3 k (Or.inl hm))⟩

/-- `shrinkList`, exactly, on a list with pairwise different keys. -/
theorem shrinkList_exact {l : List (KeyId × ChildCert)} {rcvd : Cert} {na : Int}
    {iss : List (KeyId × ChildCert)} {rem : List KeyId} (hnd : (l.map (·.1)).Nodup)
    (h : shrinkList l rcvd na = .ok (iss, rem)) :
    ∀ p ∈ l,
      (subset p.2.res rcvd.res = true → lastOf iss p.1 = none ∧ p.1 ∉ rem) ∧
      (subset p.2.res rcvd.res = false → isEmpty (inter rcvd.res p.2.res) = true →
        lastOf iss p.1 = none ∧ p.1 ∈ rem) ∧
      (subset p.2.res rcvd.res = false → isEmpty (inter rcvd.res p.2.res) = false →
        ∃ cc', lastOf iss p.1 = some cc' ∧ reissue p.2 (some (inter rcvd.res p.2.res)) rcvd na = .ok cc' ∧
          p.1 ∉ rem) := by
  fun_induction shrinkList l rcvd na generalizing iss rem
  case case1 => exact List.forall_mem_nil _
  case case2 k cc t hred ih =>
    -- the head fits
    obtain ⟨hk, hnd_t⟩ := List.nodup_cons.mp hnd
    obtain ⟨t1, t2⟩ := shrinkList_fresh h hk
    have hs := reduced_eq_none hred
    exact List.forall_mem_cons.mpr ⟨⟨fun _ => ⟨t1, t2⟩, fun hf => Bool.noConfusion (hs.symm.trans hf),
      fun hf => Bool.noConfusion (hs.symm.trans hf)⟩, ih hnd_t h⟩
  case case4 k cc t r hred hemp iss' rem' ht ih =>
    -- the head is removed
    cases h
    obtain ⟨hk, hnd_t⟩ := List.nodup_cons.mp hnd
    obtain ⟨t1, _⟩ := shrinkList_fresh ht hk
    obtain ⟨hs, rfl⟩ := reduced_eq_some hred
    refine List.forall_mem_cons.mpr ⟨⟨fun hf => Bool.noConfusion (hf.symm.trans hs),
      fun _ _ => ⟨t1, List.mem_cons_self ..⟩, fun _ hf => Bool.noConfusion (hemp.symm.trans hf)⟩, fun p hp => ?_⟩
    have hpk : p.1 ≠ k := fun e => hk (e ▸ List.mem_map.mpr ⟨p, hp, rfl⟩)
    simp only [List.mem_cons, hpk, false_or]
    exact ih hnd_t ht p hp
  case case7 k cc t r hred hemp c' hre iss' rem' ht ih =>
    -- the head is re-issued
    cases h
    obtain ⟨hk, hnd_t⟩ := List.nodup_cons.mp hnd
    obtain ⟨t1, t2⟩ := shrinkList_fresh ht hk
    obtain ⟨hs, rfl⟩ := reduced_eq_some hred
    refine List.forall_mem_cons.mpr ⟨⟨fun hf => Bool.noConfusion (hf.symm.trans hs),
      fun _ hf => absurd hf hemp, fun _ _ => ⟨c', by rw [Assoc.lastOf_cons, t1, if_pos rfl]; rfl, hre, t2⟩⟩, fun p hp => ?_⟩
    have hpk : k ≠ p.1 := fun e => hk (e ▸ List.mem_map.mpr ⟨p, hp, rfl⟩)
    simp only [lastOf_cons_ne _ _ hpk]
    exact ih hnd_t ht p hp
  all_goals cases h

/-- No stale entries, no duplicate keys. -/
structure TidyC (cs : ChildCerts) : Prop where
  ndI : (keys cs.issued).Nodup
  ndS : (keys cs.suspended).Nodup
  disj : ∀ k, (get cs.issued k).isSome = true → get cs.suspended k = none

def Tidy (rc : Rc) : Prop := TidyC rc.certs

theorem tidyC_empty : TidyC {} := ⟨List.nodup_nil, List.nodup_nil, fun k h => by simp at h⟩

theorem tidyC_addIssued {cs : ChildCerts} (h : TidyC cs) (p : KeyId × ChildCert) : TidyC (cs.addIssued p) := by
  refine ⟨nodup_set h.ndI _ _, nodup_del h.ndS _, ?_⟩
  intro k hk
  simp only [ChildCerts.addIssued, get_set, get_del] at hk ⊢
  by_cases hpk : p.1 = k
  · simp [hpk]
  · simp only [hpk, if_false] at hk ⊢; exact h.disj k hk

theorem tidyC_unsuspend {cs : ChildCerts} (h : TidyC cs) (p : KeyId × ChildCert) : TidyC (cs.unsuspend p) :=
  tidyC_addIssued h p

theorem tidyC_removeRevoked {cs : ChildCerts} (h : TidyC cs) (k0 : KeyId) : TidyC (cs.removeRevoked k0) := by
  refine ⟨nodup_del h.ndI _, nodup_del h.ndS _, ?_⟩
  intro k hk
  simp only [ChildCerts.removeRevoked, get_del] at hk ⊢
  by_cases hpk : k0 = k
  · simp [hpk] at hk
  · simp only [hpk, if_false] at hk ⊢; exact h.disj k hk

theorem tidyC_suspend {cs : ChildCerts} (h : TidyC cs) (p : KeyId × ChildCert) : TidyC (cs.suspend p) := by
  refine ⟨nodup_del h.ndI _, nodup_set h.ndS _ _, ?_⟩
  intro k hk
  simp only [ChildCerts.suspend, get_del, get_set] at hk ⊢
  by_cases hpk : p.1 = k
  · simp [hpk] at hk
  · simp only [hpk, if_false] at hk ⊢; exact h.disj k hk

/-- Every update keeps the maps tidy (since fix bb96d233 `add_issued_certificate` clears the
suspended entry itself). -/
theorem tidyC_applyUpd {cs : ChildCerts} (h : TidyC cs) (u : CertUpd) : TidyC (cs.applyUpd u) :=
  applyUpd_pres u h (fun _ h p _ => tidyC_addIssued h p) (fun _ h p _ => tidyC_unsuspend h p)
    (fun _ h k _ => tidyC_removeRevoked h k) fun _ h p _ => tidyC_suspend h p

theorem tidy_step {s s' : Ca} {e : Ev} (hnd : (keys s.classes).Nodup)
    (hP : AllCls Tidy s) (ha : s.apply e = some s') : AllCls Tidy s' := by
  refine allCls_apply hnd hP ha (fun _ _ _ => tidyC_empty) (fun r rc rc' _ _ ht happ => ?_)
    fun rc k ht => tidyC_removeRevoked ht k
  rcases applyEv_cases happ with ⟨_, _, _, _, _, rfl⟩ | ⟨_, _, _, rfl⟩ | ⟨_, u, _, rfl⟩
  · exact ht
  · exact ht
  · exact tidyC_applyUpd ht u

theorem reachable_tidy {s : Sys} (h : Reachable s) : AllCls Tidy s.ca :=
  allCls_reachable (fun _ _ _ _ hinv hP _ hs =>
    applyAll_pres (fun _ _ _ _ hnd hP ha => tidy_step hnd hP ha) hinv.core.nodup hP hs) h

end KM.CaK
