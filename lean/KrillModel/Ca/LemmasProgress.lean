/-
For the key roll at the `Sys` level (C04): a command whose `process` succeeds is stored in every
reachable state (`exec_of_process`), and what it does to the class records when its events rewrite one class
(`class_cmd`) or are a loop over the classes (`loop_cmd`); what `process` answers to the roll commands and to a revocation request;
sufficient conditions for the activation of a class to succeed.
-/
import KrillModel.Ca.LemmasProcess
import KrillModel.Ca.LemmasNoOver
namespace KM.CaK
open KM.Res KM.AMap

theorem next_of_stored {s s' : Sys} {c : Cmd} {evs : List Ev} (hex : s.exec c = .stored evs s') :
    s.next c = s' := by
  unfold Sys.next; rw [hex]

theorem reachable_stored {s s' : Sys} {c : Cmd} {evs : List Ev} (h : Reachable s)
    (hex : s.exec c = .stored evs s') : Reachable s' :=
  next_of_stored hex ▸ Reachable.step c h

/-- In a reachable state a successful `process` is always stored: `apply` does not panic and the
listener accepts. -/
theorem exec_of_process {s : Sys} (h : Reachable s) {c : Cmd} {evs : List Ev} (hp : s.ca.process c = .ok evs) :
    ∃ s', s.exec c = .stored evs s' ∧ s.ca.applyAll evs = some s'.ca ∧ s.objs.stepAll evs = .ok s'.objs := by
  have hinv := reachable_inv h
  obtain ⟨⟨ca', o'⟩, hrun, _⟩ := readySeq_run hinv (readySeq_process hinv.core.nodup hinv.used hp)
  exact ⟨_, exec_stored_iff.mpr ⟨hp, hrun⟩, runEvs_some_iff.mp hrun⟩

theorem next_of_process {s : Sys} (h : Reachable s) {c : Cmd} {evs : List Ev} (hp : s.ca.process c = .ok evs) :
    s.exec c = .stored evs (s.next c) ∧ s.ca.applyAll evs = some (s.next c).ca := by
  obtain ⟨s', hex, happ, _⟩ := exec_of_process h hp
  rewrite [next_of_stored hex]
  exact ⟨hex, happ⟩

theorem process_of_stored {s s' : Sys} {c : Cmd} {evs : List Ev} (h : s.exec c = .stored evs s') :
    s.ca.process c = .ok evs ∧ s.ca.applyAll evs = some s'.ca := by
  obtain ⟨hp, hr⟩ := exec_stored_iff.mp h
  exact ⟨hp, (runEvs_some_iff (ca' := s'.ca) (o' := s'.objs) |>.mp hr).1⟩

/-- A command whose events all name class `r`: it is stored, and only the record of that class changes. -/
theorem class_cmd {s : Sys} (hr : Reachable s) {r : Rcn} {rc rc' : Rc} {c : Cmd} {evs : List Ev}
    (hg : get s.ca.classes r = some rc) (hp : s.ca.process c = .ok evs) (hon : ∀ e ∈ evs, e.onClass r = true)
    (happ : rc.applyEvs evs = some rc') :
    s.exec c = .stored evs (s.next c) ∧ OnlyClass s.ca (s.next c).ca r rc' := by
  obtain ⟨hex, hall⟩ := next_of_process hr hp
  obtain ⟨rc'', ha, h⟩ := applyAll_of_rc hon hg hall
  cases ha.symm.trans happ
  exact ⟨hex, h⟩

/-- A command that is a loop of class-local chunks over all classes: it is stored, every class has had its own
chunk applied to its record, no class comes or goes. -/
theorem loop_cmd {s : Sys} (hr : Reachable s) {f : Rcn → Rc → Except Err (List Ev)}
    (hf : ∀ r rc a, f r rc = .ok a → ∀ e ∈ a, e.onClass r = true) {c : Cmd} {evs : List Ev}
    (hp : s.ca.process c = .ok evs) (hl : forClasses f s.ca.classes = .ok evs) :
    s.exec c = .stored evs (s.next c) ∧ (s.next c).ca.hasRepo = s.ca.hasRepo ∧
      (∀ r, get s.ca.classes r = none → get (s.next c).ca.classes r = none) ∧
      ∀ r rc, get s.ca.classes r = some rc →
        ∃ a rc', f r rc = .ok a ∧ rc.applyEvs a = some rc' ∧ get (s.next c).ca.classes r = some rc' := by
  obtain ⟨hon, hchunk, _⟩ := forClasses_evsOf hf (reachable_inv hr).core.nodup hl
  obtain ⟨hex, hall⟩ := next_of_process hr hp
  obtain ⟨hrepo, hget⟩ := get_applyAll hon hall
  refine ⟨hex, hrepo, fun r hg => ?_, fun r rc hg => ?_⟩
  · have := hget r
    rwa [hg] at this
  · have := hget r
    simp only [hg] at this
    obtain ⟨rc', happ, hg'⟩ := this
    exact ⟨_, rc', hchunk (r, rc) (mem_of_get hg), happ, hg'⟩

theorem process_keyrollInit {s : Ca} {fresh : AMap Rcn KeyId} {evs : List Ev}
    (h : s.process (.keyrollInit fresh) = .ok evs) : forClasses (initClass fresh) s.classes = .ok evs := by
  cases process_cases h with
  | keyrollInitNone empty => rw [List.isEmpty_iff.mp empty]; rfl
  | keyrollInit _ _ loop => rwa [keyrollInitLoop_eq] at loop

theorem process_keyrollInit_repo {s : Ca} (hrepo : s.hasRepo = true) (fresh : AMap Rcn KeyId) :
    s.process (.keyrollInit fresh) = forClasses (initClass fresh) s.classes := by
  unfold Ca.process
  simp only [hrepo, Bool.not_true, Bool.false_eq_true, if_false, keyrollInitLoop_eq]
  split
  · rename_i hemp; rw [List.isEmpty_iff.mp hemp]; rfl
  · rfl

theorem process_keyrollActivate (s : Ca) (na : Int) :
    s.process (.keyrollActivate na) = forClasses (fun r rc => activateClass r rc na) s.classes :=
  activateLoop_eq na s.classes

/-- `KeyRollFinish` succeeds exactly for a class in its old-key phase, with the one event
`KeyRollFinished` for that class. -/
theorem process_keyrollFinish {s : Ca} {r : Rcn} {evs : List Ev} :
    s.process (.keyrollFinish r) = .ok evs ↔
      ∃ rc c o, get s.classes r = some rc ∧ rc.keys = .rollOld c o ∧ evs = [.key r .finished] := by
  constructor
  · intro h
    cases process_cases h with
    | keyrollFinish cls old => exact ⟨_, _, _, cls, old, rfl⟩
  · rintro ⟨rc, c, o, hg, hk, rfl⟩
    -- `simp only`, not `unfold`: it leaves the equations of `process` behind for the files that import this one
    simp only [Ca.process, hg, hk, KeyState.keyrollFinish]

/-- A revocation request that emits anything emits the revocation and the removal of the
certificate, for the class the child's name is translated to. -/
theorem process_childRevokeKey {s : Ca} {ch : Handle} {childRcn : Rcn} {ki : KeyId} {evs : List Ev}
    (h : s.process (.childRevokeKey ch childRcn ki) = .ok evs) (hne : evs ≠ []) :
    ∃ cd rc, get s.children ch = some cd ∧ get s.classes (cd.nameInParent childRcn) = some rc ∧
      evs = [.childKeyRevoked ch (cd.nameInParent childRcn) ki,
        .childCerts (cd.nameInParent childRcn) { removed := [ki] }] := by
  cases process_cases h with
  | childRevokeKeyNoClass | childRevokeKeyRevoked => exact absurd rfl hne
  | childRevokeKey child cls => exact ⟨_, _, child, cls, rfl⟩

/-- A child certificate that carries its limit (or none) and lies inside the signing certificate
is re-issued without error. -/
theorem reissue_ok {cc : ChildCert} {signing : Cert} (na : Int)
    (hl : cc.limit = none ∨ cc.limit = some cc.res) (hs : subset cc.res signing.res = true) :
    ∃ cc', reissue cc none signing na = .ok cc' := by
  rcases hl with hl | hl
  · exact ⟨{ res := cc.res, na := na }, by simp [reissue, makeIssued, applyLimit, hl, hs]⟩
  · exact ⟨{ res := cc.res, limit := some cc.res, na := na }, by
      simp [reissue, makeIssued, applyLimit, hl, hs, subset_refl]⟩

theorem reissueAll_ok {l : List (KeyId × ChildCert)} {signing : Cert} (na : Int)
    (h : ∀ p ∈ l, (p.2.limit = none ∨ p.2.limit = some p.2.res) ∧ subset p.2.res signing.res = true) :
    ∃ r, reissueAll l signing na = .ok r := by
  induction l with
  | nil => exact ⟨[], rfl⟩
  | cons p t ih =>
    obtain ⟨h1, h2⟩ := List.forall_mem_cons.mp h
    obtain ⟨cc', hcc⟩ := reissue_ok na h1.1 h1.2
    obtain ⟨r, hr⟩ := ih h2
    exact ⟨(p.1, cc') :: r, by simp only [reissueAll, hcc, hr]⟩

/-- What makes the activation of one class succeed: it is not in `rollNew` (nothing to do), or no
request is open for its two keys and every child certificate (issued or suspended) carries its
limit and lies inside the new key's certificate. -/
def Rc.activatable (rc : Rc) : Prop :=
  match rc.keys with
  | .rollNew n c =>
    n.req = false ∧ c.req = false ∧
    (∀ p ∈ rc.certs.issued ++ rc.certs.suspended,
      (p.2.limit = none ∨ p.2.limit = some p.2.res) ∧ subset p.2.res n.cert.res = true)
  | _ => True

theorem activateClass_ok {r : Rcn} {rc : Rc} (na : Int) (h : rc.activatable) :
    ∃ evs, activateClass r rc na = .ok evs := by
  cases hn : rc.keys.newKey with
  | none => exact ⟨[], by simp only [activateClass, hn]⟩
  | some n =>
    obtain ⟨c, hk⟩ := newKey_some hn
    simp only [Rc.activatable, hk] at h
    obtain ⟨hnr, hcr, hall⟩ := h
    obtain ⟨iss, hi⟩ := reissueAll_ok (signing := n.cert) na (fun p hp => hall p (List.mem_append_left _ hp))
    obtain ⟨sus, hsu⟩ := reissueAll_ok (signing := n.cert) na (fun p hp => hall p (List.mem_append_right _ hp))
    simp only [activateClass, hk, KeyState.newKey, KeyState.keyrollActivate, hnr, hcr, Bool.or_self,
      Bool.false_eq_true, if_false, ChildCerts.activateKey, hi, hsu]
    exact ⟨_, rfl⟩

end KM.CaK
