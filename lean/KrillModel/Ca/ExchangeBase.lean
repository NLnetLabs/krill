/-
The parent side of the exchange (`Ca/Exchange.lean`): what the parent answers to a certificate request
(`Ca.answer`), what its `list` response contains (`Ca.offers`), what stays the same at the parent while it answers
(`ParentSame`), and its commands `ChildCertify`, `ChildRevokeKey`, `ChildUpdateResources`,
`ChildUpdateResourceClassNameMapping` on a reachable aggregate.
-/
import KrillModel.Ca.Exchange
import KrillModel.Ca.LemmasProgress
namespace KM.CaK
open KM.Res KM.AMap

/-- The resources of the certificate the parent issues for a request naming the child-side
class `n` (`none`: the request is refused – unknown child, unknown class, class without a
current key). -/
def Ca.answer (p : Ca) (ch : Handle) (n : Rcn) : Option ResSet :=
  match get p.children ch with
  | none => none
  | some c =>
    match get p.classes (c.nameInParent n) with
    | none => none
    | some rc =>
      match rc.keys.current with
      | none => none
      | some k => some (inter k.cert.res c.res)

theorem answer_eq_some_iff {p : Ca} {ch : Handle} {n : Rcn} {R : ResSet} :
    p.answer ch n = some R ↔ ∃ c rc k, get p.children ch = some c ∧
      get p.classes (c.nameInParent n) = some rc ∧ rc.keys.current = some k ∧ inter k.cert.res c.res = R := by
  constructor
  · intro h
    revert h
    fun_cases Ca.answer p ch n <;> intro h <;> cases h
    next c hc rc hq k hk => exact ⟨c, rc, k, hc, hq, hk, rfl⟩
  · rintro ⟨c, rc, k, hc, hq, hk, rfl⟩
    simp only [Ca.answer, hc, hq, hk]

/-- The certificate on file for key `ki` in the parent's own class `q`. -/
def Ca.issuedIn (p : Ca) (q : Rcn) (ki : KeyId) : Option ChildCert :=
  match get p.classes q with
  | none => none
  | some rc => get rc.certs.issued ki

theorem issuedIn_of_get {p : Ca} {q : Rcn} {rc : Rc} (hq : get p.classes q = some rc) (ki : KeyId) :
    p.issuedIn q ki = get rc.certs.issued ki := by
  simp only [Ca.issuedIn, hq]

theorem issuedFor_eq (p : Ca) (ch : Handle) (n : Rcn) (ki : KeyId) :
    p.issuedFor ch n ki = match get p.children ch with
      | none => none
      | some c => p.issuedIn (c.nameInParent n) ki := by
  unfold Ca.issuedFor Ca.issuedIn
  cases get p.children ch <;> rfl

theorem issuedFor_of_child {p : Ca} {ch : Handle} {c : Child} (hc : get p.children ch = some c) (n : Rcn)
    (ki : KeyId) : p.issuedFor ch n ki = p.issuedIn (c.nameInParent n) ki := by
  rw [issuedFor_eq, hc]

/-- What an answering parent keeps while it answers: the key state of every class, the
entitlement and the class-name mapping of the child. -/
structure ParentSame (p p' : Ca) (ch : Handle) : Prop where
  keys : ∀ q, (get p'.classes q).map (·.keys) = (get p.classes q).map (·.keys)
  child : (get p'.children ch).map (fun c => (c.res, c.rcnMap)) =
    (get p.children ch).map (fun c => (c.res, c.rcnMap))

theorem ParentSame.refl (p : Ca) (ch : Handle) : ParentSame p p ch := ⟨fun _ => rfl, rfl⟩

theorem ParentSame.trans {a b c : Ca} {ch : Handle} (h1 : ParentSame a b ch) (h2 : ParentSame b c ch) :
    ParentSame a c ch :=
  ⟨fun q => (h2.keys q).trans (h1.keys q), h2.child.trans h1.child⟩

theorem ParentSame.symm {a b : Ca} {ch : Handle} (h : ParentSame a b ch) : ParentSame b a ch :=
  ⟨fun q => (h.keys q).symm, h.child.symm⟩

theorem nameInParent_congr {c c' : Child} (h : c'.rcnMap = c.rcnMap) (n : Rcn) :
    c'.nameInParent n = c.nameInParent n := by
  simp only [Child.nameInParent, h]

theorem nameForChild_congr {c c' : Child} (h : c'.rcnMap = c.rcnMap) (n : Rcn) :
    c'.nameForChild n = c.nameForChild n := by
  simp only [Child.nameForChild, h]

theorem ParentSame.class_some {p p' : Ca} {ch : Handle} (h : ParentSame p p' ch) {q : Rcn} {rc : Rc}
    (hq : get p.classes q = some rc) : ∃ rc', get p'.classes q = some rc' ∧ rc'.keys = rc.keys :=
  Option.map_eq_some_iff.mp ((h.keys q).trans (congrArg _ hq))

theorem ParentSame.child_some {p p' : Ca} {ch : Handle} (h : ParentSame p p' ch) {c : Child}
    (hc : get p.children ch = some c) :
    ∃ c', get p'.children ch = some c' ∧ c'.res = c.res ∧ c'.rcnMap = c.rcnMap := by
  obtain ⟨c', hc', heq⟩ := Option.map_eq_some_iff.mp (h.child.trans (congrArg _ hc))
  exact ⟨c', hc', (Prod.mk.inj heq).1, (Prod.mk.inj heq).2⟩

theorem map_eq_map_cases {α β : Type} {f : α → β} {a b : Option α} (h : a.map f = b.map f) :
    (a = none ∧ b = none) ∨ ∃ x y, a = some x ∧ b = some y ∧ f x = f y := by
  cases a with
  | none => exact Or.inl ⟨rfl, Option.map_eq_none_iff.mp h.symm⟩
  | some x =>
    obtain ⟨y, hy, hxy⟩ := Option.map_eq_some_iff.mp h.symm
    exact Or.inr ⟨x, y, rfl, hy, hxy.symm⟩

/-- The child's class-name mapping at the parent is unchanged (the part of `ParentSame` that survives a change of the
child's entitlement). -/
def SameNames (p p' : Ca) (ch : Handle) : Prop :=
  (get p'.children ch).map (·.rcnMap) = (get p.children ch).map (·.rcnMap)

theorem ParentSame.sameNames {p p' : Ca} {ch : Handle} (h : ParentSame p p' ch) : SameNames p p' ch := by
  have := congrArg (Option.map Prod.snd) h.child
  rwa [Option.map_map, Option.map_map] at this

theorem SameNames.issuedFor {p p' : Ca} {ch : Handle} (h : SameNames p p' ch) (hcls : p'.classes = p.classes)
    (n : Rcn) (ki : KeyId) : p'.issuedFor ch n ki = p.issuedFor ch n ki := by
  rewrite [issuedFor_eq, issuedFor_eq]
  rcases map_eq_map_cases h with ⟨h2, h1⟩ | ⟨c', c, h2, h1, hmap⟩
  · rw [h1, h2]
  · rewrite [h1, h2]
    simp only [Ca.issuedIn, hcls, nameInParent_congr hmap]

theorem ParentSame.current {p p' : Ca} {ch : Handle} (h : ParentSame p p' ch) (q : Rcn) :
    (get p'.classes q).map (·.keys.current) = (get p.classes q).map (·.keys.current) := by
  have := congrArg (Option.map KeyState.current) (h.keys q)
  rewrite [Option.map_map, Option.map_map] at this
  exact this

theorem ParentSame.mem_keys {p p' : Ca} {ch : Handle} (h : ParentSame p p' ch) (q : Rcn) :
    q ∈ AMap.keys p'.classes ↔ q ∈ AMap.keys p.classes := by
  rewrite [← get_isSome_iff_mem_keys, ← get_isSome_iff_mem_keys]
  have := congrArg Option.isSome (h.keys q)
  rewrite [Option.isSome_map, Option.isSome_map] at this
  rw [this]

theorem ParentSame.answer_some {p p' : Ca} {ch : Handle} (h : ParentSame p p' ch) {n : Rcn} {R : ResSet}
    (ha : p.answer ch n = some R) : p'.answer ch n = some R := by
  obtain ⟨c, rc, k, hc, hq, hk, hR⟩ := answer_eq_some_iff.mp ha
  obtain ⟨c', hc', hres, hmap⟩ := h.child_some hc
  obtain ⟨rc', hq', hkeys⟩ := h.class_some hq
  exact answer_eq_some_iff.mpr ⟨c', rc', k, hc', nameInParent_congr hmap n ▸ hq', hkeys ▸ hk, hres ▸ hR⟩

theorem ParentSame.answer {p p' : Ca} {ch : Handle} (h : ParentSame p p' ch) (n : Rcn) :
    p'.answer ch n = p.answer ch n :=
  Option.ext fun _ => ⟨h.symm.answer_some, h.answer_some⟩

/-- The parent lists a class under the child-side name `n` with resources `R`. -/
def Ca.offers (p : Ca) (ch : Handle) (n : Rcn) (R : ResSet) : Prop :=
  ∃ c q rc k, get p.children ch = some c ∧ get p.classes q = some rc ∧ rc.keys.current = some k ∧
    isEmpty (inter k.cert.res c.res) = false ∧ n = c.nameForChild q ∧ R = inter k.cert.res c.res

theorem ParentSame.offers {p p' : Ca} {ch : Handle} (h : ParentSame p p' ch) {n : Rcn} {R : ResSet}
    (ho : p.offers ch n R) : p'.offers ch n R := by
  obtain ⟨c, q, rc, k, hc, hq, hk, hne, hn, hR⟩ := ho
  obtain ⟨c', hc', hres, hmap⟩ := h.child_some hc
  obtain ⟨rc', hq', hkeys⟩ := h.class_some hq
  exact ⟨c', q, rc', k, hc', hq', hkeys ▸ hk, hres ▸ hne, nameForChild_congr hmap q ▸ hn, hres ▸ hR⟩

/-- `h`: the function that `Ca.entitlementsFor` maps over the classes gives `ent` for the class `q`. -/
theorem entitlementOf_eq_some {c : Child} {na : Int} {q : Rcn × Rc} {ent : Entitlement}
    (h : (match q.2.keys.current with
      | none => none
      | some k =>
        let res := inter k.cert.res c.res
        if isEmpty res then none
        else some { rcn := c.nameForChild q.1, res := res, na := na,
                    issued := (c.issuedKeys q.1).filter fun ki => (get q.2.certs.issued ki).isSome }) = some ent) :
    ∃ k, q.2.keys.current = some k ∧ isEmpty (inter k.cert.res c.res) = false ∧
      ent.rcn = c.nameForChild q.1 ∧ ent.res = inter k.cert.res c.res ∧ ent.na = na := by
  split at h
  · cases h
  · rename_i k hk
    simp only at h
    split at h
    · cases h
    · rename_i hne
      cases h
      exact ⟨k, hk, Bool.eq_false_iff.mpr hne, rfl, rfl, rfl⟩

theorem mem_entitlementsFor {p : Ca} {ch : Handle} {na : Int} {ent : Entitlement}
    (hnd : (keys p.classes).Nodup) (h : ent ∈ p.entitlementsFor ch na) :
    p.offers ch ent.rcn ent.res ∧ ent.na = na := by
  unfold Ca.entitlementsFor at h
  cases hc : get p.children ch with
  | none => rewrite [hc] at h; cases h
  | some c =>
    rewrite [hc] at h
    obtain ⟨q, hq, hf⟩ := List.mem_filterMap.mp h
    obtain ⟨k, hk, hne, hn, hR, hna⟩ := entitlementOf_eq_some hf
    exact ⟨⟨c, q.1, q.2, k, hc, get_of_mem_nodup hnd hq, hk, hne, hn, hR⟩, hna⟩

theorem entitlementsFor_of_offers {p : Ca} {ch : Handle} {n : Rcn} {R : ResSet} (na : Int)
    (h : p.offers ch n R) : ∃ ent ∈ p.entitlementsFor ch na, ent.rcn = n ∧ ent.res = R ∧ ent.na = na := by
  obtain ⟨c, q, rc, k, hc, hq, hk, hne, hn, hR⟩ := h
  unfold Ca.entitlementsFor
  rewrite [hc]
  refine ⟨{ rcn := c.nameForChild q, res := inter k.cert.res c.res, na := na,
            issued := (c.issuedKeys q).filter fun ki => (get rc.certs.issued ki).isSome }, ?_, hn.symm, hR.symm, rfl⟩
  refine List.mem_filterMap.mpr ⟨(q, rc), mem_of_get hq, ?_⟩
  simp only [hk, hne, Bool.false_eq_true, if_false]

/-- The class names of the parent translate back (`parent_name_for_rcn ∘ name_for_parent_rcn` is
the identity on the parent's classes): what makes requests reach the class that was listed. -/
def Ca.namesOk (p : Ca) (ch : Handle) : Bool :=
  match get p.children ch with
  | none => true
  | some c => (keys p.classes).all fun q => c.nameInParent (c.nameForChild q) = q

theorem namesOk_iff {p : Ca} {ch : Handle} {c : Child} (hc : get p.children ch = some c) :
    p.namesOk ch = true ↔ ∀ q ∈ keys p.classes, c.nameInParent (c.nameForChild q) = q := by
  simp only [Ca.namesOk, hc, List.all_eq_true, decide_eq_true_eq]

theorem SameNames.namesOk {p p' : Ca} {ch : Handle} (h : SameNames p p' ch)
    (hk : ∀ q ∈ keys p'.classes, q ∈ keys p.classes) (hn : p.namesOk ch = true) : p'.namesOk ch = true := by
  rcases map_eq_map_cases h with ⟨h2, _⟩ | ⟨c', c, h2, h1, hmap⟩
  · simp only [Ca.namesOk, h2]
  · rewrite [namesOk_iff h2]
    intro q hq
    rewrite [nameForChild_congr hmap, nameInParent_congr hmap]
    exact (namesOk_iff h1).mp hn q (hk q hq)

theorem ParentSame.namesOk {p p' : Ca} {ch : Handle} (h : ParentSame p p' ch)
    (hn : p.namesOk ch = true) : p'.namesOk ch = true :=
  h.sameNames.namesOk (fun q => (h.mem_keys q).mp) hn

theorem offers_answer {p : Ca} {ch : Handle} {n : Rcn} {R : ResSet} (hn : p.namesOk ch = true)
    (h : p.offers ch n R) : p.answer ch n = some R := by
  obtain ⟨c, q, rc, k, hc, hq, hk, _, hnm, hR⟩ := h
  refine answer_eq_some_iff.mpr ⟨c, rc, k, hc, ?_, hk, hR.symm⟩
  rewrite [hnm, (namesOk_iff hc).mp hn q (mem_keys_of_get hq)]
  exact hq

theorem offers_unique {p : Ca} {ch : Handle} {n : Rcn} {R R' : ResSet} (hn : p.namesOk ch = true)
    (h : p.offers ch n R) (h' : p.offers ch n R') : R = R' :=
  Option.some.inj ((offers_answer hn h).symm.trans (offers_answer hn h'))

theorem entitlementsFor_nodup {p : Ca} {ch : Handle} (na : Int) (hnd : (keys p.classes).Nodup)
    (hn : p.namesOk ch = true) : ((p.entitlementsFor ch na).map (·.rcn)).Nodup := by
  unfold Ca.entitlementsFor
  cases hc : get p.children ch with
  | none => exact List.nodup_nil
  | some c =>
    -- the name under which a class is listed translates back to the class
    have hback := (namesOk_iff hc).mp hn
    refine List.pairwise_map.mpr (List.Pairwise.filterMap _ ?_ (List.Pairwise.and_mem.mp (List.pairwise_map.mp hnd)))
    intro a b ⟨ha, hb, hab⟩ x hx y hy hxy
    obtain ⟨_, _, _, hxa, _⟩ := entitlementOf_eq_some hx
    obtain ⟨_, _, _, hyb, _⟩ := entitlementOf_eq_some hy
    apply hab
    rw [← hback a.1 (List.mem_map.mpr ⟨a, ha, rfl⟩), ← hback b.1 (List.mem_map.mpr ⟨b, hb, rfl⟩), ← hxa, ← hyb, hxy]

theorem process_certify {p : Ca} {ch : Handle} {n : Rcn} {c : Child} {rc : Rc} {k : CertKey}
    (hc : get p.children ch = some c) (hq : get p.classes (c.nameInParent n) = some rc)
    (hk : rc.keys.current = some k) (ki : KeyId) (na : Int) :
    p.process (.childCertify ch n ki none na) =
      .ok [.childCertIssued ch (c.nameInParent n) ki,
           .childCerts (c.nameInParent n)
            { issued := [(ki, { res := inter k.cert.res c.res, limit := none, na := na })] }] := by
  simp [Ca.process, hc, Ca.childCertifyEvents, hq, issueCert, hk, makeIssued, applyLimit, inter_subset_left]

/-- The certificate on file is the one an answer would carry now. -/
def Ca.bookedExact (p : Ca) (ch : Handle) (q : Rcn) (ki : KeyId) : Prop :=
  ∃ c rc k cc, get p.children ch = some c ∧ get p.classes q = some rc ∧ rc.keys.current = some k ∧
    get rc.certs.issued ki = some cc ∧ cc.res = inter k.cert.res c.res

theorem applyAll_certify {p p' : Ca} {ch : Handle} {q : Rcn} {ki : KeyId} {cc : ChildCert} {c : Child} {rc : Rc}
    (hc : get p.children ch = some c) (hq : get p.classes q = some rc)
    (h : p.applyAll [.childCertIssued ch q ki, .childCerts q { issued := [(ki, cc)] }] = some p') :
    get p'.children ch = some { c with usedKeys := set c.usedKeys ki (.inUse q) } ∧
    ∃ rc', OnlyClass p p' q rc' ∧ rc'.keys = rc.keys ∧ rc'.certs.issued = set rc.certs.issued ki cc := by
  simp only [Ca.applyAll, Ca.apply, Ca.withChild, hc, Ca.withClass, hq, Option.bind_some, List.foldl_nil,
    Option.some.injEq] at h
  rewrite [← h]
  exact ⟨get_set_self _ _ _, _, ⟨get_set_self _ _ _, fun q2 hne => get_set_ne _ _ (Ne.symm hne), rfl⟩, rfl, rfl⟩

/-- A stored certificate request: the parent is what it was for the exchange, the certificate
is on file, every other certificate on file is untouched. -/
theorem certify_stored {s : Sys} (hr : Reachable s) {ch : Handle} {n : Rcn} {R : ResSet} (ki : KeyId) (na : Int)
    (h : s.ca.answer ch n = some R) :
    ∃ evs s', s.exec (.childCertify ch n ki none na) = .stored evs s' ∧ Reachable s' ∧
      ParentSame s.ca s'.ca ch ∧
      s'.ca.issuedFor ch n ki = some { res := R, limit := none, na := na } ∧
      (∀ q k, s'.ca.issuedIn q k = s.ca.issuedIn q k ∨ s'.ca.bookedExact ch q k) ∧
      (∃ c c', get s.ca.children ch = some c ∧ get s'.ca.children ch = some c' ∧
        get c'.usedKeys ki = some (.inUse (c.nameInParent n)) ∧
        ∀ k, k ≠ ki → get c'.usedKeys k = get c.usedKeys k) := by
  obtain ⟨c, rc, k, hc, hq, hk, rfl⟩ := answer_eq_some_iff.mp h
  obtain ⟨s', hex, happ, _⟩ := exec_of_process hr (process_certify hc hq hk ki na)
  obtain ⟨hchild, rc', honly, hkeys, hissued⟩ := applyAll_certify hc hq happ
  refine ⟨_, s', hex, reachable_stored hr hex, ⟨fun q => ?_, ?_⟩, ?_, fun q k0 => ?_, c, _, hc, hchild,
    get_set_self _ _ _, fun k hk => get_set_ne _ _ (fun h => hk h.symm)⟩
  · by_cases hqq : q = c.nameInParent n
    · rewrite [hqq, honly.classAt, hq]; exact congrArg some hkeys
    · rw [honly.frame q hqq]
  · rewrite [hchild, hc]; rfl
  · rewrite [issuedFor_of_child hchild]
    show s'.ca.issuedIn (c.nameInParent n) ki = _
    rewrite [issuedIn_of_get honly.classAt, hissued]
    exact get_set_self _ _ _
  · by_cases hqq : q = c.nameInParent n
    · rewrite [hqq, issuedIn_of_get honly.classAt, issuedIn_of_get hq, hissued]
      by_cases hkk : ki = k0
      · subst hkk
        exact Or.inr ⟨_, rc', k, _, hchild, honly.classAt, hkeys ▸ hk,
          by rewrite [hissued]; exact get_set_self _ _ _, rfl⟩
      · exact Or.inl (get_set_ne _ _ hkk)
    · exact Or.inl (by simp only [Ca.issuedIn, honly.frame q hqq])

theorem certify_refused {s : Sys} {ch : Handle} {n : Rcn} (ki : KeyId) (na : Int)
    (h : s.ca.answer ch n = none) : ∃ e, s.exec (.childCertify ch n ki none na) = .refused e := by
  cases hp : s.ca.process (.childCertify ch n ki none na) with
  | error e => exact ⟨e, by simp only [Sys.exec, hp]⟩
  | ok evs =>
    -- a request that `process` accepts is one the parent answers
    cases process_cases hp with
    | childCertify hc hev =>
      obtain ⟨rc, k, _, hq, hk, _⟩ := childCertifyEvents_cases hev
      cases h.symm.trans (answer_eq_some_iff.mpr ⟨_, rc, k, hc, hq, hk, rfl⟩)

theorem bookedExact_issuedFor {p : Ca} {ch : Handle} {n : Rcn} {ki : KeyId} {R : ResSet} {c : Child}
    (hc : get p.children ch = some c) (hb : p.bookedExact ch (c.nameInParent n) ki)
    (ha : p.answer ch n = some R) : ∃ cc, p.issuedFor ch n ki = some cc ∧ cc.res = R := by
  obtain ⟨c0, rc, k, cc, hc0, hq, hk, hi, hres⟩ := hb
  obtain ⟨c1, rc1, k1, hc1, hq1, hk1, hR⟩ := answer_eq_some_iff.mp ha
  cases hc.symm.trans hc0
  cases hc.symm.trans hc1
  cases hq.symm.trans hq1
  cases hk.symm.trans hk1
  exact ⟨cc, by rw [issuedFor_of_child hc, issuedIn_of_get hq, hi], hres.trans hR⟩

theorem booked_of_exact {p : Ca} {ch : Handle} {n : Rcn} {ki : KeyId} {R : ResSet} {c : Child}
    (hc : get p.children ch = some c) (hb : p.bookedExact ch (c.nameInParent n) ki)
    (ha : p.answer ch n = some R) : ∃ cc, p.issuedFor ch n ki = some cc ∧ seteq cc.res R = true := by
  obtain ⟨cc, h1, h2⟩ := bookedExact_issuedFor hc hb ha
  exact ⟨cc, h1, h2 ▸ seteq_refl _⟩

theorem bookedExact_of_issuedFor {p : Ca} {ch : Handle} {n : Rcn} {ki : KeyId} {R : ResSet} {cc : ChildCert}
    (ha : p.answer ch n = some R) (hi : p.issuedFor ch n ki = some cc) (hres : cc.res = R) :
    ∃ c, get p.children ch = some c ∧ p.bookedExact ch (c.nameInParent n) ki := by
  obtain ⟨c, rc, k, hc, hq, hk, hR⟩ := answer_eq_some_iff.mp ha
  rewrite [issuedFor_of_child hc, issuedIn_of_get hq] at hi
  exact ⟨c, hc, c, rc, k, cc, hc, hq, hk, hi, hres.trans hR.symm⟩

theorem ParentSame.bookedExact {p p' : Ca} {ch : Handle} (h : ParentSame p p' ch) {q : Rcn} {ki : KeyId}
    (hb : p.bookedExact ch q ki) (hi : p'.issuedIn q ki = p.issuedIn q ki) : p'.bookedExact ch q ki := by
  obtain ⟨c, rc, k, cc, hc, hq, hk, hg, hres⟩ := hb
  obtain ⟨c', hc', hr, _⟩ := h.child_some hc
  obtain ⟨rc', hq', hkeys⟩ := h.class_some hq
  rewrite [issuedIn_of_get hq', issuedIn_of_get hq] at hi
  exact ⟨c', rc', k, cc, hc', hq', hkeys ▸ hk, hi.trans hg, hr ▸ hres⟩

/-- A new mapping `n ↦ m` does not change how a name other than `m` translates back, unless it
translated to `n`. -/
theorem nameInParent_set {c : Child} {n m v : Rcn} (hv : v ≠ m) (hn : c.nameInParent v ≠ n) :
    ({ c with rcnMap := set c.rcnMap n m } : Child).nameInParent v = c.nameInParent v := by
  have hhead : decide (m = v) = false := decide_eq_false (Ne.symm hv)
  simp only [Child.nameInParent, AMap.set, List.find?_cons, hhead, AMap.del] at hn ⊢
  rw [Assoc.find?_filter_of_keeps]
  intro a ha
  rewrite [ha] at hn
  exact decide_eq_true hn

/-- `ChildUpdateResourceClassNameMapping`, when accepted, keeps `namesOk` for the child (fix 02d8de59). -/
theorem mapping_keeps_namesOk {s s' : Sys} {ch : Handle} {n m : Rcn} {evs : List Ev}
    (hok : s.ca.namesOk ch = true) (hex : s.exec (.childMapping ch n m) = .stored evs s') :
    s'.ca.namesOk ch = true := by
  obtain ⟨hp, ha⟩ := process_of_stored hex
  cases process_cases hp with
  | @childMapping _ _ _ c child _ free =>
    simp only [Ca.applyAll, Ca.apply, Ca.withChild, child, Option.bind_some, Option.some.injEq] at ha
    rewrite [← ha]
    have hback := (namesOk_iff child).mp hok
    rewrite [namesOk_iff (get_set_self _ _ _)]
    intro q hq
    -- the class that got the new name is found at the head of the map; another class translates as before
    by_cases hqn : q = n
    · subst hqn
      simp only [Child.nameForChild, get_set_self, Option.getD_some]
      simp only [Child.nameInParent, AMap.set, List.find?_cons, decide_true]
    · have hfc : ({ c with rcnMap := set c.rcnMap n m } : Child).nameForChild q = c.nameForChild q := by
        simp only [Child.nameForChild, get_set_ne _ _ (Ne.symm hqn)]
      rw [hfc, nameInParent_set ?_ (by rw [hback q hq]; exact hqn), hback q hq]
      -- `q` is another class, so it does not appear to the child as `m`
      intro hm
      rewrite [Ca.nameTaken, List.any_eq_false] at free
      exact free q (List.mem_filter.mpr ⟨List.mem_append.mpr (Or.inl hq), decide_eq_true hqn⟩) (decide_eq_true hm)

theorem applyAll_revoke {p p' : Ca} {ch : Handle} {q : Rcn} {ki : KeyId} {c : Child} {rc : Rc}
    (hc : get p.children ch = some c) (hq : get p.classes q = some rc)
    (h : p.applyAll [.childKeyRevoked ch q ki, .childCerts q { removed := [ki] }] = some p') :
    get p'.children ch = some { c with usedKeys := set c.usedKeys ki .revoked } ∧
    ∃ rc', OnlyClass p p' q rc' ∧ rc'.keys = rc.keys ∧
      ∀ k, k ≠ ki → get rc'.certs.issued k = get rc.certs.issued k := by
  simp only [Ca.applyAll, Ca.apply, Ca.withClass, hq, Ca.withChild, hc, Option.bind_some, get_set_self,
    List.foldl_cons, List.foldl_nil, Option.some.injEq] at h
  rewrite [← h]
  refine ⟨?_, _, ⟨get_set_self _ _ _,
    fun q2 hne => (get_set_ne _ _ (Ne.symm hne)).trans (get_set_ne _ _ (Ne.symm hne)), rfl⟩, rfl, fun k hk => ?_⟩
  · -- the second event looks for the key in every child; in this child it is marked already
    simp only [get_revokeEverywhere, get_set_self, Option.map_some]
    simp [Child.isIssued, get_set_self]
  · simp [ChildCerts.applyUpd, ChildCerts.removeRevoked, get_del_ne _ (Ne.symm hk)]

/-- A revocation request for a key the parent has in use for the child in the class the request
names: the request is stored; the parent is what it was for the exchange; only that key's
certificate and in-use mark change. -/
theorem revoke_stored {s : Sys} (hr : Reachable s) {ch : Handle} {n : Rcn} {ki : KeyId} {c : Child}
    (hc : get s.ca.children ch = some c) (hused : get c.usedKeys ki = some (.inUse (c.nameInParent n))) :
    ∃ evs s', s.exec (.childRevokeKey ch n ki) = .stored evs s' ∧ Reachable s' ∧ ParentSame s.ca s'.ca ch ∧
      (∀ q k, k ≠ ki → s'.ca.issuedIn q k = s.ca.issuedIn q k) ∧
      ∃ c', get s'.ca.children ch = some c' ∧ c'.rcnMap = c.rcnMap ∧
        ∀ k, k ≠ ki → get c'.usedKeys k = get c.usedKeys k := by
  cases hq : get s.ca.classes (c.nameInParent n) with
  | none =>
    -- the class is gone at the parent: the request is confirmed without an event, nothing changes
    have hp : s.ca.process (.childRevokeKey ch n ki) = .ok [] := by simp [Ca.process, hc, hq]
    obtain ⟨s', hex, happ, _⟩ := exec_of_process hr hp
    simp only [Ca.applyAll, Option.some.injEq] at happ
    refine ⟨[], s', hex, reachable_stored hr hex, ?_, ?_, c, by rw [← happ]; exact hc, rfl, fun _ _ => rfl⟩
    · rw [← happ]; exact ParentSame.refl _ _
    · intro q k _; rw [← happ]
  | some rc =>
    -- two events: the key is marked revoked in the child record and its certificate leaves the class
    have hiss : c.isIssued ki = true := by simp [Child.isIssued, hused]
    have hp : s.ca.process (.childRevokeKey ch n ki) =
        .ok [.childKeyRevoked ch (c.nameInParent n) ki, .childCerts (c.nameInParent n) { removed := [ki] }] := by
      simp [Ca.process, hc, hq, hiss, hused]
    obtain ⟨s', hex, happ, _⟩ := exec_of_process hr hp
    obtain ⟨hchild, rc', honly, hkeys, hcert⟩ := applyAll_revoke hc hq happ
    refine ⟨_, s', hex, reachable_stored hr hex, ⟨fun q => ?_, ?_⟩, fun q k hk => ?_, _, hchild, rfl,
      fun k hk => get_set_ne _ _ (fun h => hk h.symm)⟩
    · by_cases hqq : q = c.nameInParent n
      · rewrite [hqq, honly.classAt, hq]; exact congrArg some hkeys
      · rw [honly.frame q hqq]
    · rewrite [hchild, hc]; rfl
    · by_cases hqq : q = c.nameInParent n
      · rewrite [hqq, issuedIn_of_get honly.classAt, issuedIn_of_get hq]; exact hcert k hk
      · simp only [Ca.issuedIn, honly.frame q hqq]

/-- `ChildUpdateResources` at the parent: the classes and the child's class-name mapping do not change. -/
theorem childUpdateResources_spec (s : Sys) (ch : Handle) (res : ResSet) :
    (s.next (.childUpdateResources ch res)).ca.classes = s.ca.classes ∧
    SameNames s.ca (s.next (.childUpdateResources ch res)).ca ch := by
  unfold Sys.next
  cases hex : s.exec (.childUpdateResources ch res) with
  | stored evs s' =>
    obtain ⟨hp, happ⟩ := process_of_stored hex
    cases process_cases hp with
    | childUpdateResourcesSame =>
      rewrite [← Option.some.inj happ]
      exact ⟨rfl, rfl⟩
    | childUpdateResources _ child =>
      simp only [Ca.applyAll, Ca.apply, Ca.withChild, child, Option.bind_some, Option.some.injEq] at happ
      rewrite [← happ]
      exact ⟨rfl, by rewrite [SameNames, get_set_self, child]; rfl⟩
  | _ => exact ⟨rfl, rfl⟩

end KM.CaK
