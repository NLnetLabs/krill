/-
The association lists of `Ca/PubBase.lean` as maps.  Through their keys: what `keys`, membership and `Nodup` of the
keys become under `eraseAll`, `putAll`, `dedup`.  Through `get?`, which is `List.lookup`: `put`, `erase`, `filterMap`
and folds of `put` and `erase`.
-/
import KrillModel.Ca.PubBase
import KrillModel.Base.Assoc
namespace KM.Ca.Pub

universe u v
variable {κ : Type u} {ν : Type v}

theorem mem_keys {m : List (κ × ν)} {k : κ} : k ∈ keys m ↔ ∃ v, (k, v) ∈ m := by
  rw [keys, List.mem_map]
  exact ⟨fun ⟨⟨_, v⟩, h, rfl⟩ => ⟨v, h⟩, fun ⟨v, h⟩ => ⟨(k, v), h, rfl⟩⟩

theorem mem_keys_of_mem {m : List (κ × ν)} {e : κ × ν} (h : e ∈ m) : e.1 ∈ keys m :=
  mem_keys.mpr ⟨e.2, h⟩

theorem keys_filter (m : List (κ × ν)) (p : κ → Bool) :
    keys (m.filter fun e => p e.1) = (keys m).filter p := by
  rw [keys, keys, List.filter_map]
  rfl

theorem keys_map_mk (l : List κ) (f : κ → ν) : keys (l.map fun k => (k, f k)) = l := by
  rw [keys, List.map_map]
  exact List.map_id _

theorem keys_map_snd {δ : Type v} (l : List (κ × δ)) (g : κ × δ → ν) : keys (l.map fun d => (d.1, g d)) = keys l := by
  rw [keys, List.map_map]
  rfl

theorem keys_append (a b : List (κ × ν)) : keys (a ++ b) = keys a ++ keys b := by simp [keys]

variable [DecidableEq κ]

theorem nodup_keys_unique {m : List (κ × ν)} (h : (keys m).Nodup) {k : κ} {v v' : ν}
    (h1 : (k, v) ∈ m) (h2 : (k, v') ∈ m) : v = v' :=
  Option.some.inj ((Assoc.lookup_of_mem h h1).symm.trans (Assoc.lookup_of_mem h h2))

theorem mem_eraseAll {m : List (κ × ν)} {ks : List κ} {e : κ × ν} :
    e ∈ eraseAll m ks ↔ e ∈ m ∧ e.1 ∉ ks := by
  simp [eraseAll, List.mem_filter]

theorem keys_eraseAll (m : List (κ × ν)) (ks : List κ) :
    keys (eraseAll m ks) = (keys m).filter fun k => decide (k ∉ ks) :=
  keys_filter m fun k => decide (k ∉ ks)

theorem eraseAll_nil (m : List (κ × ν)) : eraseAll m [] = m := by
  simp [eraseAll]

theorem eraseAll_keys_self (m : List (κ × ν)) : eraseAll m (keys m) = [] := by
  simp only [eraseAll, List.filter_eq_nil_iff, decide_eq_true_eq, Decidable.not_not]
  intro e he
  exact mem_keys_of_mem he

theorem putAll_nil (m : List (κ × ν)) : putAll m [] = m := by
  simp [putAll, keys]

theorem eraseAll_nil_left {κ ν} [DecidableEq κ] (ks : List κ) : eraseAll ([] : List (κ × ν)) ks = [] := rfl

theorem nodup_keys_eraseAll {m : List (κ × ν)} (h : (keys m).Nodup) (ks : List κ) :
    (keys (eraseAll m ks)).Nodup := by
  rw [keys_eraseAll]; exact h.filter _

theorem mem_putAll {m us : List (κ × ν)} {e : κ × ν} :
    e ∈ putAll m us ↔ (e ∈ m ∧ e.1 ∉ keys us) ∨ e ∈ us := by
  simp [putAll, List.mem_append, List.mem_filter]

theorem keys_putAll (m us : List (κ × ν)) :
    keys (putAll m us) = ((keys m).filter fun k => decide (k ∉ keys us)) ++ keys us := by
  unfold putAll
  rw [keys_append]
  congr 1
  exact keys_filter m fun k => decide (k ∉ keys us)

theorem nodup_keys_putAll {m us : List (κ × ν)} (hm : (keys m).Nodup) (hu : (keys us).Nodup) :
    (keys (putAll m us)).Nodup := by
  rw [keys_putAll, List.nodup_append]
  refine ⟨hm.filter _, hu, ?_⟩
  intro a ha b hb hab
  rw [List.mem_filter] at ha
  subst hab
  simp at ha
  exact ha.2 hb

theorem mem_keys_putAll {m us : List (κ × ν)} {k : κ} : k ∈ keys (putAll m us) ↔ k ∈ keys m ∨ k ∈ keys us := by
  rw [keys_putAll, List.mem_append, List.mem_filter]
  by_cases h : k ∈ keys us <;> simp [h]

/-- Bringing a map to the wanted keys: entries are added for the wanted keys it lacks and the
entries with unwanted keys are removed. -/
theorem mem_keys_reconcile {m us : List (κ × ν)} {rem want : List κ}
    (hus : ∀ k, k ∈ keys us ↔ k ∈ want ∧ k ∉ keys m) (hrem : ∀ k, k ∈ rem ↔ k ∈ keys m ∧ k ∉ want) (k : κ) :
    k ∈ keys (eraseAll (putAll m us) rem) ↔ k ∈ want := by
  rw [keys_eraseAll, List.mem_filter, mem_keys_putAll, hus, decide_eq_true_eq, hrem]
  by_cases h1 : k ∈ keys m <;> by_cases h2 : k ∈ want <;> simp [h1, h2]

theorem mem_dedup {α : Type u} [DecidableEq α] {l : List α} {a : α} : a ∈ dedup l ↔ a ∈ l := by
  fun_induction dedup l with
  | case1 => rfl
  | case2 b l h ih => rw [ih, List.mem_cons]; exact ⟨Or.inr, fun h' => h'.elim (fun e => e ▸ h) id⟩
  | case3 b l h ih => rw [List.mem_cons, List.mem_cons, ih]

theorem nodup_dedup {α : Type u} [DecidableEq α] (l : List α) : (dedup l).Nodup := by
  fun_induction dedup l with
  | case1 => exact List.nodup_nil
  | case2 b l h ih => exact ih
  | case3 b l h ih => exact List.nodup_cons.mpr ⟨fun hb => h (mem_dedup.mp hb), ih⟩

theorem sameMembers_iff {α : Type u} [DecidableEq α] {a b : List α} :
    sameMembers a b = true ↔ ∀ x, x ∈ a ↔ x ∈ b := by
  simp only [sameMembers, Bool.and_eq_true, List.all_eq_true, decide_eq_true_eq]
  constructor
  · rintro ⟨h1, h2⟩ x; exact ⟨h1 x, h2 x⟩
  · intro h; exact ⟨fun x hx => (h x).mp hx, fun x hx => (h x).mpr hx⟩

theorem get?_eq_lookup (m : List (κ × ν)) (k : κ) : get? m k = m.lookup k :=
  (Assoc.lookup_eq_find? m k).symm

theorem erase_eq_filter (m : List (κ × ν)) (k : κ) : erase m k = m.filter fun e => e.1 != k :=
  List.filter_congr fun _ _ => decide_not

theorem get?_some_mem {m : List (κ × ν)} {k : κ} {v : ν} (h : get? m k = some v) : (k, v) ∈ m :=
  Assoc.mem_of_lookup ((get?_eq_lookup m k).symm.trans h)

theorem get?_none_iff {m : List (κ × ν)} {k : κ} : get? m k = none ↔ k ∉ keys m := by
  rw [get?_eq_lookup]; exact Assoc.lookup_eq_none

theorem get?_of_mem {m : List (κ × ν)} (hn : (keys m).Nodup) {k : κ} {v : ν} (h : (k, v) ∈ m) :
    get? m k = some v :=
  (get?_eq_lookup m k).trans (Assoc.lookup_of_mem hn h)

theorem has_iff {m : List (κ × ν)} {k : κ} : has m k = true ↔ k ∈ keys m := by simp [has]

theorem get?_cons (e : κ × ν) (m : List (κ × ν)) (k : κ) :
    get? (e :: m) k = if e.1 = k then some e.2 else get? m k := by
  simp only [get?, List.find?_cons]
  by_cases h : e.1 = k
  · rw [decide_eq_true h, if_pos h]; rfl
  · rw [decide_eq_false h, if_neg h]

theorem get?_nil (k : κ) : get? ([] : List (κ × ν)) k = none := rfl

theorem has_eq_isSome (m : List (κ × ν)) (k : κ) : has m k = (get? m k).isSome := by
  cases h : get? m k with
  | none => exact decide_eq_false (get?_none_iff.mp h)
  | some v => exact decide_eq_true (mem_keys_of_mem (get?_some_mem h))

theorem mem_iff_get? {m : List (κ × ν)} (hn : (keys m).Nodup) (k : κ) (v : ν) :
    (k, v) ∈ m ↔ get? m k = some v :=
  ⟨fun h => get?_of_mem hn h, fun h => get?_some_mem h⟩

theorem get?_filter_key (m : List (κ × ν)) (p : κ → Bool) (k : κ) :
    get? (m.filter fun e => p e.1) k = if p k then get? m k else none := by
  rw [get?_eq_lookup, get?_eq_lookup]; exact Assoc.lookup_filter m p k

theorem get?_append (a b : List (κ × ν)) (k : κ) :
    get? (a ++ b) k = (get? a k).orElse fun _ => get? b k := by
  rw [get?_eq_lookup, get?_eq_lookup, get?_eq_lookup, List.lookup_append, Option.or_eq_orElse]

theorem get?_erase (m : List (κ × ν)) (k u : κ) :
    get? (erase m k) u = if u = k then none else get? m u := by
  rw [erase, get?_filter_key m (fun x => decide (x ≠ k)) u]
  by_cases h : u = k <;> simp [h]

theorem get?_put (m : List (κ × ν)) (k : κ) (v : ν) (u : κ) :
    get? (put m k v) u = if u = k then some v else get? m u := by
  rw [get?_eq_lookup, get?_eq_lookup, put, erase_eq_filter]; exact Assoc.lookup_put m k u v

theorem erase_of_not_mem (m : List (κ × ν)) (k : κ) (h : k ∉ keys m) : erase m k = m :=
  (erase_eq_filter m k).trans (Assoc.erase_eq_self h)

theorem mem_erase {m : List (κ × ν)} {k : κ} {e : κ × ν} : e ∈ erase m k ↔ e ∈ m ∧ e.1 ≠ k :=
  erase_eq_filter m k ▸ Assoc.mem_erase

theorem mem_put (m : List (κ × ν)) (k : κ) (v : ν) (e : κ × ν) :
    e ∈ put m k v ↔ (e ∈ m ∧ e.1 ≠ k) ∨ e = (k, v) := by
  simp [put, erase, List.mem_append, List.mem_filter]

theorem keys_erase_nodup {m : List (κ × ν)} (h : (keys m).Nodup) (k : κ) : (keys (erase m k)).Nodup :=
  erase_eq_filter m k ▸ Assoc.nodup_erase h k

theorem keys_put_nodup {m : List (κ × ν)} (h : (keys m).Nodup) (k : κ) (v : ν) : (keys (put m k v)).Nodup := by
  rw [put, erase_eq_filter]; exact Assoc.nodup_put h k v

theorem get?_foldl_erase {α : Type} (ws : List α) (f : α → κ) (m : List (κ × ν)) (u : κ) :
    get? (ws.foldl (fun m w => erase m (f w)) m) u = if u ∈ ws.map f then none else get? m u :=
  Assoc.get_foldl_erase get? erase get?_erase f ws m u

theorem mem_foldl_erase (ks : List κ) (m : List (κ × ν)) (e : κ × ν) :
    e ∈ ks.foldl (fun m n => erase m n) m ↔ e ∈ m ∧ e.1 ∉ ks := by
  induction ks generalizing m with
  | nil => simp
  | cons k ks ih =>
    rw [List.foldl_cons, ih]
    simp only [erase, List.mem_filter, decide_eq_true_eq, List.mem_cons, not_or, and_assoc]

theorem nodup_foldl_erase {α : Type} (ws : List α) (f : α → κ) (m : List (κ × ν)) (h : (keys m).Nodup) :
    (keys (ws.foldl (fun m w => erase m (f w)) m)).Nodup :=
  List.foldlRecOn (motive := fun m : List (κ × ν) => (keys m).Nodup) ws _ h fun _ h _ _ => keys_erase_nodup h _

theorem get?_foldl_put_map {ν' : Type v} (g : ν' → ν) (ps : List (κ × ν')) (hn : (keys ps).Nodup) (m : List (κ × ν))
    (u : κ) :
    get? (ps.foldl (fun m p => put m p.1 (g p.2)) m) u = ((get? ps u).map g).orElse fun _ => get? m u := by
  induction ps generalizing m with
  | nil => rfl
  | cons p ps ih =>
    simp only [keys, List.map_cons, List.nodup_cons] at hn
    rw [List.foldl_cons, ih hn.2, get?_put, get?_cons]
    by_cases hk : u = p.1
    · subst hk
      rw [get?_none_iff.mpr hn.1, if_pos rfl, if_pos rfl]; rfl
    · rw [if_neg hk, if_neg (Ne.symm hk)]

theorem get?_foldl_put (ps : List (κ × ν)) (hn : (keys ps).Nodup) (m : List (κ × ν)) (u : κ) :
    get? (ps.foldl (fun m p => put m p.1 p.2) m) u = (get? ps u).orElse fun _ => get? m u := by
  have h := get?_foldl_put_map (fun a => a) ps hn m u
  rwa [Option.map_id'] at h

theorem mem_foldl_put (us : List (κ × ν)) (hn : (keys us).Nodup) (m : List (κ × ν)) (e : κ × ν) :
    e ∈ us.foldl (fun m p => put m p.1 p.2) m ↔ (e ∈ m ∧ e.1 ∉ keys us) ∨ e ∈ us := by
  induction us generalizing m with
  | nil => simp [keys]
  | cons p us ih =>
    simp only [keys, List.map_cons, List.nodup_cons] at hn
    rw [List.foldl_cons, ih hn.2, mem_put]
    simp only [keys, List.map_cons, List.mem_cons, not_or]
    constructor
    · rintro (⟨(⟨h1, h2⟩ | h1), h3⟩ | h1)
      · exact Or.inl ⟨h1, h2, h3⟩
      · exact Or.inr (Or.inl h1)
      · exact Or.inr (Or.inr h1)
    · rintro (⟨h1, h2, h3⟩ | h1 | h1)
      · exact Or.inl ⟨Or.inl ⟨h1, h2⟩, h3⟩
      · exact Or.inl ⟨Or.inr h1, h1 ▸ hn.1⟩
      · exact Or.inr h1

theorem nodup_foldl_put (ps : List (κ × ν)) (m : List (κ × ν)) (h : (keys m).Nodup) :
    (keys (ps.foldl (fun m p => put m p.1 p.2) m)).Nodup :=
  List.foldlRecOn (motive := fun m : List (κ × ν) => (keys m).Nodup) ps _ h fun _ h _ _ => keys_put_nodup h _ _

theorem get?_filterMap {ν' : Type v} (f : κ × ν → Option (κ × ν')) (hf : ∀ e p, f e = some p → p.1 = e.1)
    (m : List (κ × ν)) (hn : (keys m).Nodup) (u : κ) :
    get? (m.filterMap f) u = (get? m u).bind fun v => (f (u, v)).map (·.2) := by
  induction m with
  | nil => rfl
  | cons e m ih =>
    simp only [keys, List.map_cons, List.nodup_cons] at hn
    rw [List.filterMap_cons, get?_cons]
    by_cases hk : e.1 = u
    · subst hk
      have hrest : get? (m.filterMap f) e.1 = none := by rw [ih hn.2, get?_none_iff.mpr hn.1]; rfl
      rw [if_pos rfl, Option.bind_some]
      cases hs : f e with
      | none => exact hrest
      | some p => rw [get?_cons, if_pos (hf e p hs)]; rfl
    · rw [if_neg hk, ← ih hn.2]
      cases hs : f e with
      | none => rfl
      | some p => rw [get?_cons, if_neg (hf e p hs ▸ hk)]

end KM.Ca.Pub
