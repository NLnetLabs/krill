/-
A pair whose child has no key roll in progress: the coupling `Coupled`, which both branches of `Pair.sync` keep
(`ReqRun.coupled`, `syncE_spec`); entitlements, then requests end in `Conv`, a fixed point of `Pair.sync`
(`converges_from_quiet`, `converges_any`).
-/
import KrillModel.Ca.ExchangeRequests
import KrillModel.Ca.ExchangeEntitlements
namespace KM.CaK
open KM.Res KM.AMap

/-- The certificate of an `active` class that holds what the parent would answer is on file at the
parent with those resources. -/
def Booked (x : Pair) : Prop :=
  ∀ r rc k R, get x.child.ca.classes r = some rc → rc.parent = x.ph → rc.keys = .active k →
    x.parent.ca.answer x.ch rc.parentRcn = some R → seteq k.cert.res R = true →
    ∃ cc, x.parent.ca.issuedFor x.ch rc.parentRcn k.id = some cc ∧ seteq cc.res R = true

/-- What the exchange needs and keeps (no key roll in progress). -/
structure Coupled (x : Pair) : Prop where
  inv : PairInv x
  names : x.parent.ca.namesOk x.ch = true
  uniq : UniqueNames x.child.ca x.ph
  noroll : NoRoll x.child.ca x.ph
  booked : Booked x

theorem ReqRun.coupled {x z : Pair} {na : Int} (hc : Coupled x) (h : ReqRun x z na) : Coupled z := by
  refine ⟨h.inv, ?_, ?_, ?_, ?_⟩
  · rewrite [h.ch]; exact h.same.namesOk hc.names
  · intro r1 r2 rc1 rc2 hg1 hg2 hp1 hp2 hname
    obtain ⟨rc1', hx1, a1, a2, _⟩ := (h.cls r1).origin hg1
    obtain ⟨rc2', hx2, b1, b2, _⟩ := (h.cls r2).origin hg2
    rewrite [h.ph] at hp1 hp2
    exact hc.uniq r1 r2 rc1' rc2' hx1 hx2 (a1.symm.trans hp1) (b1.symm.trans hp2) (a2.symm.trans (hname.trans b2))
  · intro r rc' hg hp
    obtain ⟨rc, hx, a1, _, a3⟩ := (h.cls r).origin hg
    rcases a3 with ⟨heq, _⟩ | ⟨_, _, R, ki, c, _, hk, _⟩
    · rewrite [heq]; exact hc.noroll r rc hx (a1.symm.trans (hp.trans h.ph))
    · rewrite [hk]; trivial
  · intro r rc' k R hg hp hk ha hse
    rewrite [h.ch] at ha ⊢
    rewrite [h.ph] at hp
    have ha' : x.parent.ca.answer x.ch rc'.parentRcn = some R := (h.same.answer _).symm.trans ha
    obtain ⟨c0, _, _, e1, _⟩ := answer_eq_some_iff.mp ha'
    obtain ⟨c', e2, _, e4⟩ := h.same.child_some e1
    obtain ⟨rc, hx, a1, a2, ⟨heq, _⟩ | ⟨_, _, R', ki, c, hR', hk', hc', hb⟩⟩ := (h.cls r).origin hg
    · -- an untouched class: its certificate is on file as before, or was issued anew
      subst heq
      obtain ⟨cc, hcc, hres⟩ := hc.booked r rc' k R hx hp hk ha' hse
      rcases h.book (c0.nameInParent rc'.parentRcn) k.id with hsame | hex
      · refine ⟨cc, ?_, hres⟩
        rewrite [issuedFor_of_child e2, nameInParent_congr e4, hsame, ← issuedFor_of_child e1]
        exact hcc
      · exact booked_of_exact e2 (nameInParent_congr e4 _ ▸ hex) ha
    · -- an answered class holds the certificate just issued
      cases hk'.symm.trans hk
      cases e2.symm.trans hc'
      exact booked_of_exact e2 (a2 ▸ hb) ha

/-- The class is `active` without an open request and its key does not want an update for what
the parent lists under the class's name. -/
def Settled (p : Ca) (ch : Handle) (now na : Int) (rc : Rc) : Prop :=
  ∃ k R, rc.keys = .active k ∧ k.req = false ∧ p.offers ch rc.parentRcn R ∧ k.wantsUpdate R na now = false

/-- The pair after the entitlement branch: every class under the parent is listed and either has
its request open or is settled; every listed class exists. -/
structure PostE (x : Pair) (now na : Int) : Prop where
  coupled : Coupled x
  cls : ∀ r rc, get x.child.ca.classes r = some rc → rc.parent = x.ph →
    (∃ R, x.parent.ca.offers x.ch rc.parentRcn R) ∧
    (rc.keys.hasPending = true ∨ Settled x.parent.ca x.ch now na rc)
  all : ∀ n R, x.parent.ca.offers x.ch n R →
    ∃ r rc, get x.child.ca.classes r = some rc ∧ rc.parent = x.ph ∧ rc.parentRcn = n

/-- The converged pair, class by class. -/
structure Conv (x : Pair) (now na : Int) : Prop where
  coupled : Coupled x
  cls : ∀ r rc, get x.child.ca.classes r = some rc → rc.parent = x.ph → Settled x.parent.ca x.ch now na rc
  all : ∀ n R, x.parent.ca.offers x.ch n R →
    ∃ r rc, get x.child.ca.classes r = some rc ∧ rc.parent = x.ph ∧ rc.parentRcn = n

theorem settled_not_pending {p : Ca} {ch : Handle} {now na : Int} {rc : Rc} (h : Settled p ch now na rc) :
    rc.keys.hasPending = false := by
  obtain ⟨⟨ki, cert, req⟩, R, hk, hreq, _, _⟩ := h
  rewrite [hk, hasPending_active]
  exact hreq

theorem Conv.quiet {x : Pair} {now na : Int} (h : Conv x now na) : x.child.ca.hasPendingRequests x.ph = false :=
  (hasPendingRequests_false_iff (reachable_inv h.coupled.inv.rc).core.nodup _).mpr
    fun r rc hg hp => settled_not_pending (h.cls r rc hg hp)

theorem PostE.conv_of_quiet {x : Pair} {now na : Int} (h : PostE x now na)
    (hq : x.child.ca.hasPendingRequests x.ph = false) : Conv x now na := by
  refine ⟨h.coupled, fun r rc hg hp => (h.cls r rc hg hp).2.resolve_left fun hpend => ?_, h.all⟩
  exact Bool.false_ne_true ((hasPending_of_quiet hq hg hp).symm.trans hpend)

/-- A parent whose names translate back answers for every class it lists. -/
theorem answerable_of_listed {x : Pair} (hn : x.parent.ca.namesOk x.ch = true)
    (h : ∀ r rc, get x.child.ca.classes r = some rc → rc.parent = x.ph → ∃ R, x.parent.ca.offers x.ch rc.parentRcn R) :
    Answerable x :=
  fun r rc hg hp _ => let ⟨R, hoff⟩ := h r rc hg hp; ⟨R, offers_answer hn hoff⟩

theorem PostE.answerable {x : Pair} {now na : Int} (h : PostE x now na) : Answerable x :=
  answerable_of_listed h.coupled.names fun r rc hg hp => (h.cls r rc hg hp).1

theorem PostE.conv_of_requests {x z : Pair} {now na : Int} (h : PostE x now na) (hr : ReqRun x z na) :
    Conv z now na := by
  refine ⟨hr.coupled h.coupled, ?_, ?_⟩
  · intro r rc' hg hp
    rewrite [hr.ph] at hp
    rewrite [hr.ch]
    obtain ⟨rc, hx, a1, a2, a3⟩ := (hr.cls r).origin hg
    obtain ⟨⟨R0, hoff⟩, hst⟩ := h.cls r rc hx (a1.symm.trans hp)
    rcases a3 with ⟨heq, hnot⟩ | ⟨hpp, _, R, ki, c, hR, hk, _⟩
    · subst heq
      obtain ⟨k, R, hk, hreq, ho, hw⟩ := hst.resolve_left fun hpend => hnot ⟨hp, hpend⟩
      exact ⟨k, R, hk, hreq, hr.same.offers ho, hw⟩
    · -- the answer is what is listed, and the new certificate is that answer
      cases (offers_answer h.coupled.names hoff).symm.trans hR
      exact ⟨_, R0, hk, rfl, a2 ▸ hr.same.offers hoff, wantsUpdate_offer ki false ⟨R0, na⟩ now⟩
  · intro n R ho
    rewrite [hr.ch] at ho
    obtain ⟨r, rc, hg, hp, hn⟩ := h.all n R (hr.same.symm.offers ho)
    obtain ⟨rc', g1, g2, g3⟩ := (hr.cls r).survives hg fun _ _ => h.answerable r rc hg hp
      (certRequests_ne_nil_of_plain_pending (h.coupled.noroll r rc hg hp) ‹_›)
    exact ⟨r, rc', g1, by rw [g2, hp, hr.ph], g3.trans hn⟩

/-- The number of classes the next `UpdateEntitlements` creates (each needs a new key). -/
def Pair.newClasses (x : Pair) (na : Int) : Nat :=
  (newEntitlements x.child.ca x.ph (x.parent.ca.entitlementsFor x.ch na)).length

theorem syncE_spec {x : Pair} (hc : Coupled x) (now na : Int) (fresh : List KeyId)
    (hpend : x.child.ca.hasPendingRequests x.ph = false)
    (hlen : x.newClasses na ≤ fresh.length) :
    PostE (x.sync now na fresh) now na ∧ (x.sync now na fresh).parent = x.parent ∧
    (x.sync now na fresh).ch = x.ch ∧ (x.sync now na fresh).ph = x.ph := by
  have hndP := (reachable_inv hc.inv.rp).core.nodup
  have hs := updEnt_spec hc.inv.rc hc.inv.repo hc.inv.nolim x.ph hc.uniq
    (x.parent.ca.entitlementsFor x.ch na) (entitlementsFor_nodup na hndP hc.names) now fresh hlen
  rewrite [sync_of_quiet hpend]
  generalize x.child.next _ = s' at hs ⊢
  refine ⟨?_, rfl, rfl, rfl⟩
  -- the classes under the parent after the command
  have hcls : ∀ r rc', get s'.ca.classes r = some rc' → rc'.parent = x.ph →
      (∃ R, x.parent.ca.offers x.ch rc'.parentRcn R) ∧
      (rc'.keys.hasPending = true ∨ Settled x.parent.ca x.ch now na rc') ∧ rc'.keys.plain ∧
      (∀ k, rc'.keys = .active k → ∃ rc k0, get x.child.ca.classes r = some rc ∧ rc.parent = x.ph ∧
        rc.parentRcn = rc'.parentRcn ∧ rc.keys = .active k0 ∧ k0.id = k.id ∧ k0.cert = k.cert) := by
    intro r rc' hg hp
    rcases (hs.origin r rc' hg).under hp with ⟨rc, ent, hgx, hpp, hent, hname, heq⟩ | ⟨ent, k, hent, _, _, heq⟩
    · obtain ⟨hoff, hna⟩ := mem_entitlementsFor hndP hent
      obtain ⟨q1, q2, q3⟩ := requestedFor_quiet (hc.noroll r rc hgx hpp) (hasPending_of_quiet hpend hgx hpp) ent now
      subst heq
      refine ⟨⟨ent.res, hname ▸ hoff⟩, q2.imp_right fun ⟨k, e1, e2, e3⟩ => ⟨k, ent.res, e1, e2, hname ▸ hoff, hna ▸ e3⟩,
        q1, fun k hk => ?_⟩
      obtain ⟨k0, e1, e2, e3⟩ := q3 k hk
      exact ⟨rc, k0, hgx, hpp, rfl, e1, e2, e3⟩
    · subst heq
      exact ⟨⟨ent.res, (mem_entitlementsFor hndP hent).1⟩, Or.inl rfl, trivial, fun k hk => nomatch hk⟩
  refine ⟨⟨⟨hc.inv.rp, hs.reach, hs.repo, hs.nolim⟩, hc.names, hs.uniq, fun r rc' hg hp => (hcls r rc' hg hp).2.2.1, ?_⟩,
    fun r rc' hg hp => ⟨(hcls r rc' hg hp).1, (hcls r rc' hg hp).2.1⟩, ?_⟩
  · intro r rc' k R hg hp hk ha hse
    obtain ⟨rc, k0, hgx, hpp, hname, hk0, hid, hcert⟩ := (hcls r rc' hg hp).2.2.2 k hk
    exact hname ▸ hid ▸ hc.booked r rc k0 R hgx hpp hk0 (hname ▸ ha) (hcert ▸ hse)
  · intro n R ho
    obtain ⟨ent, hent, hn1, _, _⟩ := entitlementsFor_of_offers na ho
    obtain ⟨r, rc', hg, hp, hname⟩ := hs.all ent hent
    exact ⟨r, rc', hg, hp, hname.trans hn1⟩

theorem mem_classNames {s : Ca} (hnd : (keys s.classes).Nodup) (p : Handle) (n : Rcn) :
    n ∈ (s.classes.filter fun q => q.2.parent = p).map (·.2.parentRcn) ↔
      ∃ r rc, get s.classes r = some rc ∧ rc.parent = p ∧ rc.parentRcn = n := by
  constructor
  · intro h
    obtain ⟨q, hq, hn⟩ := List.mem_map.mp h
    obtain ⟨hq1, hq2⟩ := List.mem_filter.mp hq
    exact ⟨q.1, q.2, get_of_mem_nodup hnd hq1, of_decide_eq_true hq2, hn⟩
  · rintro ⟨r, rc, hg, hp, hn⟩
    exact List.mem_map.mpr ⟨(r, rc), List.mem_filter.mpr ⟨mem_of_get hg, decide_eq_true hp⟩, hn⟩

theorem nodup_classNames {s : Ca} (hnd : (keys s.classes).Nodup) {p : Handle} (hu : UniqueNames s p) :
    ((s.classes.filter fun q => q.2.parent = p).map (·.2.parentRcn)).Nodup := by
  refine List.pairwise_map.mpr (List.Pairwise.imp_of_mem ?_
    (List.Pairwise.sublist List.filter_sublist (List.pairwise_map.mp hnd)))
  intro a b ha hb hab hname
  obtain ⟨ha1, ha2⟩ := List.mem_filter.mp ha
  obtain ⟨hb1, hb2⟩ := List.mem_filter.mp hb
  exact hab (hu a.1 b.1 a.2 b.2 (get_of_mem_nodup hnd ha1) (get_of_mem_nodup hnd hb1) (of_decide_eq_true ha2)
    (of_decide_eq_true hb2) hname)

theorem Conv.converged {x : Pair} {now na : Int} (h : Conv x now na) : x.converged na = true := by
  have hndP := (reachable_inv h.coupled.inv.rp).core.nodup
  have hndC := (reachable_inv h.coupled.inv.rc).core.nodup
  unfold Pair.converged
  refine Bool.and_eq_true_iff.mpr ⟨Bool.and_eq_true_iff.mpr ⟨by rewrite [h.quiet]; rfl, beq_iff_eq.mpr ?_⟩,
    List.all_eq_true.mpr ?_⟩
  · -- the class names under the parent and the listed names are the same, and neither repeats
    refine (List.length_map _).symm.trans (((List.perm_ext_iff_of_nodup (nodup_classNames hndC h.coupled.uniq)
      (entitlementsFor_nodup na hndP h.coupled.names)).mpr fun n => ?_).length_eq.trans (List.length_map _))
    rewrite [mem_classNames hndC]
    constructor
    · rintro ⟨r, rc, hg, hp, hn⟩
      obtain ⟨k, R, _, _, ho, _⟩ := h.cls r rc hg hp
      obtain ⟨ent, hent, he1, _, _⟩ := entitlementsFor_of_offers na ho
      exact List.mem_map.mpr ⟨ent, hent, he1.trans hn⟩
    · intro hm
      obtain ⟨ent, hent, hn⟩ := List.mem_map.mp hm
      exact h.all n ent.res (hn ▸ (mem_entitlementsFor hndP hent).1)
  · intro ent hent
    obtain ⟨ho, _⟩ := mem_entitlementsFor hndP hent
    obtain ⟨r, rc, hg, hp, hn⟩ := h.all ent.rcn ent.res ho
    have hf := hn ▸ findParentRc_of_get hndC h.coupled.uniq hg hp
    obtain ⟨k, R, hk, hreq, ho', hw⟩ := h.cls r rc hg hp
    cases offers_unique h.coupled.names (hn ▸ ho') ho
    have hse : seteq k.cert.res ent.res = true := seteq_symm (seteq_of_not_wantsUpdate hw)
    obtain ⟨cc, hcc, hres⟩ := h.coupled.booked r rc k ent.res hg hp hk
      (hn ▸ offers_answer h.coupled.names ho) hse
    rewrite [hn] at hcc
    simp only [hf, hk, hse, hreq, Bool.not_false, Bool.and_self, hcc, hres]

/-- A sync with nothing to send changes nothing when every class under the parent is listed and no key of it asks
for anything, and every listed class is there (also when the parent lists keys the child does not know:
`UnexpectedKeyFound` changes nothing). -/
theorem sync_eq_of_nothing_asked {x : Pair} {now na : Int} (hinv : PairInv x)
    (hnames : x.parent.ca.namesOk x.ch = true) (huniq : UniqueNames x.child.ca x.ph)
    (hq : x.child.ca.hasPendingRequests x.ph = false)
    (hcls : ∀ r rc, get x.child.ca.classes r = some rc → rc.parent = x.ph →
      ∃ R, x.parent.ca.offers x.ch rc.parentRcn R ∧
        ∀ ent : Entitlement, ent.res = R → ent.na = na → rc.keys.requestKeys ent now = [])
    (hall : ∀ n R, x.parent.ca.offers x.ch n R →
      ∃ r rc, get x.child.ca.classes r = some rc ∧ rc.parent = x.ph ∧ rc.parentRcn = n)
    (fresh : List KeyId) : x.sync now na fresh = x := by
  have hndP := (reachable_inv hinv.rp).core.nodup
  have hndC := (reachable_inv hinv.rc).core.nodup
  obtain ⟨evs, hproc, hunexp⟩ := updateEntitlements_found (now := now)
    (fun e => ∃ r k, e = Ev.key r (.unexpected k)) hinv.repo fresh
    (fun q hq hpar => by
      obtain ⟨R, ho, _⟩ := hcls q.1 q.2 (get_of_mem_nodup hndC hq) hpar
      obtain ⟨ent, hent, he1, _⟩ := entitlementsFor_of_offers na ho
      exact List.mem_map.mpr ⟨ent, hent, he1⟩)
    (fun ent hent => by
      obtain ⟨ho, hna⟩ := mem_entitlementsFor hndP hent
      obtain ⟨r, rc, hg, hp, hn⟩ := hall ent.rcn ent.res ho
      obtain ⟨R, ho', hreq⟩ := hcls r rc hg hp
      cases offers_unique hnames (hn ▸ ho') ho
      refine ⟨(r, rc), hn ▸ findParentRc_of_get hndC huniq hg hp, fun e he => ?_⟩
      -- no request: only `UnexpectedKeyFound` is left
      simp only [KeyState.entitlementEvents, hreq ent rfl hna, List.map_nil, List.nil_append, List.mem_map] at he
      obtain ⟨k', _, rfl⟩ := he
      exact ⟨r, k', rfl⟩)
  rw [sync_of_quiet hq, next_of_unexpected hproc hunexp]

theorem Conv.sync_eq {x : Pair} {now na : Int} (h : Conv x now na) (fresh : List KeyId) :
    x.sync now na fresh = x :=
  sync_eq_of_nothing_asked h.coupled.inv h.coupled.names h.coupled.uniq h.quiet
    (fun r rc hg hp =>
      let ⟨_, R, hk, _, ho, hw⟩ := h.cls r rc hg hp
      ⟨R, ho, fun ent hr hn => by
        simp only [hk, KeyState.requestKeys, hr, hn, hw, Bool.false_eq_true, if_false]⟩)
    h.all fresh

/-- Two syncs from a coupled pair with nothing to send: entitlements, then requests. -/
theorem converges_from_quiet {x : Pair} (hc : Coupled x) (now na : Int) (f1 f2 : List KeyId)
    (hpend : x.child.ca.hasPendingRequests x.ph = false)
    (hlen : x.newClasses na ≤ f1.length) :
    Conv ((x.sync now na f1).sync now na f2) now na := by
  obtain ⟨hpost, _, _, _⟩ := syncE_spec hc now na f1 hpend hlen
  cases hp2 : (x.sync now na f1).child.ca.hasPendingRequests (x.sync now na f1).ph with
  | false =>
    have hconv := hpost.conv_of_quiet hp2
    rewrite [hconv.sync_eq f2]; exact hconv
  | true =>
    exact hpost.conv_of_requests (syncR_spec hpost.coupled.inv hpost.coupled.noroll hpost.answerable now na f2 hp2)

theorem ParentSame.classes_length {p p' : Ca} {ch : Handle} (h : ParentSame p p' ch)
    (hnd : (AMap.keys p.classes).Nodup) (hnd' : (AMap.keys p'.classes).Nodup) :
    p'.classes.length = p.classes.length := by
  have := ((List.perm_ext_iff_of_nodup hnd' hnd).mpr h.mem_keys).length_eq
  simpa [AMap.keys] using this

theorem newClasses_le (x : Pair) (na : Int) : x.newClasses na ≤ x.parent.ca.classes.length := by
  unfold Pair.newClasses newEntitlements Ca.entitlementsFor
  cases get x.parent.ca.children x.ch with
  | none => exact Nat.zero_le _
  | some c => exact Nat.le_trans (List.length_filter_le _ _) (List.length_filterMap_le _ _)

/-- Three syncs from any coupled, answerable pair: (requests,) entitlements, requests.  New keys are needed
by the sync that fetches the entitlements: the first one when there is nothing to send, else the
second. -/
theorem converges_any {x : Pair} (hc : Coupled x) (hansw : Answerable x) (now na : Int) (f1 f2 f3 : List KeyId)
    (hf : if x.child.ca.hasPendingRequests x.ph then x.parent.ca.classes.length ≤ f2.length
      else x.newClasses na ≤ f1.length) :
    Conv (((x.sync now na f1).sync now na f2).sync now na f3) now na := by
  cases hpend : x.child.ca.hasPendingRequests x.ph with
  | false =>
    simp only [hpend, Bool.false_eq_true, if_false] at hf
    have hconv := converges_from_quiet hc now na f1 f2 hpend hf
    rewrite [hconv.sync_eq f3]; exact hconv
  | true =>
    simp only [hpend, if_true] at hf
    have hr := syncR_spec hc.inv hc.noroll hansw now na f1 hpend
    have hlen : (x.sync now na f1).parent.ca.classes.length = x.parent.ca.classes.length :=
      hr.same.classes_length (reachable_inv hc.inv.rp).core.nodup (reachable_inv hr.inv.rp).core.nodup
    exact converges_from_quiet (hr.coupled hc) now na f2 f3 hr.quiet
      (Nat.le_trans (newClasses_le _ _) (hlen ▸ hf))

theorem sync_coupled {x : Pair} (hc : Coupled x) (now na : Int) (f : List KeyId)
    (h : x.child.ca.hasPendingRequests x.ph = false → x.newClasses na ≤ f.length)
    (ha : x.child.ca.hasPendingRequests x.ph = true → Answerable x) :
    Coupled (x.sync now na f) := by
  cases hpend : x.child.ca.hasPendingRequests x.ph with
  | false => exact (syncE_spec hc now na f hpend (h hpend)).1.coupled
  | true => exact (syncR_spec hc.inv hc.noroll (ha hpend) now na f hpend).coupled hc

theorem syncs_of_fixed {y : Pair} {now na : Int} (h : ∀ f, y.sync now na f = y) :
    ∀ fs, y.syncs now na fs = y := by
  intro fs
  induction fs with
  | nil => rfl
  | cons f fs ih =>
    show (y.sync now na f).syncs now na fs = y
    rewrite [h f]; exact ih

/-- From a converged pair, a change of the child's entitlement at the parent keeps the coupling:
the hypotheses of the convergence theorems hold again. -/
theorem Conv.coupled_after_resources_change {x : Pair} {now na : Int} (h : Conv x now na) (res : ResSet) :
    Coupled { x with parent := x.parent.next (.childUpdateResources x.ch res) } := by
  have hc := h.coupled
  obtain ⟨hcls, hnames⟩ := childUpdateResources_spec x.parent x.ch res
  refine ⟨⟨Reachable.step _ hc.inv.rp, hc.inv.rc, hc.inv.repo, hc.inv.nolim⟩,
    hnames.namesOk (fun q hq => hcls ▸ hq) hc.names, hc.uniq, hc.noroll, ?_⟩
  -- certificates on file: the class still holds what it held when it converged
  intro r rc k R hg hp hk ha hse
  obtain ⟨k0, R0, hk0, _, ho0, hw0⟩ := h.cls r rc hg hp
  cases hk.symm.trans hk0
  have hse0 : seteq k.cert.res R0 = true := seteq_symm (seteq_of_not_wantsUpdate hw0)
  obtain ⟨cc, hcc, hres⟩ := hc.booked r rc k R0 hg hp hk (offers_answer hc.names ho0) hse0
  exact ⟨cc, (hnames.issuedFor hcls _ _).trans hcc, seteq_trans hres (seteq_trans (seteq_symm hse0) hse)⟩

end KM.CaK
