/-
What the update loops of the three configurations compute: `Routes::process_updates` (`Ca/Roa.lean`),
`AspaDefinitions::process_updates` (`Ca/Aspa.lean`), `BgpSecDefinitions::process_updates` (`Ca/Bgpsec.lean`).
Each loop is a fold over the entries of the update and is followed by an invariant indexed by the entries
consumed so far: the declarative descriptions (`Spec.*`) judge an entry by the entries before it.
Last, the look-up of the child table (`Children`, `Ca/Bgpsec.lean`).  The properties are stated in `Props/C05.lean`.
-/
import KrillModel.Base.Assoc
import KrillModel.Ca.Roa
import KrillModel.Ca.Aspa
import KrillModel.Ca.Bgpsec
namespace KM.Ca
open KM.Bgp KM.Input

section Fold
variable {α β ε : Type} {f : β → α → Except ε β}

theorem foldlE'_eq_foldlE (f : β → α → Except ε β) (b : β) (l : List α) :
    foldlE' f b l = foldlE f b l := by
  fun_induction foldlE' f b l with
  | case1 => rfl
  | case2 b a as e hs => rw [foldlE, hs]
  | case3 b a as b' hs ih => rw [foldlE, hs]; exact ih

/-- An invariant indexed by the entries consumed so far reaches the result of a successful run. -/
theorem foldlE_ok {I : List α → β → Prop}
    (step : ∀ pre b a b', I pre b → f b a = .ok b' → I (pre ++ [a]) b')
    (l pre : List α) (b b' : β) (hI : I pre b) (h : foldlE f b l = .ok b') : I (pre ++ l) b' := by
  fun_induction foldlE f b l generalizing pre with
  | case1 b => cases h; rwa [List.append_nil]
  | case2 b a as e hs => cases h
  | case3 b a as b₁ hs ih =>
    have := ih (pre ++ [a]) (step pre b a b₁ hI hs) h
    rwa [List.append_assoc] at this

/-- "Some entry is bad, judged with the entries before it in view", for a list with a head: the head is
bad, or a later entry is, which then has the head before it. -/
theorem exists_bad_cons {bad : List α → α → Prop} (pre : List α) (x : α) (l : List α) :
    (∃ p a post, x :: l = p ++ a :: post ∧ bad (pre ++ p) a) ↔
      bad pre x ∨ ∃ p a post, l = p ++ a :: post ∧ bad (pre ++ [x] ++ p) a := by
  constructor
  · rintro ⟨p, a, post, h, hb⟩
    cases p with
    | nil => cases h; exact Or.inl (by rwa [List.append_nil] at hb)
    | cons y p => cases h; exact Or.inr ⟨p, a, post, rfl, by rwa [List.append_assoc]⟩
  · rintro (hb | ⟨p, a, post, rfl, hb⟩)
    · exact ⟨[], x, l, rfl, by rwa [List.append_nil]⟩
    · exact ⟨x :: p, a, post, rfl, by rwa [List.append_assoc] at hb⟩

theorem not_exists_bad_nil {bad : List α → α → Prop} (pre : List α) :
    ¬ ∃ p a post, ([] : List α) = p ++ a :: post ∧ bad (pre ++ p) a :=
  fun ⟨p, _, _, h, _⟩ => by cases p <;> cases h

/-- The run fails exactly when some entry is bad given the entries before it – provided one step
fails exactly on a bad entry, under an invariant that successful steps maintain. -/
theorem foldlE_error_iff {I : List α → β → Prop} {bad : List α → α → Prop}
    (step : ∀ pre b a b', I pre b → f b a = .ok b' → I (pre ++ [a]) b')
    (fails : ∀ pre b a, I pre b → ((∃ e, f b a = .error e) ↔ bad pre a)) :
    ∀ (l pre : List α) (b : β), I pre b →
      ((∃ e, foldlE f b l = .error e) ↔ ∃ p a post, l = p ++ a :: post ∧ bad (pre ++ p) a) := by
  intro l pre b hI
  fun_induction foldlE f b l generalizing pre with
  | case1 b => exact ⟨fun ⟨e, he⟩ => (nomatch he), fun h => (not_exists_bad_nil pre h).elim⟩
  | case2 b a l e hs =>
    rw [exists_bad_cons]
    exact ⟨fun _ => Or.inl ((fails pre b a hI).mp ⟨e, hs⟩), fun _ => ⟨e, rfl⟩⟩
  | case3 b a l b₁ hs ih =>
    rw [exists_bad_cons, ih (pre ++ [a]) (step pre b a b₁ hI hs)]
    refine ⟨Or.inr, fun h => h.resolve_left fun hb => ?_⟩
    obtain ⟨e, he⟩ := (fails pre b a hI).mpr hb
    rw [hs] at he; cases he

theorem foldlE_error_iff_mem {bad : α → Prop} (fails : ∀ b a, (∃ e, f b a = .error e) ↔ bad a)
    (l : List α) (b : β) : (∃ e, foldlE f b l = .error e) ↔ ∃ a ∈ l, bad a := by
  rw [foldlE_error_iff (I := fun _ _ => True) (bad := fun _ a => bad a) (fun _ _ _ _ _ _ => trivial)
    (fun _ b a _ => fails b a) l [] b trivial]
  constructor
  · rintro ⟨p, a, post, rfl, hb⟩; exact ⟨a, by simp, hb⟩
  · rintro ⟨a, ha, hb⟩
    obtain ⟨s, t, rfl⟩ := List.mem_iff_append.mp ha
    exact ⟨s, a, t, rfl, hb⟩

/-- `P` runs `x` and then `g` on its result: it is refused exactly when `x` is, or `g` then is.  (`P` is given by its
two equations: a `match` in a model function is a matcher of its own, which no lemma stated with a `match` meets.) -/
theorem then_error_iff {γ : Type} {x : Except ε β} {g : β → Except ε γ} {P : Except ε γ} {A B : Prop}
    (herr : ∀ e, x = .error e → P = .error e) (hok : ∀ b, x = .ok b → P = g b)
    (hx : (∃ e, x = .error e) ↔ A) (hg : ∀ b, (∃ e, g b = .error e) ↔ B) : (∃ e, P = .error e) ↔ A ∨ B := by
  cases h : x with
  | error e => exact ⟨fun _ => Or.inl (hx.mp ⟨e, h⟩), fun _ => ⟨e, herr e h⟩⟩
  | ok b =>
    rw [hok b h, hg b]
    exact ⟨Or.inr, fun hab => hab.resolve_left fun a => by obtain ⟨e, he⟩ := hx.mpr a; rw [h] at he; cases he⟩

theorem guard_error_iff {p : Prop} [Decidable p] {e₀ : ε} {x : Except ε β} :
    (∃ e, (if p then .error e₀ else x) = .error e) ↔ p ∨ ∃ e, x = .error e := by
  by_cases hp : p
  · rw [if_pos hp]; exact ⟨fun _ => Or.inl hp, fun _ => ⟨e₀, rfl⟩⟩
  · rw [if_neg hp]; exact ⟨Or.inr, fun h => h.resolve_left hp⟩

theorem ite_error_iff {p : Prop} [Decidable p] {e₀ : ε} {b : β} :
    (∃ e, (if p then Except.error e₀ else .ok b) = .error e) ↔ p :=
  guard_error_iff.trans (or_iff_left fun ⟨_, h⟩ => nomatch h)

end Fold

section RemoveLoop
variable {α κ χ ε : Type} [BEq κ] {key : α → κ} {ev : κ → χ} {err : κ → ε} {apply : List α → χ → List α}
  {step : List α × List χ → κ → Except ε (List α × List χ)}

/-- A loop body that refuses a key without entry, and otherwise drops the entry from its copy and
records an event which, applied, drops it too: the removal loops of the ASPA and router-key updates. -/
structure RemovesByKey (key : α → κ) (ev : κ → χ) (err : κ → ε) (apply : List α → χ → List α)
    (step : List α × List χ → κ → Except ε (List α × List χ)) : Prop where
  eq : ∀ acc k, step acc k = if !(acc.1.any fun a => key a == k) then .error (err k)
    else .ok (acc.1.filter fun a => !(key a == k), acc.2 ++ [ev k])
  applied : ∀ s k, apply s (ev k) = s.filter fun a => !(key a == k)

/-- While the loop runs, its copy is `s` without the keys removed so far, and the events recorded
produce that copy. -/
structure RemoveInv (key : α → κ) (apply : List α → χ → List α) (s : List α) (pre : List κ)
    (acc : List α × List χ) : Prop where
  copy : acc.1 = s.filter fun a => !(pre.contains (key a))
  applied : acc.2.foldl apply s = acc.1

theorem RemoveInv.any_of_any [LawfulBEq κ] {s : List α} {pre : List κ} {acc : List α × List χ}
    (h : RemoveInv key apply s pre acc) {k : κ} (hk : (acc.1.any fun a => key a == k) = true) :
    (s.any fun a => key a == k) = true := by
  rw [h.copy, Keyed.any_filter_notin key, Bool.and_eq_true] at hk
  exact hk.1

theorem RemovesByKey.inv_step (h : RemovesByKey key ev err apply step) (s : List α) (pre : List κ)
    (acc : List α × List χ) (k : κ) (b' : List α × List χ) (hI : RemoveInv key apply s pre acc)
    (hs : step acc k = .ok b') : RemoveInv key apply s (pre ++ [k]) b' := by
  rw [h.eq] at hs
  split at hs
  · cases hs
  · cases hs
    exact ⟨by rw [Keyed.filter_notin_snoc key, ← hI.copy], by rw [List.foldl_append, hI.applied]; exact h.applied _ _⟩

theorem RemovesByKey.error_iff_bad [LawfulBEq κ] (h : RemovesByKey key ev err apply step) (s : List α) (rest : List κ) :
    (∃ e, foldlE step (s, []) rest = .error e) ↔
      ∃ pre k post, rest = pre ++ k :: post ∧ ((s.any fun a => key a == k) = false ∨ k ∈ pre) := by
  have := foldlE_error_iff (bad := fun pre k => (s.any fun a => key a == k) = false ∨ k ∈ pre) (h.inv_step s)
    (fun pre b k hI => by
      rw [h.eq, ite_error_iff, Bool.not_eq_true', hI.copy, Keyed.any_filter_notin key, Bool.and_eq_false_iff, Bool.not_eq_false',
        List.contains_iff_mem])
    rest [] (s, []) ⟨(Keyed.filter_notin_nil key s).symm, rfl⟩
  simpa only [List.nil_append] using this

theorem RemovesByKey.inv_of_ok (h : RemovesByKey key ev err apply step) (s : List α) (rest : List κ)
    (acc' : List α × List χ) (hf : foldlE step (s, []) rest = .ok acc') : RemoveInv key apply s rest acc' :=
  foldlE_ok (h.inv_step s) rest [] (s, []) acc' ⟨(Keyed.filter_notin_nil key s).symm, rfl⟩ hf

end RemoveLoop

namespace Routes

theorem has_eq_isSome (r : Routes) (p : Roa) : r.has p = (r.get? p).isSome := by
  rw [has, get?, Option.isSome_map, List.isSome_find?]

theorem get?_eq_lookup (r : Routes) (p : Roa) : r.get? p = r.lookup p := (Assoc.lookup_eq_find? r p).symm

theorem get?_remove (r : Routes) (p q : Roa) :
    (r.remove p).get? q = if q = p then none else r.get? q := by
  rw [get?_eq_lookup, get?_eq_lookup]; exact Assoc.lookup_erase r p q

theorem get?_add (r : Routes) (p q : Roa) :
    (r.add p).get? q = if q = p then some none else r.get? q := by
  rw [get?_eq_lookup, get?_eq_lookup]; exact Assoc.lookup_insert r p q none

theorem get?_updateComment (r : Routes) (p q : Roa) (c : Comment) :
    (r.updateComment p c).get? q = if q = p then (r.get? p).map (fun _ => c) else r.get? q := by
  rw [get?_eq_lookup, get?_eq_lookup, get?_eq_lookup]
  simp only [updateComment, beq_iff_eq]
  rw [Assoc.lookup_modify r p (fun _ => c) q]
  split
  · rw [‹q = p›]
  · rfl

theorem has_remove (r : Routes) (p q : Roa) :
    (r.remove p).has q = (if q = p then false else r.has q) := by
  rw [has_eq_isSome, get?_remove, has_eq_isSome]
  split <;> rfl

theorem has_add (r : Routes) (p q : Roa) :
    (r.add p).has q = (if q = p then true else r.has q) := by
  rw [has_eq_isSome, get?_add, has_eq_isSome]
  split <;> rfl

theorem has_updateComment (r : Routes) (p q : Roa) (c : Comment) :
    (r.updateComment p c).has q = r.has q := by
  rw [has_eq_isSome, get?_updateComment, has_eq_isSome]
  split
  · rename_i h; subst h; cases r.get? q <;> rfl
  · rfl

theorem remove_of_not_has (r : Routes) (p : Roa) (h : r.has p = false) : r.remove p = r := by
  rw [remove, List.filter_eq_self]
  intro e he
  simpa using List.any_eq_false.mp h e he

end Routes

namespace Spec

theorem baseline_snoc (r : Routes) (before : List Roa) (p : Roa) :
    baseline r (before ++ [p]) = (baseline r before).remove p :=
  Keyed.filter_notin_snoc Prod.fst r before p

theorem baseline_has (r : Routes) (before : List Roa) (p : Roa) :
    (baseline r before).has p = (r.has p && !(before.contains p)) :=
  Keyed.any_filter_notin Prod.fst r before p

theorem baseline_nil (r : Routes) : baseline r [] = r := Keyed.filter_notin_nil Prod.fst r

theorem baseline_get? (r : Routes) (removed : List Roa) (p : Roa) :
    (baseline r removed).get? p = if removed.contains p then none else r.get? p := by
  rw [baseline, Routes.get?, Keyed.find?_filter_notin Prod.fst]
  split <;> rfl

/-! `tracked` and `shown` are bookkeeping of the proofs below, not part of the declarative description in `Ca/Roa.lean`. -/

/-- What `process_updates` tracks for payload `p` when it looks at an addition: the entry that
survived the removals, else the comment of the first admissible addition before. -/
def tracked (base : Routes) (held : Roa → Bool) (before : List RoaConf) (p : Roa) : Option Comment :=
  (base.get? p).or (((before.filter (admissible held)).find? fun c => c.payload == p).map (·.comment))

theorem present_eq (base : Routes) (held : Roa → Bool) (before : List RoaConf) (p : Roa) :
    present base held before p = (tracked base held before p).isSome := by
  rw [present, tracked, Routes.has_eq_isSome, Option.isSome_or, Option.isSome_map, List.isSome_find?]

theorem commentOf_eq (base : Routes) (held : Roa → Bool) (before : List RoaConf) (p : Roa) :
    commentOf base held before p = (tracked base held before p).getD none := by
  rw [commentOf, tracked]
  cases base.get? p with
  | some c => rfl
  | none => cases (before.filter (admissible held)).find? fun c => c.payload == p <;> rfl

theorem tracked_nil (base : Routes) (held : Roa → Bool) (p : Roa) : tracked base held [] p = base.get? p := by
  simp [tracked]

theorem tracked_snoc (base : Routes) (held : Roa → Bool) (before : List RoaConf) (c : RoaConf) (p : Roa) :
    tracked base held (before ++ [c]) p =
      (tracked base held before p).or
        (if admissible held c && c.payload == p then some c.comment else none) := by
  rw [tracked, tracked, List.filter_append, List.find?_append, Option.map_or, Option.or_assoc]
  congr 2
  cases ha : admissible held c <;> cases hp : c.payload == p <;> simp [ha, hp]

/-- An addition is a duplicate when the payload is tracked with the very comment. -/
theorem badAddition_eq (base : Routes) (held : Roa → Bool) (before : List RoaConf) (c : RoaConf) :
    badAddition base held before c =
      if !maxLengthValid c.payload then some .invalidLength
      else if !held c.payload then some .notHeld
      else if tracked base held before c.payload = some c.comment then some .duplicate else none := by
  rw [badAddition, present_eq, commentOf_eq]
  cases tracked base held before c.payload with
  | none => simp
  | some x => simp

theorem lastComment_snoc (before : List RoaConf) (c : RoaConf) (q : Roa) :
    lastComment (before ++ [c]) q =
      if c.payload == q then some c.comment else lastComment before q := by
  rw [lastComment, List.reverse_append, List.reverse_singleton, List.singleton_append, List.find?_cons]
  cases c.payload == q <;> rfl

/-- What an accepted delta shows for `q` once the additions `before` are through: the comment of
the last mention, else what survived the removals. -/
def shown (base : Routes) (before : List RoaConf) (q : Roa) : Option Comment :=
  match lastComment before q with
  | some c => some c
  | none => base.get? q

theorem shown_snoc (base : Routes) (before : List RoaConf) (c : RoaConf) (q : Roa) :
    shown base (before ++ [c]) q = if q = c.payload then some c.comment else shown base before q := by
  rw [shown, lastComment_snoc]
  by_cases hq : q = c.payload
  · subst hq; simp
  · simp [hq, Ne.symm hq, shown]

end Spec

theorem applyRouteEvs_snoc (r : Routes) (evs : List RouteEv) (e : RouteEv) :
    applyRouteEvs r (evs ++ [e]) = applyRouteEv (applyRouteEvs r evs) e := by
  rw [applyRouteEvs, List.foldl_append]; rfl

theorem removeStep_of_has {acc : Acc} {p : Roa} (h : acc.desired.has p = true) :
    removeStep acc p = { acc with desired := acc.desired.remove p, evs := acc.evs ++ [.removed p] } := by
  rw [removeStep, if_pos h]

theorem removeStep_of_not_has {acc : Acc} {p : Roa} (h : acc.desired.has p = false) :
    removeStep acc p = { acc with errs := { acc.errs with unknowns := acc.errs.unknowns ++ [p] } } := by
  rw [removeStep, h]; rfl

/-- One round of the removal loop: the tracked configuration goes from one baseline to the next, the
events recorded follow it, and the payload is reported exactly when the removal is bad. -/
theorem removeStep_spec (r : Routes) (before : List Roa) (acc : Acc) (p : Roa)
    (hd : acc.desired = Spec.baseline r before) (ha : applyRouteEvs r acc.evs = acc.desired) :
    (removeStep acc p).desired = Spec.baseline r (before ++ [p]) ∧
    applyRouteEvs r (removeStep acc p).evs = (removeStep acc p).desired ∧
    (removeStep acc p).errs = { acc.errs with unknowns := acc.errs.unknowns ++
      (if Spec.badRemoval r before p then [p] else []) } := by
  have hb : Spec.badRemoval r before p = !acc.desired.has p := by
    rw [hd, Spec.baseline_has, Spec.badRemoval, Bool.not_and, Bool.not_not]
  rw [Spec.baseline_snoc, ← hd, hb]
  cases hh : acc.desired.has p with
  | true =>
    rw [removeStep_of_has hh]
    exact ⟨rfl, by rw [applyRouteEvs_snoc, ha]; rfl, by simp⟩
  | false =>
    rw [removeStep_of_not_has hh, Routes.remove_of_not_has _ _ hh]
    exact ⟨rfl, ha, rfl⟩

/-- The removal loop run to its end, from `removeStep_spec` round by round. -/
theorem removeFold_spec (r : Routes) (rest before : List Roa) (acc : Acc)
    (hd : acc.desired = Spec.baseline r before) (ha : applyRouteEvs r acc.evs = acc.desired) :
    (rest.foldl removeStep acc).desired = Spec.baseline r (before ++ rest) ∧
    applyRouteEvs r (rest.foldl removeStep acc).evs = (rest.foldl removeStep acc).desired ∧
    (rest.foldl removeStep acc).errs =
      { acc.errs with unknowns := acc.errs.unknowns ++ Spec.unknowns r before rest } := by
  induction rest generalizing before acc with
  | nil => simp [Spec.unknowns, hd, ha]
  | cons p rest ih =>
    obtain ⟨s1, s2, s3⟩ := removeStep_spec r before acc p hd ha
    obtain ⟨h1, h2, h3⟩ := ih (before ++ [p]) (removeStep acc p) s1 s2
    rw [List.append_assoc] at h1
    exact ⟨h1, h2, by rw [List.foldl_cons, h3, s3]; simp [Spec.unknowns]⟩

section AddStep
variable {held : Roa → Bool} {acc : Acc} {c : RoaConf}

theorem addStep_invalid (hv : maxLengthValid c.payload = false) :
    addStep held acc c =
      { acc with errs := { acc.errs with invalidLength := acc.errs.invalidLength ++ [c] } } := by
  simp [addStep, hv]

theorem addStep_notHeld (hv : maxLengthValid c.payload = true) (hh : held c.payload = false) :
    addStep held acc c = { acc with errs := { acc.errs with notheld := acc.errs.notheld ++ [c] } } := by
  simp [addStep, hv, hh]

theorem addStep_comment (hv : maxLengthValid c.payload = true) (hh : held c.payload = true)
    {cur : Comment} (hg : acc.desired.get? c.payload = some cur) (hc : cur ≠ c.comment) :
    addStep held acc c = { acc with evs := acc.evs ++ [.comment c.payload c.comment] } := by
  simp [addStep, hv, hh, hg, hc]

theorem addStep_duplicate (hv : maxLengthValid c.payload = true) (hh : held c.payload = true)
    (hg : acc.desired.get? c.payload = some c.comment) :
    addStep held acc c = { acc with errs := { acc.errs with duplicates := acc.errs.duplicates ++ [c] } } := by
  simp [addStep, hv, hh, hg]

/-- A fresh payload enters with the comment given, in the tracked configuration and – through the
one or two events recorded – in the configuration the events are applied to. -/
theorem addStep_fresh (hv : maxLengthValid c.payload = true) (hh : held c.payload = true)
    (hg : acc.desired.get? c.payload = none) :
    (addStep held acc c).errs = acc.errs ∧
    (∀ q, (addStep held acc c).desired.get? q =
      if q = c.payload then some c.comment else acc.desired.get? q) ∧
    (∀ r q, (applyRouteEvs r (addStep held acc c).evs).get? q =
      if q = c.payload then some c.comment else (applyRouteEvs r acc.evs).get? q) := by
  have hboth : ∀ (r : Routes) q, ((r.add c.payload).updateComment c.payload c.comment).get? q =
      if q = c.payload then some c.comment else r.get? q := by
    intro r q
    rw [Routes.get?_updateComment, Routes.get?_add, Routes.get?_add]
    split <;> simp
  cases hc : c.comment with
  | some x =>
    have hstep : addStep held acc c =
        { acc with desired := (acc.desired.add c.payload).updateComment c.payload c.comment,
                   evs := acc.evs ++ [.added c.payload, .comment c.payload c.comment] } := by
      simp [addStep, hv, hh, hg, hc]
    rw [hstep, ← hc]
    refine ⟨rfl, hboth _, fun r q => ?_⟩
    rw [← hboth]
    simp [applyRouteEvs, applyRouteEv]
  | none =>
    have hstep : addStep held acc c =
        { acc with desired := acc.desired.add c.payload, evs := acc.evs ++ [.added c.payload] } := by
      simp [addStep, hv, hh, hg, hc]
    rw [hstep]
    refine ⟨rfl, fun q => Routes.get?_add _ _ q, fun r q => ?_⟩
    rw [applyRouteEvs_snoc]
    exact Routes.get?_add _ _ q

end AddStep

/-- The tracked configuration is the one the declarative description gives. -/
def AddInv (base : Routes) (held : Roa → Bool) (before : List RoaConf) (d : Routes) : Prop :=
  ∀ p, d.get? p = Spec.tracked base held before p

/-- What the recorded events make of the configuration `r`, compared with the expectation
for the additions `before` on top of `base`. -/
structure AppliedInv (r base : Routes) (before : List RoaConf) (acc : Acc) : Prop where
  has : ∀ q, (applyRouteEvs r acc.evs).has q = acc.desired.has q
  shown : acc.errs.isEmpty = true → ∀ q, (applyRouteEvs r acc.evs).get? q = Spec.shown base before q

/-- One round of the addition loop: both invariants are kept, and the entry goes to the error list
of its class in the declarative classification, if it has one. -/
theorem addStep_spec (r base : Routes) (held : Roa → Bool) (before : List RoaConf) (acc : Acc)
    (c : RoaConf) (hinv : AddInv base held before acc.desired) (happ : AppliedInv r base before acc) :
    (AddInv base held (before ++ [c]) (addStep held acc c).desired ∧
      AppliedInv r base (before ++ [c]) (addStep held acc c)) ∧
    (addStep held acc c).errs = { acc.errs with
      duplicates := acc.errs.duplicates ++
        (if Spec.badAddition base held before c == some .duplicate then [c] else []),
      notheld := acc.errs.notheld ++
        (if Spec.badAddition base held before c == some .notHeld then [c] else []),
      invalidLength := acc.errs.invalidLength ++
        (if Spec.badAddition base held before c == some .invalidLength then [c] else []) } := by
  have hget := hinv c.payload
  obtain ⟨hJ, hK⟩ := happ
  -- an inadmissible entry, or one whose payload is tracked already, leaves the tracked configuration
  have hkeep : (Spec.admissible held c = false ∨ (Spec.tracked base held before c.payload).isSome = true) →
      AddInv base held (before ++ [c]) acc.desired := by
    intro h q
    rw [hinv q, Spec.tracked_snoc]
    rcases h with h | h
    · simp [h]
    · by_cases hq : c.payload = q
      · subst hq; rw [Option.or_of_isSome h]
      · simp [hq]
  -- a round that reports an error changes neither side of `AppliedInv` and leaves a non-empty report
  have herr : ∀ e : DeltaError, e.isEmpty = false →
      AppliedInv r base (before ++ [c]) { acc with errs := e } :=
    fun e he => ⟨hJ, fun h => by rw [he] at h; cases h⟩
  rw [Spec.badAddition_eq]
  cases hv : maxLengthValid c.payload with
  | false =>
    rw [addStep_invalid hv]
    exact ⟨⟨hkeep (Or.inl (by simp [Spec.admissible, hv])), herr _ (by simp [DeltaError.isEmpty])⟩, by simp⟩
  | true =>
    cases hh : held c.payload with
    | false =>
      rw [addStep_notHeld hv hh]
      exact ⟨⟨hkeep (Or.inl (by simp [Spec.admissible, hh])), herr _ (by simp [DeltaError.isEmpty])⟩, by simp⟩
    | true =>
      cases ht : Spec.tracked base held before c.payload with
      | some cur =>
        rw [ht] at hget
        have hk := hkeep (Or.inr (by rw [ht]; rfl))
        by_cases hc : cur = c.comment
        · rw [addStep_duplicate hv hh (hc ▸ hget)]
          exact ⟨⟨hk, herr _ (by simp [DeltaError.isEmpty])⟩, by simp [hc]⟩
        · rw [addStep_comment hv hh hget hc]
          refine ⟨⟨hk, fun q => ?_, fun he q => ?_⟩, by simp [hc]⟩
          · rw [applyRouteEvs_snoc, applyRouteEv, Routes.has_updateComment]; exact hJ q
          · rw [applyRouteEvs_snoc, applyRouteEv, Routes.get?_updateComment, Spec.shown_snoc]
            split
            · have : ((applyRouteEvs r acc.evs).get? c.payload).isSome = true := by
                rw [← Routes.has_eq_isSome, hJ, Routes.has_eq_isSome, hget]; rfl
              obtain ⟨x, hx⟩ := Option.isSome_iff_exists.mp this
              rw [hx]; rfl
            · exact hK he q
      | none =>
        rw [ht] at hget
        obtain ⟨he, hd, ha⟩ := addStep_fresh hv hh hget
        rw [he]
        refine ⟨⟨fun q => ?_, fun q => ?_, fun hem q => ?_⟩, by simp⟩
        · rw [hd q, hinv q, Spec.tracked_snoc]
          by_cases hq : q = c.payload
          · subst hq; simp [ht, Spec.admissible, hv, hh]
          · simp [hq, Ne.symm hq]
        · rw [Routes.has_eq_isSome, Routes.has_eq_isSome, ha r q, hd q]
          split
          · rfl
          · rw [← Routes.has_eq_isSome, ← Routes.has_eq_isSome]; exact hJ q
        · rw [ha r q, Spec.shown_snoc]
          split
          · rfl
          · exact hK (he ▸ hem) q

theorem addFold_spec (r base : Routes) (held : Roa → Bool) (rest before : List RoaConf) (acc : Acc)
    (hinv : AddInv base held before acc.desired) (happ : AppliedInv r base before acc) :
    AppliedInv r base (before ++ rest) (rest.foldl (addStep held) acc) ∧
    (rest.foldl (addStep held) acc).errs = { acc.errs with
      duplicates := acc.errs.duplicates ++ Spec.badAdditions .duplicate base held before rest,
      notheld := acc.errs.notheld ++ Spec.badAdditions .notHeld base held before rest,
      invalidLength := acc.errs.invalidLength ++ Spec.badAdditions .invalidLength base held before rest } := by
  induction rest generalizing before acc with
  | nil => simp [Spec.badAdditions, happ]
  | cons c rest ih =>
    obtain ⟨⟨hi, ha⟩, he⟩ := addStep_spec r base held before acc c hinv happ
    obtain ⟨g0, g1⟩ := ih (before ++ [c]) (addStep held acc c) hi ha
    rw [List.append_assoc] at g0
    rw [List.foldl_cons, g1, he]
    exact ⟨g0, by simp only [Spec.badAdditions, List.append_assoc]⟩

/-- A list that collects the entries flagged by a test which sees the entries before has an entry
exactly when some entry is flagged. -/
theorem flagged_ne_nil_iff {α : Type} {F : List α → List α → List α} {bad : List α → α → Bool}
    (hnil : ∀ before, F before [] = [])
    (hcons : ∀ before a rest,
      F before (a :: rest) = (if bad before a then [a] else []) ++ F (before ++ [a]) rest)
    (rest before : List α) :
    F before rest ≠ [] ↔ ∃ pre a post, rest = pre ++ a :: post ∧ bad (before ++ pre) a = true := by
  induction rest generalizing before with
  | nil =>
    exact ⟨fun h => (h (hnil before)).elim,
      fun h => (not_exists_bad_nil (bad := fun b a => bad b a = true) before h).elim⟩
  | cons x rest ih =>
    rw [exists_bad_cons (bad := fun b a => bad b a = true), ← ih, hcons, Ne, List.append_eq_nil_iff,
      Classical.not_and_iff_not_or_not]
    cases bad before x <;> simp

theorem unknowns_ne_nil_iff (r : Routes) (rest before : List Roa) :
    Spec.unknowns r before rest ≠ [] ↔
      ∃ pre p post, rest = pre ++ p :: post ∧ Spec.badRemoval r (before ++ pre) p = true :=
  flagged_ne_nil_iff (fun _ => rfl) (fun _ _ _ => rfl) rest before

theorem badAdditions_ne_nil_iff (k : Spec.Bad) (base : Routes) (held : Roa → Bool)
    (rest before : List RoaConf) :
    Spec.badAdditions k base held before rest ≠ [] ↔
      ∃ pre c post, rest = pre ++ c :: post ∧ Spec.badAddition base held (before ++ pre) c = some k := by
  rw [flagged_ne_nil_iff (F := Spec.badAdditions k base held)
    (bad := fun b c => Spec.badAddition base held b c == some k) (fun _ => rfl) (fun _ _ _ => rfl)]
  simp only [beq_iff_eq]

/-- `process_updates` in closed form: a refusal carries the declarative error report, which then has an entry;
on acceptance that report is empty and the events, applied to the configuration, give the expected one. -/
theorem processUpdates_closed (r : Routes) (held : Roa → Bool) (u : RoaUpdates) :
    match processUpdates r held u with
    | .ok (r', evs) => (Spec.expectedErrors r held u).isEmpty = true ∧
        (∀ q, (applyRouteEvs r evs).has q = r'.has q) ∧
        ∀ q, (applyRouteEvs r evs).get? q = Spec.expectedGet r u q
    | .error E => E = Spec.expectedErrors r held u ∧ E.isEmpty = false := by
  obtain ⟨h1, h3, h2⟩ := removeFold_spec r u.removed [] { desired := r } (Spec.baseline_nil r).symm rfl
  rw [List.nil_append] at h1
  obtain ⟨happ, hE⟩ := addFold_spec r (Spec.baseline r u.removed) held u.added [] _
    (fun p => by rw [h1]; exact (Spec.tracked_nil _ held p).symm)
    ⟨fun q => by rw [h3], fun _ q => by rw [h3, h1]; rfl⟩
  rw [h2] at hE
  unfold processUpdates
  extract_lets acc₀ acc
  change acc.errs = Spec.expectedErrors r held u at hE
  cases he : acc.errs.isEmpty with
  | true => exact ⟨hE ▸ he, happ.has, happ.shown he⟩
  | false => exact ⟨hE, he⟩

theorem badAddition_isSome (base : Routes) (held : Roa → Bool) (pre : List RoaConf) (c : RoaConf) :
    (∃ k, Spec.badAddition base held pre c = some k) ↔
      (maxLengthValid c.payload = false ∨ held c.payload = false ∨
        (Spec.present base held pre c.payload = true ∧ Spec.commentOf base held pre c.payload = c.comment)) := by
  unfold Spec.badAddition
  cases maxLengthValid c.payload <;> cases held c.payload <;> simp

theorem expected_nonempty_iff (r : Routes) (held : Roa → Bool) (u : RoaUpdates) :
    (Spec.expectedErrors r held u).isEmpty = false ↔ Spec.SomeEntryBad r held u := by
  have hrem : ∀ pre p, Spec.badRemoval r pre p = true ↔ (r.has p = false ∨ p ∈ pre) := by
    intro pre p; simp [Spec.badRemoval]
  have hadd := badAddition_isSome (Spec.baseline r u.removed) held
  -- one of the four lists of the report has an entry exactly when an entry of its class is flagged
  simp only [DeltaError.isEmpty, Spec.expectedErrors, Bool.and_eq_false_iff, List.isEmpty_eq_false_iff,
    unknowns_ne_nil_iff, badAdditions_ne_nil_iff, List.nil_append, hrem, Spec.SomeEntryBad]
  constructor
  · rintro (((⟨pre, c, post, hs, hb⟩ | ⟨pre, c, post, hs, hb⟩) | h) | ⟨pre, c, post, hs, hb⟩)
    · exact Or.inr ⟨pre, c, post, hs, (hadd pre c).mp ⟨_, hb⟩⟩
    · exact Or.inr ⟨pre, c, post, hs, (hadd pre c).mp ⟨_, hb⟩⟩
    · exact Or.inl h
    · exact Or.inr ⟨pre, c, post, hs, (hadd pre c).mp ⟨_, hb⟩⟩
  · rintro (h | ⟨pre, c, post, hs, hb⟩)
    · exact Or.inl (Or.inr h)
    · obtain ⟨k, hk⟩ := (hadd pre c).mpr hb
      cases k
      · exact Or.inr ⟨pre, c, post, hs, hk⟩
      · exact Or.inl (Or.inl (Or.inr ⟨pre, c, post, hs, hk⟩))
      · exact Or.inl (Or.inl (Or.inl ⟨pre, c, post, hs, hk⟩))

/-- A request in configuration `r`: accepted – the new view is `viewStep` of the old one;
refused – nothing changes. -/
theorem routeCommand_view (r : Routes) (q : RouteReq) :
    (Spec.accepted r q = true →
      ∀ p, (routeCommand r q.held q.upd).get? p =
        Spec.viewStep q.upd.setExplicitMaxLength r.get? p) ∧
    (Spec.accepted r q = false → routeCommand r q.held q.upd = r) := by
  have h := processUpdates_closed r q.held q.upd.setExplicitMaxLength
  rw [routeCommand, processRouteUpdate, Spec.accepted]
  split at h
  next r' evs hp =>
    rw [hp]
    refine ⟨fun _ p => ?_, fun ha => ?_⟩
    · show (applyRouteEvs r evs).get? p = _
      rw [h.2.2 p, Spec.expectedGet, Spec.viewStep, Spec.baseline_get?]
    · rw [h.1] at ha; cases ha
  next E hp =>
    rw [hp]
    refine ⟨fun ha => ?_, fun _ => rfl⟩
    rw [← h.1, h.2] at ha; cases ha

namespace AspaDefs

theorem has_eq_isSome (s : AspaDefs) (c : Nat) : s.has c = (s.get? c).isSome := by
  rw [has, get?, List.isSome_find?]

theorem get?_remove (s : AspaDefs) (c d : Nat) :
    (s.remove c).get? d = if d = c then none else s.get? d :=
  Keyed.find?_filter_ne AspaDef.customer s c d

theorem has_remove (s : AspaDefs) (c d : Nat) :
    (s.remove c).has d = (if d = c then false else s.has d) :=
  Keyed.any_filter_ne AspaDef.customer s c d

theorem get?_addOrReplace (s : AspaDefs) (x : AspaDef) (d : Nat) :
    (s.addOrReplace x).get? d = if d = x.customer then some x else s.get? d :=
  Keyed.find?_insert AspaDef.customer s x d

theorem has_addOrReplace (s : AspaDefs) (x : AspaDef) (c : Nat) :
    (s.addOrReplace x).has c = (if c = x.customer then true else s.has c) :=
  Keyed.any_insert AspaDef.customer s x c

theorem get?_customer (s : AspaDefs) (c : Nat) (x : AspaDef) (h : s.get? c = some x) :
    x.customer = c := by
  simpa using List.find?_some h

theorem get?_applyUpdate (s : AspaDefs) (c d : Nat) (u : ProvUpdate) :
    (s.applyUpdate c u).get? d =
      if d = c then
        (match s.get? c with
         | some cur => if (cur.applyUpdate u).providers.isEmpty then none else some (cur.applyUpdate u)
         | none => some ((⟨c, []⟩ : AspaDef).applyUpdate u))
      else s.get? d := by
  unfold applyUpdate
  cases hg : s.get? c with
  | none => exact get?_addOrReplace s _ d
  | some cur =>
    have hc : (cur.applyUpdate u).customer = c := get?_customer s c cur hg
    cases he : (cur.applyUpdate u).providers.isEmpty with
    | true => simp only [he, if_true]; exact get?_remove s c d
    | false => simp only [he, Bool.false_eq_true, if_false]; rw [get?_addOrReplace, hc]

end AspaDefs

/-- The definitions left after removing the customers `before`. -/
def aspaBase (s : AspaDefs) (before : List Nat) : AspaDefs :=
  s.filter (fun d => !(before.contains d.customer))

theorem aspaBase_nil (s : AspaDefs) : aspaBase s [] = s := Keyed.filter_notin_nil AspaDef.customer s

theorem aspaBase_snoc (s : AspaDefs) (before : List Nat) (c : Nat) :
    aspaBase s (before ++ [c]) = (aspaBase s before).remove c :=
  Keyed.filter_notin_snoc AspaDef.customer s before c

theorem aspaBase_has (s : AspaDefs) (before : List Nat) (c : Nat) :
    (aspaBase s before).has c = (s.has c && !(before.contains c)) :=
  Keyed.any_filter_notin AspaDef.customer s before c

theorem aspaBase_get? (s : AspaDefs) (removed : List Nat) (c : Nat) (h : c ∉ removed) :
    (aspaBase s removed).get? c = s.get? c := by
  have hc : removed.contains c = false := by simpa using h
  rw [aspaBase, AspaDefs.get?, Keyed.find?_filter_notin AspaDef.customer, hc]
  rfl

theorem applyAspaEvs_snoc (s : AspaDefs) (evs : List AspaEv) (e : AspaEv) :
    applyAspaEvs s (evs ++ [e]) = applyAspaEv (applyAspaEvs s evs) e := by
  rw [applyAspaEvs, List.foldl_append]; rfl

theorem aspaRemoves :
    RemovesByKey AspaDef.customer AspaEv.removed AspaErr.customerUnknown applyAspaEv aspaRemoveStep where
  eq _ _ := rfl
  applied _ _ := rfl

theorem aspaCheck_isSome (holdsAsn : Nat → Bool) (d : AspaDef) :
    (aspaCheck holdsAsn d).isSome = Spec.badDef holdsAsn d := by
  unfold aspaCheck Spec.badDef AspaDef.customerUsedAsProvider AspaDef.containsDuplicateProviders
  cases d.providers.isEmpty <;> cases d.providers.contains d.customer <;> cases hasDup d.providers <;>
    cases holdsAsn d.customer <;> rfl

/-- The provider update that turns the list `old` into `new`: what `new` adds, what it drops. -/
def provDiff (old new : List Nat) : ProvUpdate :=
  ⟨new.filter fun p => !(old.contains p), old.filter fun p => !(new.contains p)⟩

theorem provDiff_isEmpty {old new : List Nat} (h : (provDiff old new).isEmpty = true) (p : Nat) :
    p ∈ old ↔ p ∈ new := by
  rw [ProvUpdate.isEmpty, Bool.and_eq_true, List.isEmpty_iff, List.isEmpty_iff] at h
  have h1 := List.filter_eq_nil_iff.mp h.1
  have h2 := List.filter_eq_nil_iff.mp h.2
  exact ⟨fun hp => by simpa using h2 p hp, fun hp => by simpa using h1 p hp⟩

/-- What a successful round of the addition loop does: the definition replaces any older one in the
running copy; the event is `added` when the running copy has none for the customer, else the
update by the difference of the provider lists (no event when that is empty). -/
theorem aspaAddStep_ok {holdsAsn : Nat → Bool} {acc b' : AspaDefs × List AspaEv} {d : AspaDef}
    (h : aspaAddStep holdsAsn acc d = .ok b') :
    aspaCheck holdsAsn d = none ∧ b'.1 = acc.1.addOrReplace d ∧
    ((acc.1.get? d.customer = none ∧ b'.2 = acc.2 ++ [.added d]) ∨
     ∃ old, acc.1.get? d.customer = some old ∧
       b'.2 = acc.2 ++
         (if (provDiff old.providers d.providers).isEmpty then []
          else [.updated d.customer (provDiff old.providers d.providers)])) := by
  revert h
  fun_cases aspaAddStep holdsAsn acc d <;> intro h <;> cases h
  next hc _ hg => exact ⟨hc, rfl, Or.inl ⟨hg, rfl⟩⟩
  next hc _ old hg _ he =>
    have he : (provDiff old.providers d.providers).isEmpty = false := (Bool.not_eq_true' _).mp he
    exact ⟨hc, rfl, Or.inr ⟨old, hg, by rw [he, if_neg Bool.false_ne_true]; rfl⟩⟩
  next hc _ old hg _ he =>
    have he : (provDiff old.providers d.providers).isEmpty = true :=
      (Bool.not_eq_false' _).mp (Bool.eq_false_iff.mpr he)
    exact ⟨hc, rfl, Or.inr ⟨old, hg, by rw [he, if_pos rfl, List.append_nil]⟩⟩

theorem badDef_iff (holdsAsn : Nat → Bool) (d : AspaDef) : Spec.badDef holdsAsn d = true ↔
    (d.providers = [] ∨ d.customer ∈ d.providers ∨ hasDup d.providers = true ∨ holdsAsn d.customer = false) := by
  simp only [Spec.badDef, Bool.or_eq_true, List.isEmpty_iff, List.contains_iff_mem, Bool.not_eq_eq_eq_not,
    Bool.not_true, or_assoc]

theorem aspaAddStep_error_iff (holdsAsn : Nat → Bool) (acc : AspaDefs × List AspaEv) (d : AspaDef) :
    (∃ e, aspaAddStep holdsAsn acc d = .error e) ↔
      (d.providers = [] ∨ d.customer ∈ d.providers ∨ hasDup d.providers = true ∨ holdsAsn d.customer = false) := by
  rw [← badDef_iff, ← aspaCheck_isSome]
  unfold aspaAddStep
  cases aspaCheck holdsAsn d with
  | some e => simp
  | none =>
    simp only [Option.isSome_none, Bool.false_eq_true, iff_false]
    rintro ⟨e, he⟩
    split at he
    · cases he
    · split at he <;> cases he

theorem mem_insertSorted (x y : Nat) (l : List Nat) : y ∈ insertSorted x l ↔ y = x ∨ y ∈ l := by
  fun_induction insertSorted x l with
  | case1 => simp
  | case2 z rest h => simp
  | case3 z rest h ih => simp only [List.mem_cons, ih]; exact or_left_comm

theorem mem_sortNat (y : Nat) (l : List Nat) : y ∈ sortNat l ↔ y ∈ l := by
  unfold sortNat
  induction l with
  | nil => simp
  | cons x rest ih => simp [List.foldr_cons, mem_insertSorted, ih]

theorem mem_pushed (added kept : List Nat) (p : Nat) :
    p ∈ added.foldl (fun acc a => if acc.contains a then acc else acc ++ [a]) kept ↔
      p ∈ kept ∨ p ∈ added := by
  induction added generalizing kept with
  | nil => simp
  | cons a rest ih =>
    rw [List.foldl_cons, ih, List.mem_cons]
    by_cases h : kept.contains a = true
    · have ha : a ∈ kept := by simpa using h
      rw [if_pos h]
      exact ⟨fun h => h.imp_right Or.inr,
        fun h => h.elim Or.inl fun h => h.elim (fun h => Or.inl (h ▸ ha)) Or.inr⟩
    · rw [if_neg h, List.mem_append, List.mem_singleton, or_assoc]

theorem mem_applyUpdate (d : AspaDef) (u : ProvUpdate) (p : Nat) :
    p ∈ (d.applyUpdate u).providers ↔ (p ∈ d.providers ∧ p ∉ u.removed) ∨ p ∈ u.added := by
  unfold AspaDef.applyUpdate
  simp only
  rw [mem_sortNat, mem_pushed]
  simp

/-- Updating by the difference between the provider lists `old` and `new` turns a definition whose
providers are those of `old` into one whose providers are those of `new`. -/
theorem mem_applyUpdate_diff (x : AspaDef) (old new : List Nat) (h : ∀ p, p ∈ x.providers ↔ p ∈ old)
    (p : Nat) : p ∈ (x.applyUpdate (provDiff old new)).providers ↔ p ∈ new := by
  rw [mem_applyUpdate, h p]
  by_cases hpe : p ∈ old <;> by_cases hpd : p ∈ new <;> simp [provDiff, List.mem_filter, hpe, hpd]

/-- Same customer, same providers up to order. -/
def SameProviders (a b : Option AspaDef) : Prop :=
  match a, b with
  | none, none => True
  | some x, some y => x.customer = y.customer ∧ ∀ p, p ∈ x.providers ↔ p ∈ y.providers
  | _, _ => False

theorem sameProviders_refl (a : Option AspaDef) : SameProviders a a := by
  cases a with
  | none => trivial
  | some x => exact ⟨rfl, fun _ => Iff.rfl⟩

theorem sameProviders_isSome {a b : Option AspaDef} (h : SameProviders a b) : a.isSome = b.isSome := by
  cases a <;> cases b <;> first | rfl | exact h.elim

/-- One round of the addition loop: when the events so far produce the running copy up to the
order of providers, so do the events after the round. -/
theorem aspaAddStep_applied (s : AspaDefs) {holdsAsn : Nat → Bool} {acc b' : AspaDefs × List AspaEv}
    {d : AspaDef} (hI : ∀ c, SameProviders ((applyAspaEvs s acc.2).get? c) (acc.1.get? c))
    (h : aspaAddStep holdsAsn acc d = .ok b') :
    ∀ c, SameProviders ((applyAspaEvs s b'.2).get? c) (b'.1.get? c) := by
  obtain ⟨hchk, h1, hev⟩ := aspaAddStep_ok h
  intro c
  rw [h1, AspaDefs.get?_addOrReplace]
  by_cases hcd : c = d.customer
  · -- the customer of the round: the events leave a definition with the providers of `d`
    subst hcd
    rw [if_pos rfl]
    have hId := hI d.customer
    rcases hev with ⟨hold, h2⟩ | ⟨old, hold, h2⟩
    · rw [h2, applyAspaEvs_snoc, applyAspaEv, AspaDefs.get?_addOrReplace, if_pos rfl]
      exact sameProviders_refl _
    · rw [hold] at hId
      cases hA : (applyAspaEvs s acc.2).get? d.customer with
      | none => rw [hA] at hId; exact hId.elim
      | some x =>
        rw [hA] at hId
        have hcust : x.customer = d.customer := hId.1.trans (AspaDefs.get?_customer _ _ _ hold)
        have hmem := mem_applyUpdate_diff x old.providers d.providers hId.2
        rw [h2]
        cases hempty : (provDiff old.providers d.providers).isEmpty with
        | true =>
          -- no difference, no event: the providers were those of `d` already
          rw [if_pos rfl, List.append_nil, hA]
          exact ⟨hcust, fun p => (hId.2 p).trans (provDiff_isEmpty hempty p)⟩
        | false =>
          rw [if_neg Bool.false_ne_true, applyAspaEvs_snoc, applyAspaEv, AspaDefs.get?_applyUpdate,
            if_pos rfl, hA]
          -- `d` passed the checks, so it has a provider, and the updated definition has it too
          have hne : d.providers ≠ [] := fun hc => by simp [aspaCheck, hc] at hchk
          obtain ⟨p, hp⟩ := List.exists_mem_of_ne_nil _ hne
          have hnonE := List.isEmpty_eq_false_iff_exists_mem.mpr ⟨p, (hmem p).mpr hp⟩
          simp only [hnonE, Bool.false_eq_true, if_false]
          exact ⟨hcust, hmem⟩
  · -- another customer: no event of the round touches its definition
    rw [if_neg hcd]
    rcases hev with ⟨_, h2⟩ | ⟨old, _, h2⟩
    · rw [h2, applyAspaEvs_snoc, applyAspaEv, AspaDefs.get?_addOrReplace, if_neg hcd]
      exact hI c
    · rw [h2]
      split
      · rw [List.append_nil]; exact hI c
      · rw [applyAspaEvs_snoc, applyAspaEv, AspaDefs.get?_applyUpdate, if_neg hcd]; exact hI c

/-- The addition loop run to its end: the events produce the running copy up to the order of
providers, and every customer of the result was there before or is listed. -/
theorem aspaAddFold_ok (s : AspaDefs) (holdsAsn : Nat → Bool) (adds : List AspaDef)
    (acc acc' : AspaDefs × List AspaEv) (ha : applyAspaEvs s acc.2 = acc.1)
    (h : foldlE (aspaAddStep holdsAsn) acc adds = .ok acc') :
    (∀ c, SameProviders ((applyAspaEvs s acc'.2).get? c) (acc'.1.get? c)) ∧
    (∀ c, acc'.1.has c = true → acc.1.has c = true ∨ ∃ d ∈ adds, d.customer = c) := by
  have := foldlE_ok
    (I := fun pre (b : AspaDefs × List AspaEv) =>
      (∀ c, SameProviders ((applyAspaEvs s b.2).get? c) (b.1.get? c)) ∧
      (∀ c, b.1.has c = true → acc.1.has c = true ∨ ∃ d ∈ pre, d.customer = c))
    (fun pre b a b' hI hs => ⟨aspaAddStep_applied s hI.1 hs, fun c hc => by
      rw [(aspaAddStep_ok hs).2.1, AspaDefs.has_addOrReplace] at hc
      by_cases hca : c = a.customer
      · exact Or.inr ⟨a, by simp, hca.symm⟩
      · rw [if_neg hca] at hc
        exact (hI.2 c hc).imp_right fun ⟨d, hd, hdc⟩ => ⟨d, by simp [hd], hdc⟩⟩)
    adds [] acc acc' ⟨fun c => by rw [ha]; exact sameProviders_refl _, fun c hc => Or.inl hc⟩ h
  rwa [List.nil_append] at this

/-- An accepted ASPA update as a whole: the events produce the returned definitions up to the order
of providers, and every customer of the result had a definition before or is listed. -/
theorem aspaProcessUpdates_ok {s : AspaDefs} {holdsAsn : Nat → Bool} {u : AspaUpdates} {all : AspaDefs}
    {evs : List AspaEv} (h : aspaProcessUpdates s holdsAsn u = .ok (all, evs)) :
    (∀ c, SameProviders ((applyAspaEvs s evs).get? c) (all.get? c)) ∧
    (∀ c, all.has c = true → s.has c = true ∨ ∃ d ∈ u.addOrReplace, d.customer = c) := by
  revert h
  fun_cases aspaProcessUpdates s holdsAsn u <;> intro h
  next => cases h
  next acc hf =>
  have hrem := aspaRemoves.inv_of_ok s _ acc hf
  obtain ⟨hsame, hhas⟩ := aspaAddFold_ok s holdsAsn u.addOrReplace acc (all, evs) hrem.applied h
  exact ⟨hsame, fun c hc => (hhas c hc).imp_left hrem.any_of_any⟩

namespace BgpsecDefs

theorem has_remove (s : BgpsecDefs) (k j : BgpsecKey) :
    (s.remove k).has j = (if j = k then false else s.has j) :=
  Keyed.any_filter_ne Prod.fst s k j

theorem has_addOrReplace (s : BgpsecDefs) (k j : BgpsecKey) (c : StoredCsr) :
    (s.addOrReplace k c).has j = (if j = k then true else s.has j) :=
  Keyed.any_insert Prod.fst s (k, c) j

end BgpsecDefs

theorem applyBgpsecEvs_snoc (s : BgpsecDefs) (evs : List BgpsecEv) (e : BgpsecEv) :
    applyBgpsecEvs s (evs ++ [e]) = applyBgpsecEv (applyBgpsecEvs s evs) e := by
  rw [applyBgpsecEvs, List.foldl_append]; rfl

theorem bgpsecRemoves : RemovesByKey Prod.fst BgpsecEv.removed BgpsecErr.unknown applyBgpsecEv bgpsecRemoveStep where
  eq _ _ := rfl
  applied _ _ := rfl

theorem bgpsecAddStep_error_iff (holdsAsn : Nat → Bool) (acc : BgpsecDefs × List BgpsecEv × Nat)
    (d : BgpsecDef) :
    (∃ e, bgpsecAddStep holdsAsn acc d = .error e) ↔ (d.valid = false ∨ holdsAsn d.asn = false) := by
  simp only [bgpsecAddStep, guard_error_iff, Bool.not_eq_true']
  refine or_congr_right (or_iff_left ?_)
  rintro ⟨e, he⟩
  split at he
  · split at he <;> cases he
  · cases he

/-- One successful round of the addition loop: the event recorded (if any) takes the running copy
to its new value, and the only key that can be new is the one of the definition. -/
theorem bgpsecAddStep_ok {holdsAsn : Nat → Bool} {acc b' : BgpsecDefs × List BgpsecEv × Nat}
    {d : BgpsecDef} (s : BgpsecDefs) (ha : applyBgpsecEvs s acc.2.1 = acc.1)
    (h : bgpsecAddStep holdsAsn acc d = .ok b') :
    applyBgpsecEvs s b'.2.1 = b'.1 ∧
      ∀ j, b'.1.has j = true → acc.1.has j = true ∨ (⟨d.asn, d.key⟩ : BgpsecKey) = j := by
  have hnew : ∀ j c, (acc.1.addOrReplace ⟨d.asn, d.key⟩ c).has j = true →
      acc.1.has j = true ∨ (⟨d.asn, d.key⟩ : BgpsecKey) = j := by
    intro j c hj
    rw [BgpsecDefs.has_addOrReplace] at hj
    split at hj
    · exact Or.inr (by subst_vars; rfl)
    · exact Or.inl hj
  revert h
  fun_cases bgpsecAddStep holdsAsn acc d <;> intro h <;> cases h
  · exact ⟨by rw [applyBgpsecEvs_snoc, ha]; rfl, fun j => hnew j _⟩
  · exact ⟨ha, fun j => Or.inl⟩
  · exact ⟨by rw [applyBgpsecEvs_snoc, ha]; rfl, fun j => hnew j _⟩

theorem bgpsecAddFold_ok (s : BgpsecDefs) (holdsAsn : Nat → Bool) (adds : List BgpsecDef)
    (acc acc' : BgpsecDefs × List BgpsecEv × Nat)
    (ha : applyBgpsecEvs s acc.2.1 = acc.1) (h : foldlE' (bgpsecAddStep holdsAsn) acc adds = .ok acc') :
    applyBgpsecEvs s acc'.2.1 = acc'.1 ∧
      (∀ j, acc'.1.has j = true → acc.1.has j = true ∨ ∃ d ∈ adds, (⟨d.asn, d.key⟩ : BgpsecKey) = j) := by
  rw [foldlE'_eq_foldlE] at h
  have := foldlE_ok
    (I := fun pre (b : BgpsecDefs × List BgpsecEv × Nat) => applyBgpsecEvs s b.2.1 = b.1 ∧
      ∀ j, b.1.has j = true → acc.1.has j = true ∨ ∃ d ∈ pre, (⟨d.asn, d.key⟩ : BgpsecKey) = j)
    (fun pre b a b' hI hs => by
      obtain ⟨h1, h2⟩ := bgpsecAddStep_ok s hI.1 hs
      refine ⟨h1, fun j hj => ?_⟩
      rcases h2 j hj with hb | hk
      · exact (hI.2 j hb).imp_right fun ⟨d, hd, hdk⟩ => ⟨d, by simp [hd], hdk⟩
      · exact Or.inr ⟨a, by simp, hk⟩)
    adds [] acc acc' ⟨ha, fun j hj => Or.inl hj⟩ h
  rwa [List.nil_append] at this

theorem children_get_none (s : Children) (h : String) :
    s.get? h = none ↔ s.has h = false := by
  rw [Children.get?, Children.has, Option.map_eq_none_iff, List.find?_eq_none, List.any_eq_false]

end KM.Ca
