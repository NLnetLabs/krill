/-
The published-object side of a key activation: what the new current set publishes after the
activation chunk.  The listener is followed on one object class: along events that each name one class it sees the events
of its own class only (`get_stepAll`).
-/
import KrillModel.Ca.LemmasNoOver
namespace KM.CaK
open KM.Res KM.AMap

theorem updateProducts_isSome (s : ObjSet) (u : ProdUpd) (n : OName) :
    (get (s.updateProducts u).published n).isSome =
      (!decide (n ∈ u.removed.map (OName.prod u.kind)) &&
        (decide (n ∈ u.added.map fun a => OName.prod u.kind a.1) || (get s.published n).isSome)) := by
  simp only [ObjSet.updateProducts, isSome_foldl_del, isSome_foldl_set]

/-- Names after a certificate update: removed, then issued and unsuspended, then suspended. -/
theorem updateCerts_isSome (s : ObjSet) (u : CertUpd) (n : OName) :
    (get (s.updateCerts u).published n).isSome =
      (!decide (n ∈ u.suspended.map fun a => OName.cer a.1) &&
        (decide (n ∈ u.unsuspended.map fun a => OName.cer a.1) ||
          (decide (n ∈ u.issued.map fun a => OName.cer a.1) ||
            (!decide (n ∈ u.removed.map OName.cer) && (get s.published n).isSome)))) := by
  simp only [ObjSet.updateCerts, isSome_foldl_del, isSome_foldl_set]

theorem prod_mem_map {β : Type} (k k' : PKind) (id : Nat) (l : List (Nat × β)) :
    OName.prod k id ∈ l.map (fun a => OName.prod k' a.1) ↔ k = k' ∧ id ∈ l.map (·.1) := by
  simp only [List.mem_map, OName.prod.injEq]
  exact ⟨fun ⟨a, ha, hk, hid⟩ => ⟨hk.symm, a, ha, hid⟩, fun ⟨hk, a, ha, hid⟩ => ⟨a, ha, hk.symm, hid⟩⟩

theorem cer_mem_map {β : Type} (key : KeyId) (l : List (KeyId × β)) :
    OName.cer key ∈ l.map (fun a => OName.cer a.1) ↔ key ∈ l.map (·.1) := by
  simp only [List.mem_map, OName.cer.injEq]

theorem prod_not_mem_cer {β : Type} (k : PKind) (id : Nat) (l : List (KeyId × β)) :
    OName.prod k id ∉ l.map (fun a => OName.cer a.1) := by
  simp only [List.mem_map, reduceCtorEq, and_false, exists_false, not_false_eq_true]

theorem cer_not_mem_prod {β : Type} (key : KeyId) (k : PKind) (l : List (Nat × β)) :
    OName.cer key ∉ l.map (fun a => OName.prod k a.1) := by
  simp only [List.mem_map, reduceCtorEq, and_false, exists_false, not_false_eq_true]

/-- The listener's action on the object class of a class-local event (all but
`KeyPendingToActive`, which creates the object class). -/
def ObjKeys.applyEv (ok : ObjKeys) : Ev → Except ObjErr ObjKeys
  | .products _ u => .ok (ok.mapCurrent (·.updateProducts u))
  | .childCerts _ u => .ok (ok.mapCurrent (·.updateCerts u))
  | .key _ (.pendingToNew k) => ok.keyrollStage k
  | .key _ .activated => ok.keyrollActivate
  | .key _ .finished => ok.keyrollFinish
  | .key _ (.received ki cert) => ok.updateReceivedCert ki cert
  | _ => .ok ok

def ObjKeys.applyEvs (ok : ObjKeys) : List Ev → Except ObjErr ObjKeys
  | [] => .ok ok
  | e :: es =>
    match ok.applyEv e with
    | .ok ok' => ok'.applyEvs es
    | .error err => .error err

/-- All events but `KeyPendingToActive`, for which the listener creates the object class. -/
def Ev.notCreate : Ev → Bool
  | .key _ (.pendingToActive _) => false
  | _ => true

/-- The listener on a class-local event: nothing to do (key requests), the class part of the
event applied to the object class, or the creation of the object class. -/
theorem step_cases (o : Objs) {r : Rcn} {e : Ev} (he : e.onClass r = true) :
    (o.step e = .ok o ∧ ∀ ok : ObjKeys, ok.applyEv e = .ok ok) ∨
    o.step e = o.withClass r (·.applyEv e) ∨ ∃ k, e = .key r (.pendingToActive k) := by
  cases e with
  | key r' ke =>
    -- `unexpected` is not class-local (`he`); the others in the order of `KeyEv`
    cases ke <;> simp only [Ev.onClass, decide_eq_true_eq, Bool.false_eq_true] at he <;> subst he
    · exact Or.inl ⟨rfl, fun _ => rfl⟩  -- `requested`
    · exact Or.inr (Or.inl rfl)         -- `received`
    · exact Or.inl ⟨rfl, fun _ => rfl⟩  -- `pendingAdded`
    · exact Or.inr (Or.inl rfl)         -- `pendingToNew`
    · exact Or.inr (Or.inr ⟨_, rfl⟩)    -- `pendingToActive`
    · exact Or.inr (Or.inl rfl)         -- `activated`
    · exact Or.inr (Or.inl rfl)         -- `finished`
  | products r' u => simp only [Ev.onClass, decide_eq_true_eq] at he; subst he; exact Or.inr (Or.inl rfl)
  | childCerts r' u => simp only [Ev.onClass, decide_eq_true_eq] at he; subst he; exact Or.inr (Or.inl rfl)
  | _ => cases he

theorem step_onClass {o o' : Objs} {r : Rcn} {ok : ObjKeys} {e : Ev} (he : e.onClass r = true)
    (hn : e.notCreate = true) (hg : get o r = some ok) (hs : o.step e = .ok o') :
    ∃ ok', ok.applyEv e = .ok ok' ∧ get o' r = some ok' := by
  rcases step_cases o he with ⟨h1, h2⟩ | h | ⟨k, rfl⟩
  · cases h1.symm.trans hs; exact ⟨ok, h2 ok, hg⟩
  · obtain ⟨ks, ks', hgk, hf, rfl⟩ := Objs.withClass_ok (h ▸ hs)
    cases hgk.symm.trans hg
    exact ⟨ks', hf, get_set_self _ _ _⟩
  · cases hn

theorem stepAll_cons_ok {o o' : Objs} {e : Ev} {es : List Ev} (h : o.stepAll (e :: es) = .ok o') :
    ∃ o1, o.step e = .ok o1 ∧ o1.stepAll es = .ok o' := by
  simp only [Objs.stepAll] at h
  cases h1 : o.step e with
  | error err => rw [h1] at h; cases h
  | ok o1 => rw [h1] at h; exact ⟨o1, rfl, h⟩

/-- An object set after the payload events of a list. -/
def payloadFold (cs : ObjSet) (evs : List Ev) : ObjSet :=
  evs.foldl (fun cs e => match e with
    | .products _ u => cs.updateProducts u
    | .childCerts _ u => cs.updateCerts u
    | _ => cs) cs

theorem applyEvs_payload_old (cs os : ObjSet) (evs : List Ev) (hp : ∀ e ∈ evs, e.isPayload = true) :
    (ObjKeys.old cs os).applyEvs evs = .ok (.old (payloadFold cs evs) os) := by
  induction evs generalizing cs with
  | nil => rfl
  | cons e es ih =>
    have hrest := fun e' he' => hp e' (List.mem_cons_of_mem _ he')
    rcases isPayload_cases (hp e (List.mem_cons_self ..)) with ⟨r, u, rfl⟩ | ⟨r, u, rfl⟩
    · exact ih _ hrest
    · exact ih _ hrest

theorem payloadFold_append (cs : ObjSet) (a b : List Ev) :
    payloadFold cs (a ++ b) = payloadFold (payloadFold cs a) b :=
  List.foldl_append

theorem payloadFold_key_cert (l : List Ev) (x : ObjSet) :
    (payloadFold x l).key = x.key ∧ (payloadFold x l).cert = x.cert :=
  List.foldlRecOn (motive := fun y : ObjSet => y.key = x.key ∧ y.cert = x.cert) l _ ⟨rfl, rfl⟩
    fun _ h _ _ => by split <;> exact h

/-- The renewal of one product kind puts every product of that kind into the set (whether or not
there is anything to renew). -/
theorem payloadFold_renewal (cs : ObjSet) (r : Rcn) (rc : Rc) (k : PKind) :
    payloadFold cs (renewal r rc k) = cs.updateProducts { kind := k, added := rc.productsOf k } := by
  simp only [renewal]
  split
  · rename_i h; rw [List.isEmpty_iff.mp h]; rfl
  · rfl

theorem payloadFold_certsEv (cs : ObjSet) (r : Rcn) (u : CertUpd) :
    payloadFold cs (certsEv r u) = cs.updateCerts u := by
  unfold certsEv
  split
  · rename_i h; rw [CertUpd.eq_empty_of_isEmpty h]; rfl
  · rfl

theorem mem_productsOf (rc : Rc) (k : PKind) (id : Nat) :
    id ∈ (rc.productsOf k).map (·.1) ↔ (get rc.products (k, id)).isSome = true := by
  rw [get_isSome_iff_mem_keys]
  simp only [Rc.productsOf, List.map_map, List.mem_map, List.mem_filter, Function.comp, keys,
    decide_eq_true_eq]
  constructor
  · rintro ⟨p, ⟨hp, hk⟩, rfl⟩
    exact ⟨p, hp, by cases p with | mk a b => cases a; simp_all⟩
  · rintro ⟨p, hp, hpk⟩
    exact ⟨p, ⟨hp, by rw [hpk]⟩, by rw [hpk]⟩

/-- **What the new current set publishes after the activation chunk**: from a staging set that
publishes nothing, the new current set publishes a product name exactly when the class holds
that product, and a child certificate name exactly when the key was issued and has no
(stale) suspended entry; the old set publishes nothing. -/
theorem activate_objs {rc : Rc} {n c : CertKey} (hk : rc.keys = .rollNew n c) {r : Rcn} {na : Int}
    {evs : List Ev} (h : activateClass r rc na = .ok evs) (ss cs : ObjSet) (hemp : ss.published = []) :
    ∃ cs', (ObjKeys.staging ss cs).applyEvs evs = .ok (.old cs' cs.retire) ∧
      cs'.key = ss.key ∧ cs'.cert = ss.cert ∧ cs.retire.published = [] ∧
      ∀ nm : OName, (get cs'.published nm).isSome =
        (match nm with
          | .prod k id => (get rc.products (k, id)).isSome
          | .cer key => (get rc.certs.issued key).isSome && !(get rc.certs.suspended key).isSome) := by
  obtain ⟨upd, ha⟩ := activateClass_rollNew hk h
  cases ha.events
  obtain ⟨iss, sus, h1, h2, rfl⟩ := activateKey_ok ha.activateKey
  have hpay := fun e he => (activatePayload_payload r rc { issued := iss, suspended := sus } e he).1
  refine ⟨payloadFold ss (activatePayload r rc _), applyEvs_payload_old ss cs.retire _ hpay,
    (payloadFold_key_cert _ _).1, (payloadFold_key_cert _ _).2, rfl, fun nm => ?_⟩
  simp only [activatePayload, payloadFold_append, payloadFold_renewal, payloadFold_certsEv,
    updateProducts_isSome, updateCerts_isSome, hemp, List.map_nil, List.not_mem_nil, decide_false,
    Bool.not_false, Bool.true_and, Bool.false_or, get_nil, Option.isSome_none, Bool.or_false]
  cases nm with
  | prod k id =>
    have := fun k => Bool.eq_iff_iff.mpr ((decide_eq_true_iff (p := _)).trans (mem_productsOf rc k id))
    simp only [prod_mem_map, prod_not_mem_cer, decide_false, Bool.not_false, Bool.true_and, Bool.false_or]
    cases k <;> simp only [reduceCtorEq, false_and, true_and, decide_false, Bool.false_or, Bool.or_false, this]
  | cer key =>
    have e1 : decide (key ∈ iss.map (·.1)) = (get rc.certs.issued key).isSome := by
      rw [(reissueAll_spec h1).2]; exact decide_mem_keys _ _
    have e2 : decide (key ∈ sus.map (·.1)) = (get rc.certs.suspended key).isSome := by
      rw [(reissueAll_spec h2).2]; exact decide_mem_keys _ _
    simp only [cer_mem_map, cer_not_mem_prod, decide_false, Bool.false_or, Bool.or_false, e1, e2]
    exact Bool.and_comm ..

theorem activateClass_notCreate {r : Rcn} {rc : Rc} {na : Int} {evs : List Ev}
    (h : activateClass r rc na = .ok evs) : ∀ e ∈ evs, e.notCreate = true := by
  intro e he
  obtain ⟨_, rfl⟩ | ⟨_, _, upd, ha⟩ := activateClass_cases h
  · cases he
  · cases ha.events
    rcases List.mem_cons.mp he with rfl | he
    · rfl
    · rcases isPayload_cases (activatePayload_payload r rc upd e he).1 with ⟨_, _, rfl⟩ | ⟨_, _, rfl⟩ <;> rfl

theorem step_frame {o o' : Objs} {e : Ev} {r : Rcn} (he : ∃ r', r' ≠ r ∧ e.onClass r' = true)
    (hs : o.step e = .ok o') : get o' r = get o r := by
  obtain ⟨r', hne, hon⟩ := he
  rcases step_cases o hon with ⟨h1, _⟩ | h | ⟨k, rfl⟩
  · cases h1.symm.trans hs; rfl
  · obtain ⟨ks, ks', _, _, rfl⟩ := Objs.withClass_ok (h ▸ hs)
    exact get_set_ne _ _ hne
  · simp only [Objs.step] at hs
    split at hs <;> cases hs
    exact get_set_ne _ _ hne

/-- The listener along events that each name one class: the object class of `r` sees the events of `r` only. -/
theorem get_stepAll {evs : List Ev} (hon : ∀ e ∈ evs, ∃ r', e.onClass r' = true) {o o' : Objs}
    (hs : o.stepAll evs = .ok o') {r : Rcn} (hn : ∀ e ∈ evsOf r evs, e.notCreate = true) {ok : ObjKeys}
    (hg : get o r = some ok) :
    ∃ ok', ok.applyEvs (evsOf r evs) = .ok ok' ∧ get o' r = some ok' := by
  induction evs generalizing o ok with
  | nil => cases hs; exact ⟨ok, rfl, hg⟩
  | cons e es ih =>
    obtain ⟨⟨r', he⟩, hes⟩ := List.forall_mem_cons.mp hon
    obtain ⟨o1, ho1, hs⟩ := stepAll_cons_ok hs
    by_cases hr : r = r'
    · subst hr
      rw [evsOf, List.filter_cons_of_pos he] at hn ⊢
      obtain ⟨hn1, hn⟩ := List.forall_mem_cons.mp hn
      obtain ⟨ok1, hae, hg1⟩ := step_onClass he hn1 hg ho1
      obtain ⟨ok', h1, h2⟩ := ih hes hs hn hg1
      exact ⟨ok', by simp only [ObjKeys.applyEvs, hae]; exact h1, h2⟩
    · rw [evsOf_cons_of_ne he hr] at hn ⊢
      exact ih hes hs hn ((step_frame ⟨r', fun h => hr h.symm, he⟩ ho1).trans hg)

end KM.CaK
