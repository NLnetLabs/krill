/-
`UpdateEntitlements` on a reachable CA: entitlement by entitlement (`LoopDone`), then class by class
(`EntOrigin`, `updEnt_spec`); when every class is listed and found the events are the classes' own
(`updateEntitlements_found`).
-/
import KrillModel.Ca.ExchangeChild
import KrillModel.Ca.LemmasKeyRoles
namespace KM.CaK
open KM.Res KM.AMap

/-- Class names under a parent are pairwise different. -/
def UniqueNames (s : Ca) (p : Handle) : Prop :=
  ∀ r1 r2 rc1 rc2, get s.classes r1 = some rc1 → get s.classes r2 = some rc2 →
    rc1.parent = p → rc2.parent = p → rc1.parentRcn = rc2.parentRcn → r1 = r2

theorem findParentRc_some {s : Ca} (hnd : (keys s.classes).Nodup) {p : Handle} {n : Rcn} {q : Rcn × Rc}
    (h : s.findParentRc p n = some q) : get s.classes q.1 = some q.2 ∧ q.2.parent = p ∧ q.2.parentRcn = n := by
  unfold Ca.findParentRc at h
  have hm := List.mem_of_find?_eq_some h
  have hp := List.find?_some h
  simp only [decide_eq_true_eq] at hp
  exact ⟨get_of_mem_nodup hnd hm, hp.1, hp.2⟩

theorem findParentRc_none {s : Ca} {p : Handle} {n : Rcn} (h : s.findParentRc p n = none) {r : Rcn} {rc : Rc}
    (hg : get s.classes r = some rc) (hp : rc.parent = p) : rc.parentRcn ≠ n := by
  unfold Ca.findParentRc at h
  have := List.find?_eq_none.mp h (r, rc) (mem_of_get hg)
  simp only [decide_eq_true_eq, not_and] at this
  exact this hp

theorem findParentRc_of_get {s : Ca} (hnd : (keys s.classes).Nodup) {p : Handle} (hu : UniqueNames s p)
    {r : Rcn} {rc : Rc} (hg : get s.classes r = some rc) (hp : rc.parent = p) :
    s.findParentRc p rc.parentRcn = some (r, rc) := by
  cases hf : s.findParentRc p rc.parentRcn with
  | none => exact absurd rfl (findParentRc_none hf hg hp)
  | some q =>
    obtain ⟨h1, h2, h3⟩ := findParentRc_some hnd hf
    have := hu q.1 r q.2 rc h1 hg h2 hp h3
    obtain ⟨q1, q2⟩ := q
    simp only at this h1
    subst this
    rewrite [hg] at h1
    cases h1; rfl

theorem applyEvs_requested (r : Rcn) (l : List KeyId) (rc : Rc) :
    rc.applyEvs (l.map fun k => Ev.key r (.requested k)) =
      some { rc with keys := l.foldl (fun k ki => k.applyRequested ki) rc.keys } := by
  induction l generalizing rc with
  | nil => rfl
  | cons k t ih =>
    simp only [List.map_cons, Rc.applyEvs, Rc.applyEv, KeyState.apply, Option.map_some, Option.bind_some,
      List.foldl_cons]
    exact ih _

theorem applyAll_unexpected (s : Ca) {l : List Ev} (h : ∀ e ∈ l, ∃ r k, e = Ev.key r (.unexpected k)) :
    s.applyAll l = some s := by
  induction l with
  | nil => rfl
  | cons e t ih =>
    obtain ⟨r, k, rfl⟩ := h e (List.mem_cons_self ..)
    exact ih fun e' he' => h e' (List.mem_cons_of_mem _ he')

theorem next_of_unexpected {s : Sys} {c : Cmd} {evs : List Ev} (hp : s.ca.process c = .ok evs)
    (hall : ∀ e ∈ evs, ∃ r k, e = Ev.key r (.unexpected k)) : s.next c = s := by
  have h2 : ∀ (o : Objs) (l : List Ev), (∀ e ∈ l, ∃ r k, e = Ev.key r (.unexpected k)) → o.stepAll l = .ok o := by
    intro o l
    induction l with
    | nil => intro _; rfl
    | cons e t ih =>
      intro hl
      obtain ⟨r, k, rfl⟩ := hl e (List.mem_cons_self ..)
      simp only [Objs.stepAll, Objs.step]
      exact ih (fun e' he' => hl e' (List.mem_cons_of_mem _ he'))
  exact next_of_stored (exec_stored_iff.mpr ⟨hp, runEvs_some_iff.mpr ⟨applyAll_unexpected s.ca hall, h2 s.objs evs hall⟩⟩)

theorem applyAll_entEvents {s s' : Ca} {r : Rcn} {rc : Rc} (hg : get s.classes r = some rc)
    (ent : Entitlement) (now : Int) {rest : List Ev}
    (h : s.applyAll ((rc.keys.entitlementEvents ent now).map (Ev.key r) ++ rest) = some s') :
    ∃ sm : Ca, sm.applyAll rest = some s' ∧ OnlyClass s sm r { rc with keys := rc.keys.requestedFor ent now } := by
  rewrite [applyAll_append, KeyState.entitlementEvents, List.map_append, applyAll_append] at h
  obtain ⟨sm, h, hrest⟩ := Option.bind_eq_some_iff.mp h
  obtain ⟨s1, h1, h⟩ := Option.bind_eq_some_iff.mp h
  -- the `UnexpectedKeyFound` events change nothing
  rewrite [applyAll_unexpected s1 fun e he => by
    obtain ⟨_, hk, rfl⟩ := List.mem_map.mp he
    obtain ⟨k, _, rfl⟩ := List.mem_map.mp hk
    exact ⟨r, k, rfl⟩] at h
  cases h
  rewrite [List.map_map] at h1
  have hon : ∀ e ∈ List.map (Ev.key r ∘ KeyEv.requested) (rc.keys.requestKeys ent now), e.onClass r = true := by
    intro e he
    obtain ⟨k, _, rfl⟩ := List.mem_map.mp he
    exact decide_eq_true rfl
  obtain ⟨rc', ha, h⟩ := applyAll_of_rc hon hg h1
  cases ha.symm.trans (applyEvs_requested r _ rc)
  exact ⟨_, hrest, h⟩

/-- `UpdateEntitlements` when every class under the parent is listed and every listed class is there:
no class is removed or created, and the events are those the classes create for their entitlements
(all of them `P`). -/
theorem updateEntitlements_found {s : Ca} {p : Handle} {ents : List Entitlement} {now : Int}
    (P : Ev → Prop) (hrepo : s.hasRepo = true) (fresh : List KeyId)
    (hlisted : ∀ q ∈ s.classes, q.2.parent = p → q.2.parentRcn ∈ ents.map (·.rcn))
    (hfound : ∀ ent ∈ ents, ∃ q, s.findParentRc p ent.rcn = some q ∧
      ∀ e ∈ q.2.keys.entitlementEvents ent now, P (.key q.1 e)) :
    ∃ evs, s.process (.updateEntitlements p ents now fresh) = .ok evs ∧ ∀ e ∈ evs, P e := by
  have hrem : (s.classes.filter fun q =>
      decide (q.2.parent = p ∧ (!(ents.map (·.rcn)).contains q.2.parentRcn) = true)) = [] := by
    refine List.filter_eq_nil_iff.mpr fun q hq hP => ?_
    have hP := of_decide_eq_true hP
    rewrite [List.contains_iff_mem.mpr (hlisted q hq hP.1)] at hP
    exact Bool.false_ne_true hP.2
  have hloop : ∀ (l : List Entitlement) (next : Nat), (∀ ent ∈ l, ent ∈ ents) →
      ∃ evs, entitlementLoop s p now l next fresh = .ok evs ∧ ∀ e ∈ evs, P e := by
    intro l
    induction l with
    | nil => exact fun _ _ => ⟨[], rfl, fun _ he => nomatch he⟩
    | cons ent l ih =>
      intro next hl
      obtain ⟨⟨r, rc⟩, hf, hq⟩ := hfound ent (hl ent (List.mem_cons_self ..))
      obtain ⟨rest, hrest, hall⟩ := ih next fun e he => hl e (List.mem_cons_of_mem _ he)
      refine ⟨(rc.keys.entitlementEvents ent now).map (Ev.key r) ++ rest,
        by simp only [entitlementLoop, hf, hrepo, Bool.not_true, Bool.false_eq_true, if_false, hrest], ?_⟩
      intro e he
      rcases List.mem_append.mp he with he | he
      · obtain ⟨ke, hke, rfl⟩ := List.mem_map.mp he
        exact hq ke hke
      · exact hall e he
  obtain ⟨evs, hevs, hall⟩ := hloop ents s.nextClass fun _ h => h
  exact ⟨evs, by simp only [Ca.process, hevs, hrem, List.map_nil, List.nil_append], hall⟩

/-- The entitlements that lead to a new class (each needs a new key). -/
def newEntitlements (s : Ca) (p : Handle) (ents : List Entitlement) : List Entitlement :=
  ents.filter fun e => (s.findParentRc p e.rcn).isNone

/-- The class a new entitlement creates: `ResourceClass::create` with the request already made. -/
def Rc.requested (p : Handle) (n : Rcn) (k : KeyId) : Rc :=
  { parent := p, parentRcn := n, keys := .pending ⟨k, true⟩ }

/-- What the loop of `process_update_entitlements` has made of the class map.  `s` is the state
the command was issued in (the loop looks classes up there), `s1` the state its events are applied
to, `s2` the state after them, `next` the loop's class-name counter: a class found gets its
requests; the `i`-th entitlement without a class gets the name `next + i` and the `i`-th new key;
nothing else changes. -/
structure LoopDone (s : Ca) (p : Handle) (now : Int) (ents : List Entitlement) (next : Nat) (fresh : List KeyId)
    (s1 s2 : Ca) : Prop where
  found : ∀ ent ∈ ents, ∀ r rc, s.findParentRc p ent.rcn = some (r, rc) →
    get s2.classes r = some { rc with keys := rc.keys.requestedFor ent now }
  created : ∀ i ent, (newEntitlements s p ents)[i]? = some ent →
    ∃ k, fresh[i]? = some k ∧ get s2.classes (next + i) = some (Rc.requested p ent.rcn k)
  free : ∀ r, next + (newEntitlements s p ents).length ≤ r → get s2.classes r = none
  frame : ∀ r, r < next → (∀ ent ∈ ents, ∀ rc, s.findParentRc p ent.rcn ≠ some (r, rc)) →
    get s2.classes r = get s1.classes r
  repo : s2.hasRepo = s1.hasRepo

/-- What the loop starts from: the classes it will find are in `s1` as in `s`, below the counter; at and above the counter
`s1` has no class. -/
def LoopReady (s : Ca) (p : Handle) (ents : List Entitlement) (next : Nat) (s1 : Ca) : Prop :=
  (∀ ent ∈ ents, ∀ r rc, s.findParentRc p ent.rcn = some (r, rc) → get s1.classes r = some rc ∧ r < next) ∧
  ∀ r, next ≤ r → get s1.classes r = none

theorem LoopDone.of_new {s : Ca} {p : Handle} {now : Int} {ents : List Entitlement} {next : Nat}
    {fresh : List KeyId} {s1 s2 : Ca} (h : LoopDone s p now ents next fresh s1 s2) {r : Rcn} {rc' : Rc}
    (hge : next ≤ r) (hg : get s2.classes r = some rc') :
    ∃ i ent k, r = next + i ∧ (newEntitlements s p ents)[i]? = some ent ∧ fresh[i]? = some k ∧
      rc' = Rc.requested p ent.rcn k := by
  obtain ⟨i, rfl⟩ := Nat.exists_eq_add_of_le hge
  cases hi : (newEntitlements s p ents)[i]? with
  | none => exact nomatch hg.symm.trans (h.free _ (Nat.add_le_add_left (List.getElem?_eq_none_iff.mp hi) _))
  | some ent =>
    obtain ⟨k, hk, hg'⟩ := h.created i ent hi
    exact ⟨i, ent, k, rfl, hi, hk, Option.some.inj (hg.symm.trans hg')⟩

theorem entitlementLoop_spec {s : Ca} (hnd : (keys s.classes).Nodup) (hrepo : s.hasRepo = true) (p : Handle)
    (now : Int) :
    ∀ (ents : List Entitlement) (next : Nat) (fresh : List KeyId),
      (ents.map (·.rcn)).Nodup → (newEntitlements s p ents).length ≤ fresh.length →
      ∃ evs, entitlementLoop s p now ents next fresh = .ok evs ∧ ∀ s1 s2 : Ca, s1.applyAll evs = some s2 →
        LoopReady s p ents next s1 → LoopDone s p now ents next fresh s1 s2 := by
  intro ents
  induction ents with
  | nil =>
    intro next fresh _ _
    refine ⟨[], rfl, fun s1 s2 ha hready => ?_⟩
    cases ha
    exact ⟨fun _ h => (nomatch h), fun i _ h => (nomatch h), hready.2, fun _ _ _ => rfl, rfl⟩
  | cons ent ents ih =>
    intro next fresh hndE hlen
    have hndE' := List.nodup_cons.mp hndE
    cases hf : s.findParentRc p ent.rcn with
    | some q =>
      obtain ⟨r0, rc⟩ := q
      have hnew : newEntitlements s p (ent :: ents) = newEntitlements s p ents := by
        simp [newEntitlements, hf]
      obtain ⟨rest, hrest, ih⟩ := ih next fresh hndE'.2 (hnew ▸ hlen)
      refine ⟨(rc.keys.entitlementEvents ent now).map (Ev.key r0) ++ rest,
        by simp only [entitlementLoop, hf, hrepo, hrest, Bool.not_true, Bool.false_eq_true, if_false],
        fun s1 s2 ha ⟨hfound, hfree⟩ => ?_⟩
      obtain ⟨hg1, hlt⟩ := hfound ent (List.mem_cons_self ..) r0 rc hf
      obtain ⟨sm, ha, hm⟩ := applyAll_entEvents hg1 ent now ha
      -- the later entitlements find other classes: their names differ
      have hother : ∀ ent' ∈ ents, ∀ rc', s.findParentRc p ent'.rcn ≠ some (r0, rc') := by
        intro ent' hent' rc' hf'
        have h1 := (findParentRc_some hnd hf').1.symm.trans (findParentRc_some hnd hf).1
        cases h1
        exact hndE'.1 (List.mem_map.mpr ⟨ent', hent',
          (findParentRc_some hnd hf').2.2.symm.trans (findParentRc_some hnd hf).2.2⟩)
      have ih := ih sm s2 ha
        ⟨fun ent' hent' r' rc' hf' => by
          rewrite [hm.frame r' (fun h => hother ent' hent' rc' (h ▸ hf'))]
          exact hfound ent' (List.mem_cons_of_mem _ hent') r' rc' hf',
        fun r hr => by rewrite [hm.frame r (fun h => Nat.not_le.mpr hlt (h ▸ hr))]; exact hfree r hr⟩
      refine ⟨?_, hnew ▸ ih.created, hnew ▸ ih.free, ?_, ih.repo.trans hm.hasRepo⟩
      · intro ent' hent' r' rc' hf'
        rcases List.mem_cons.mp hent' with rfl | hent'
        · cases hf.symm.trans hf'
          rewrite [ih.frame r0 hlt hother]; exact hm.classAt
        · exact ih.found ent' hent' r' rc' hf'
      · intro r hr hnf
        rewrite [ih.frame r hr fun ent' hent' => hnf ent' (List.mem_cons_of_mem _ hent')]
        exact hm.frame r fun h => hnf ent (List.mem_cons_self ..) rc (h ▸ hf)
    | none =>
      have hnew : newEntitlements s p (ent :: ents) = ent :: newEntitlements s p ents := by
        simp [newEntitlements, hf]
      rewrite [hnew] at hlen
      cases fresh with
      | nil => cases hlen
      | cons k fresh' =>
      obtain ⟨rest, hrest, ih⟩ := ih (next + 1) fresh' hndE'.2 (Nat.le_of_succ_le_succ hlen)
      refine ⟨.rcAdded next p ent.rcn k :: (((Rc.create p ent.rcn k).keys.entitlementEvents ent now).map (Ev.key next) ++ rest),
        by simp only [entitlementLoop, hf, hrepo, hrest, Bool.not_true, Bool.false_eq_true, if_false, Rc.create,
          List.cons_append],
        fun s1 s2 ha ⟨hfound, hfree⟩ => ?_⟩
      have hfl : ∀ ent' ∈ ents, ∀ r' rc', s.findParentRc p ent'.rcn = some (r', rc') →
          get s1.classes r' = some rc' ∧ r' < next :=
        fun ent' hent' => hfound ent' (List.mem_cons_of_mem _ hent')
      simp only [Ca.applyAll, Ca.apply, Option.bind_some] at ha
      obtain ⟨sm, ha, hm⟩ := applyAll_entEvents (get_set_self _ _ _) ent now ha
      -- the new class with its request made is `Rc.requested p ent.rcn k`, by evaluation
      have hm1 : get sm.classes next = some (Rc.requested p ent.rcn k) := hm.classAt
      -- below `next` the block changes nothing; above it only the new class
      have hsm : ∀ r, r ≠ next → get sm.classes r = get s1.classes r :=
        fun r hr => (hm.frame r hr).trans (get_set_ne _ _ (Ne.symm hr))
      have ih := ih sm s2 ha
        ⟨fun ent' hent' r' rc' hf' =>
          ⟨(hsm r' (Nat.ne_of_lt (hfl ent' hent' r' rc' hf').2)).trans (hfl ent' hent' r' rc' hf').1,
            Nat.lt_succ_of_lt (hfl ent' hent' r' rc' hf').2⟩,
        fun r hr => (hsm r (Nat.ne_of_gt hr)).trans (hfree r (Nat.le_of_succ_le hr))⟩
      refine ⟨?_, ?_, ?_, ?_, ih.repo.trans hm.hasRepo⟩
      · intro ent' hent' r' rc' hf'
        rcases List.mem_cons.mp hent' with rfl | hent'
        · cases hf.symm.trans hf'
        · exact ih.found ent' hent' r' rc' hf'
      · rewrite [hnew]
        intro i ent' hi
        cases i with
        | zero =>
          cases hi
          exact ⟨k, rfl, (ih.frame next (Nat.lt_succ_self _) fun ent' hent' rc' hf' =>
            Nat.lt_irrefl _ (hfl ent' hent' next rc' hf').2).trans hm1⟩
        | succ i =>
          obtain ⟨k', hk', hg⟩ := ih.created i ent' hi
          exact ⟨k', hk', Nat.add_right_comm next 1 i ▸ hg⟩
      · rewrite [hnew]
        intro r hr
        exact ih.free r (by rewrite [Nat.add_right_comm]; exact hr)
      · intro r hr hnf
        rewrite [ih.frame r (Nat.lt_succ_of_lt hr) fun ent' hent' => hnf ent' (List.mem_cons_of_mem _ hent')]
        exact hsm r (Nat.ne_of_lt hr)

/-- Where a class of the state after `UpdateEntitlements` comes from. -/
inductive EntOrigin (s : Ca) (p : Handle) (ents : List Entitlement) (now : Int) (fresh : List KeyId)
    (r : Rcn) (rc' : Rc) : Prop where
  /-- a class under another parent, untouched -/
  | other (rc : Rc) (hg : get s.classes r = some rc) (hp : rc.parent ≠ p) (heq : rc' = rc)
  /-- a class under the parent that is still listed: the requests are made -/
  | listed (rc : Rc) (ent : Entitlement) (hg : get s.classes r = some rc) (hp : rc.parent = p)
      (hent : ent ∈ ents) (hn : rc.parentRcn = ent.rcn)
      (heq : rc' = { rc with keys := rc.keys.requestedFor ent now })
  /-- a class created for a new entitlement -/
  | created (ent : Entitlement) (k : KeyId) (hent : ent ∈ ents) (hf : s.findParentRc p ent.rcn = none)
      (hr : s.nextClass ≤ r) (hk : k ∈ fresh) (heq : rc' = Rc.requested p ent.rcn k)

/-- A class under `p` after `UpdateEntitlements` is a listed class with its requests made, or a new one. -/
theorem EntOrigin.under {s : Ca} {p : Handle} {ents : List Entitlement} {now : Int} {fresh : List KeyId} {r : Rcn}
    {rc' : Rc} (h : EntOrigin s p ents now fresh r rc') (hp : rc'.parent = p) :
    (∃ rc ent, get s.classes r = some rc ∧ rc.parent = p ∧ ent ∈ ents ∧ rc.parentRcn = ent.rcn ∧
      rc' = { rc with keys := rc.keys.requestedFor ent now }) ∨
    ∃ ent k, ent ∈ ents ∧ s.nextClass ≤ r ∧ k ∈ fresh ∧ rc' = Rc.requested p ent.rcn k := by
  rcases h with ⟨rc, _, hpp, heq⟩ | ⟨rc, ent, hg, hpp, hent, hn, heq⟩ | ⟨ent, k, hent, _, hr, hk, heq⟩
  · exact absurd (heq ▸ hp) hpp
  · exact Or.inl ⟨rc, ent, hg, hpp, hent, hn, heq⟩
  · exact Or.inr ⟨ent, k, hent, hr, hk, heq⟩

/-- The state `s'` after `UpdateEntitlements` in `s`: the classes under the parent are exactly the listed ones. -/
structure EntUpdated (s : Sys) (p : Handle) (ents : List Entitlement) (now : Int) (fresh : List KeyId) (s' : Sys) :
    Prop where
  reach : Reachable s'
  repo : s'.ca.hasRepo = true
  nolim : NoLimits s'.ca
  uniq : UniqueNames s'.ca p
  origin : ∀ r rc', get s'.ca.classes r = some rc' → EntOrigin s.ca p ents now fresh r rc'
  all : ∀ ent ∈ ents, ∃ r rc', get s'.ca.classes r = some rc' ∧ rc'.parent = p ∧ rc'.parentRcn = ent.rcn
  newKeys : fresh.Nodup → ∀ r1 r2 rc1 rc2, s.ca.nextClass ≤ r1 → s.ca.nextClass ≤ r2 →
    get s'.ca.classes r1 = some rc1 → get s'.ca.classes r2 = some rc2 → rc1.keys = rc2.keys → r1 = r2

theorem updEnt_spec {s : Sys} (hr : Reachable s) (hrepo : s.ca.hasRepo = true) (hnl : NoLimits s.ca)
    (p : Handle) (hu : UniqueNames s.ca p) (ents : List Entitlement) (hndE : (ents.map (·.rcn)).Nodup)
    (now : Int) (fresh : List KeyId) (hlen : (newEntitlements s.ca p ents).length ≤ fresh.length) :
    EntUpdated s p ents now fresh (s.next (.updateEntitlements p ents now fresh)) := by
  have hinv := reachable_inv hr
  have hnd := hinv.core.nodup
  have hfree : ∀ r, s.ca.nextClass ≤ r → get s.ca.classes r = none :=
    fun r hr0 => Option.not_isSome_iff_eq_none.mp fun h => Nat.not_lt.mpr hr0 (hinv.core.fresh r h)
  obtain ⟨evs, hloop, hspec⟩ := entitlementLoop_spec hnd hrepo p now ents s.ca.nextClass fresh hndE hlen
  obtain ⟨_, happ⟩ := next_of_process hr (c := .updateEntitlements p ents now fresh)
    (by rw [Ca.process, hloop])
  have hreach := Reachable.step (.updateEntitlements p ents now fresh) hr
  generalize s.next (.updateEntitlements p ents now fresh) = s' at happ hreach ⊢
  -- first the classes under `p` that the list does not name are removed
  have hmap : ∀ l : List (Rcn × Rc), l.map (fun q => Ev.rcRemoved q.1) = (l.map (·.1)).map Ev.rcRemoved :=
    fun _ => List.map_map.symm
  rewrite [hmap, applyAll_append, applyAll_rcRemoved] at happ
  have hs1 := get_foldl_del_filter hnd (fun q => q.2.parent = p ∧ !(ents.map (·.rcn)).contains q.2.parentRcn)
  have hnews := (List.filter_sublist (l := ents) (p := fun e => (s.ca.findParentRc p e.rcn).isNone)).map (·.rcn)
    |>.nodup hndE
  have hdone := hspec _ s'.ca happ
    ⟨fun ent hent r rc hfnd => by
      obtain ⟨h1, _, h3⟩ := findParentRc_some hnd hfnd
      refine ⟨(hs1 r).trans (Option.filter_eq_some_iff.mpr ⟨h1, decide_eq_true fun hP => ?_⟩),
        hinv.core.fresh r (by rewrite [h1]; rfl)⟩
      rewrite [List.contains_iff_mem.mpr (h3 ▸ List.mem_map_of_mem hent)] at hP
      exact Bool.false_ne_true hP.2,
    fun r hr0 => (hs1 r).trans (by rewrite [hfree r hr0]; rfl)⟩
  have hmemNew : ∀ {i : Nat} {ent}, (newEntitlements s.ca p ents)[i]? = some ent →
      ent ∈ ents ∧ s.ca.findParentRc p ent.rcn = none :=
    fun hi => (List.mem_filter.mp (List.mem_of_getElem? hi)).imp_right Option.isNone_iff_eq_none.mp
  -- where a class of the new state comes from
  have horigin : ∀ r rc', get s'.ca.classes r = some rc' → EntOrigin s.ca p ents now fresh r rc' := by
    intro r rc' hg'
    by_cases hlt : r < s.ca.nextClass
    · by_cases hex : ∃ ent ∈ ents, ∃ rc, s.ca.findParentRc p ent.rcn = some (r, rc)
      · obtain ⟨ent, hent, rc, hfnd⟩ := hex
        obtain ⟨h1, h2, h3⟩ := findParentRc_some hnd hfnd
        rewrite [hdone.found ent hent r rc hfnd] at hg'
        exact .listed rc ent h1 h2 hent h3 (Option.some.inj hg').symm
      · have hnf : ∀ ent ∈ ents, ∀ rc, s.ca.findParentRc p ent.rcn ≠ some (r, rc) :=
          fun ent hent rc hfnd => hex ⟨ent, hent, rc, hfnd⟩
        rewrite [hdone.frame r hlt hnf, hs1] at hg'
        obtain ⟨hg0, hkeep⟩ := Option.filter_eq_some_iff.mp hg'
        refine .other rc' hg0 (fun hpar => ?_) rfl
        obtain ⟨ent, hent, hname⟩ := List.mem_map.mp <| Classical.byContradiction fun hmem =>
          of_decide_eq_true hkeep ⟨hpar, by
            cases hc : (ents.map (·.rcn)).contains rc'.parentRcn
            · rfl
            · exact absurd (List.contains_iff_mem.mp hc) hmem⟩
        exact hnf ent hent rc' (hname ▸ findParentRc_of_get hnd hu hg0 hpar)
    · have hge := Nat.le_of_not_lt hlt
      obtain ⟨i, ent, k, _, hi, hk, heq⟩ := hdone.of_new hge hg'
      exact .created ent k (hmemNew hi).1 (hmemNew hi).2 hge (List.mem_of_getElem? hk) heq
  -- under `p` the class name decides where the class stands: where `s` has it, or at a new name
  have hplace : ∀ r rc', get s'.ca.classes r = some rc' → rc'.parent = p →
      (∃ rc, s.ca.findParentRc p rc'.parentRcn = some (r, rc)) ∨
      (s.ca.findParentRc p rc'.parentRcn = none ∧ s.ca.nextClass ≤ r) := by
    intro r rc' hg' hp'
    rcases horigin r rc' hg' with ⟨rc, _, hpp, heq⟩ | ⟨rc, ent, hg, hpp, _, _, heq⟩ | ⟨ent, k, _, hfn, hge, _, heq⟩
    · exact absurd (heq ▸ hp') hpp
    · exact Or.inl ⟨rc, heq ▸ findParentRc_of_get hnd hu hg hpp⟩
    · exact Or.inr ⟨heq ▸ hfn, hge⟩
  refine ⟨hreach, hdone.repo.trans hrepo, ?_, ?_, horigin, ?_, ?_⟩
  · intro r rc' hg'
    rcases horigin r rc' hg' with ⟨rc, hg, _, heq⟩ | ⟨rc, ent, hg, _, _, _, heq⟩ | ⟨ent, k, _, _, _, _, heq⟩
    · exact heq ▸ hnl r rc hg
    · exact heq ▸ hnl r rc hg
    · exact heq ▸ fun e he => nomatch he
  · intro r1 r2 rc1 rc2 hg1 hg2 hp1 hp2 hname
    rcases hname ▸ hplace r1 rc1 hg1 hp1 with ⟨rc, f1⟩ | ⟨f1, ge1⟩ <;>
      rcases hplace r2 rc2 hg2 hp2 with ⟨rc0, f2⟩ | ⟨f2, ge2⟩
    · exact congrArg Prod.fst (Option.some.inj (f1.symm.trans f2))
    · exact nomatch f1.symm.trans f2
    · exact nomatch f1.symm.trans f2
    · -- two new classes of one name stand at the same index of the new entitlements
      obtain ⟨i1, e1, _, rfl, hi1, _, rfl⟩ := hdone.of_new ge1 hg1
      obtain ⟨i2, e2, _, rfl, hi2, _, rfl⟩ := hdone.of_new ge2 hg2
      have h1 : ((newEntitlements s.ca p ents).map (·.rcn))[i1]? = some e1.rcn := by rewrite [List.getElem?_map, hi1]; rfl
      have h2 : ((newEntitlements s.ca p ents).map (·.rcn))[i2]? = some e1.rcn := by
        rewrite [List.getElem?_map, hi2]; exact congrArg some hname.symm
      rw [(List.getElem?_inj (List.getElem?_eq_some_iff.mp h1).1 hnews).mp (h1.trans h2.symm)]
  · intro ent hent
    cases hfnd : s.ca.findParentRc p ent.rcn with
    | some q =>
      obtain ⟨_, h2, h3⟩ := findParentRc_some hnd hfnd
      exact ⟨q.1, _, hdone.found ent hent q.1 q.2 hfnd, h2, h3⟩
    | none =>
      obtain ⟨i, hi⟩ := List.getElem?_of_mem
        (List.mem_filter.mpr ⟨hent, Option.isNone_iff_eq_none.mpr hfnd⟩ : ent ∈ newEntitlements s.ca p ents)
      obtain ⟨k, _, hg⟩ := hdone.created i ent hi
      exact ⟨_, _, hg, rfl, rfl⟩
  · intro hndF r1 r2 rc1 rc2 hge1 hge2 hg1 hg2 hkeys
    obtain ⟨i1, _, k1, rfl, _, hk1, rfl⟩ := hdone.of_new hge1 hg1
    obtain ⟨i2, _, k2, rfl, _, hk2, rfl⟩ := hdone.of_new hge2 hg2
    cases hkeys
    rw [(List.getElem?_inj (List.getElem?_eq_some_iff.mp hk1).1 hndF).mp (hk1.trans hk2.symm)]

end KM.CaK
