/-
The class invariant `NoOver` (every issued child certificate lies inside the current key's certificate): what keeps it
on one class record, which events keep it in a given state (`Ev.keepsNoOver`) or in every state (`Ev.harmless`), and
that it holds for every class of every reachable state.  Only a certificate received for the current key and the
activation of a new key break it for a moment; both are repaired by the `ChildCertificatesUpdated` of the same chunk.
-/
import KrillModel.Ca.LemmasAllCls
namespace KM.CaK
open KM.Res KM.AMap

/-- Every issued child certificate of the class lies inside the current key's certificate; a
class without current key has issued nothing. -/
def NoOver (rc : Rc) : Prop :=
  match rc.keys.current with
  | some c => ∀ k cc, get rc.certs.issued k = some cc → subset cc.res c.cert.res = true
  | none => ∀ k, get rc.certs.issued k = none

/-- The form the proofs use: every issued entry lies inside the certificate of a current key. -/
theorem noOver_iff {rc : Rc} :
    NoOver rc ↔ ∀ k cc, get rc.certs.issued k = some cc →
      ∃ c, rc.keys.current = some c ∧ subset cc.res c.cert.res = true := by
  unfold NoOver
  cases rc.keys.current with
  | none =>
    refine ⟨fun h k cc hk => ?_, fun h k => ?_⟩
    · rw [h k] at hk; cases hk
    · cases hk : get rc.certs.issued k with
      | none => rfl
      | some cc => obtain ⟨c, hc, _⟩ := h k cc hk; cases hc
  | some c =>
    exact ⟨fun h k cc hk => ⟨c, rfl, h k cc hk⟩,
      fun h k cc hk => by obtain ⟨c', hc', hs⟩ := h k cc hk; cases hc'; exact hs⟩

theorem noOver_create (p : Handle) (pr : Rcn) (k : KeyId) : NoOver (Rc.create p pr k) :=
  noOver_iff.mpr fun _ _ h => by cases h

/-- The current certificate survives, possibly with more resources (`none`: no condition). -/
def CurLe (ks ks' : KeyState) : Prop :=
  ∀ c, ks.current = some c → ∃ c', ks'.current = some c' ∧ subset c.cert.res c'.cert.res = true

theorem noOver_keys {rc : Rc} {ks' : KeyState} (h : NoOver rc) (hcur : CurLe rc.keys ks') :
    NoOver { rc with keys := ks' } := by
  refine noOver_iff.mpr fun k cc hk => ?_
  obtain ⟨c, hc, hs⟩ := noOver_iff.mp h k cc hk
  obtain ⟨c', hc', hle⟩ := hcur c hc
  exact ⟨c', hc', subset_trans hs hle⟩

theorem noOver_applyUpd {rc : Rc} (u : CertUpd) (h : NoOver rc)
    (hu : ∀ p, p ∈ u.issued ∨ p ∈ u.unsuspended →
      ∃ c, rc.keys.current = some c ∧ subset p.2.res c.cert.res = true) :
    NoOver { rc with certs := rc.certs.applyUpd u } := by
  refine noOver_iff.mpr fun k cc hk => ?_
  obtain ⟨_, _, hm | ⟨_, hm | ⟨hg, _⟩⟩⟩ := applyUpd_issued_cases _ _ _ _ hk
  · exact hu (k, cc) (Or.inr hm)
  · exact hu (k, cc) (Or.inl hm)
  · exact noOver_iff.mp h k cc hg

theorem noOver_removeRevoked {rc : Rc} (k0 : KeyId) (h : NoOver rc) :
    NoOver { rc with certs := rc.certs.removeRevoked k0 } := by
  refine noOver_iff.mpr fun k cc hk => ?_
  simp only [ChildCerts.removeRevoked, get_del] at hk
  split at hk
  · cases hk
  · exact noOver_iff.mp h k cc hk

/-- The received-certificate chunk for the current key with changed resources: the new
certificate, then the shrink computed from the old record. -/
theorem noOver_shrink {rc : Rc} {c : CertKey} {cert : Cert} {na : Int} {upd : CertUpd} {ks' : KeyState}
    (hks : ks'.current = some (c.setIncoming cert))
    (hsh : rc.certs.shrinkOverclaiming cert na = .ok upd) :
    NoOver { rc with keys := ks', certs := rc.certs.applyUpd upd } := by
  obtain ⟨iss, rem1, sus, rem2, h1, _, rfl⟩ := shrinkOverclaiming_ok hsh
  obtain ⟨hiss, hover, _⟩ := shrinkList_spec h1
  refine noOver_iff.mpr fun k cc hk => ⟨_, hks, ?_⟩
  obtain ⟨hnr, _, hm | ⟨_, hm | ⟨hg, hni⟩⟩⟩ := applyUpd_issued_cases _ _ _ _ hk
  · cases hm
  · exact hiss _ hm
  · -- untouched: it was not over-claiming
    cases hs : subset cc.res cert.res with
    | true => exact hs
    | false =>
      rcases hover (k, cc) (mem_of_get hg) hs with h | h
      · exact absurd (List.mem_append_left _ h) hnr
      · exact absurd h hni

/-- The activation chunk: the new key becomes current, everything issued is re-issued under it. -/
theorem noOver_activate {rc : Rc} {n : CertKey} {na : Int} {upd : CertUpd} {ks' : KeyState}
    (hks : ks'.current = some n)
    (hac : rc.certs.activateKey n.cert na = .ok upd) :
    NoOver { rc with keys := ks', certs := rc.certs.applyUpd upd } := by
  obtain ⟨iss, sus, h1, _, rfl⟩ := activateKey_ok hac
  obtain ⟨hiss, hkeys⟩ := reissueAll_spec h1
  refine noOver_iff.mpr fun k cc hk => ⟨_, hks, ?_⟩
  obtain ⟨_, _, hm | ⟨_, hm | ⟨hg, hni⟩⟩⟩ := applyUpd_issued_cases _ _ _ _ hk
  · cases hm
  · exact hiss _ hm
  · exact absurd (hkeys ▸ mem_keys_of_get hg) hni

theorem curLe_of_eq {ks ks' : KeyState} (h : ks'.current = ks.current) : CurLe ks ks' :=
  fun c hc => ⟨c, h.trans hc, subset_refl _⟩

theorem curLe_of_none {ks ks' : KeyState} (h : ks.current = none) : CurLe ks ks' :=
  fun c hc => by rw [h] at hc; cases hc

theorem curLe_applyRequested (ks : KeyState) (k : KeyId) : CurLe ks (ks.applyRequested k) := by
  -- a request flag is set on one of the keys; no certificate changes
  fun_cases KeyState.applyRequested ks k <;> intro c hc <;> cases hc <;> exact ⟨_, rfl, subset_refl _⟩

/-- The key events that leave the current certificate as it is: all but a received certificate
and the activation of the new key. -/
def KeyEv.keepsCurrent : KeyEv → Bool
  | .received .. => false
  | .activated => false
  | _ => true

theorem apply_curLe {ks ks' : KeyState} {ke : KeyEv} (hk : ke.keepsCurrent = true)
    (h : ks.apply ke = some ks') : CurLe ks ks' := by
  cases ke with
  | requested k => cases h; exact curLe_applyRequested ks k
  | unexpected k => cases h; exact curLe_of_eq rfl
  | pendingAdded k => cases ks <;> cases h; exact curLe_of_eq rfl
  | pendingToNew n => cases ks <;> cases h; exact curLe_of_eq rfl
  | pendingToActive n => cases ks <;> cases h; exact curLe_of_none rfl
  | finished => cases ks <;> cases h; exact curLe_of_eq rfl
  | received ki cert => cases hk
  | activated => cases hk

theorem noOver_congr {rc rc' : Rc} (hk : rc'.keys = rc.keys) (hc : rc'.certs = rc.certs) (h : NoOver rc) :
    NoOver rc' := by
  unfold NoOver at h ⊢; rw [hk, hc]; exact h

/-- What an event must satisfy for `NoOver` to survive it on its own: a key event keeps the
current certificate, and whatever a `ChildCertificatesUpdated` adds to `issued` lies inside the
current certificate of its class. -/
def Ev.keepsNoOver (s : Ca) : Ev → Prop
  | .key _ ke => ke.keepsCurrent = true
  | .childCerts r u => ∀ p, p ∈ u.issued ∨ p ∈ u.unsuspended →
      ∃ rc c, get s.classes r = some rc ∧ rc.keys.current = some c ∧ subset p.2.res c.cert.res = true
  | _ => True

theorem noOver_step {s s' : Ca} {e : Ev} (hnd : (keys s.classes).Nodup) (hP : AllCls NoOver s)
    (hok : e.keepsNoOver s) (ha : s.apply e = some s') : AllCls NoOver s' := by
  refine allCls_apply hnd hP ha noOver_create (fun r rc rc' hr hg hno happ => ?_)
    fun rc k => noOver_removeRevoked k
  rcases applyEv_cases happ with ⟨r', ke, ks', rfl, hk, rfl⟩ | ⟨r', u, rfl, rfl⟩ | ⟨r', u, rfl, rfl⟩
  · exact noOver_keys hno (apply_curLe hok hk)
  · exact hno
  · cases hr
    refine noOver_applyUpd u hno fun p hp => ?_
    obtain ⟨rc0, c, hg0, hc, hsub⟩ := hok p hp
    rw [hg] at hg0; cases hg0
    exact ⟨c, hc, hsub⟩

/-- Events that are fine in every state: key events that keep the current certificate,
child-certificate updates that only remove or suspend, and everything that is not about a class
record. -/
def Ev.harmless : Ev → Bool
  | .key _ ke => ke.keepsCurrent
  | .childCerts _ u => u.issued.isEmpty && u.unsuspended.isEmpty
  | _ => true

theorem keepsNoOver_of_harmless (s : Ca) {e : Ev} (h : e.harmless = true) : e.keepsNoOver s := by
  fun_cases Ev.keepsNoOver s e
  · exact h
  · simp only [Ev.harmless, Bool.and_eq_true, List.isEmpty_iff] at h
    intro p hp
    rw [h.1, h.2] at hp
    rcases hp with hp | hp <;> cases hp
  · trivial

theorem noOver_applyAll_harmless {s s' : Ca} {evs : List Ev} (hnd : (keys s.classes).Nodup)
    (h : ∀ e ∈ evs, e.harmless = true) (hP : AllCls NoOver s)
    (hs : s.applyAll evs = some s') : AllCls NoOver s' :=
  applyAll_pres (fun e he s _ hnd hP ha => noOver_step hnd hP (keepsNoOver_of_harmless s (h e he)) ha) hnd hP hs

theorem keepsNoOver_env {s s1 : Ca} {e : Ev} (henv : Env s s1) (h : e.keepsNoOver s) : e.keepsNoOver s1 := by
  fun_cases Ev.keepsNoOver s1 e
  · exact h
  case case2 r u =>
    intro p hp
    obtain ⟨rc, c, hg, hc, hsub⟩ := h p hp
    have := henv.keys r
    rw [hg] at this
    cases hg1 : get s1.classes r with
    | none => simp [hg1] at this
    | some rc1 =>
      simp only [hg1, Option.map_some, Option.some.injEq] at this
      exact ⟨rc1, c, rfl, this ▸ hc, hsub⟩
  · trivial

/-- Key-preserving events whose additions are inside the current certificates of the initial
state. -/
theorem noOver_applyAll_keysPres {s : Ca} {evs : List Ev} {s' : Ca} (hnd : (keys s.classes).Nodup)
    (h : ∀ e ∈ evs, e.keysPres = true ∧ e.keepsNoOver s)
    (hP : AllCls NoOver s) (hs : s.applyAll evs = some s') : AllCls NoOver s' :=
  (applyAll_pres (Q := fun s1 => Env s s1 ∧ AllCls NoOver s1)
    (fun e he _ _ hnd1 ⟨henv, hP1⟩ ha => ⟨henv.trans (apply_env (h e he).1 ha),
      noOver_step hnd1 hP1 (keepsNoOver_env henv (h e he).2) ha⟩) hnd ⟨Env.refl s, hP⟩ hs).2

theorem activateClass_noOver (na : Int) (r : Rcn) (rc : Rc) (evs : List Ev)
    (h : activateClass r rc na = .ok evs) :
    NoOver rc → ∀ rc', rc.applyEvs evs = some rc' → NoOver rc' := by
  intro hno rc' happ
  obtain ⟨_, rfl⟩ | ⟨n, c, upd, ha⟩ := activateClass_cases h
  · cases happ; exact hno
  · obtain ⟨prods, h1⟩ := ha.applyEvs
    cases h1.symm.trans happ
    exact noOver_congr rfl rfl (noOver_activate (ks' := .rollOld n c) rfl ha.activateKey)

/-- A chunk of one class that starts with a received certificate: what counts is the class
record after the whole chunk. -/
theorem noOver_receivedChunk {s s' : Ca} {rcn : Rcn} {rc : Rc} {ki : KeyId} {cert : Cert} {ks' : KeyState}
    {pay : List Ev} (hg : get s.classes rcn = some rc) (hP : AllCls NoOver s)
    (hrecv : rc.keys.applyReceived ki cert = some ks')
    (hpay : ∀ e ∈ pay, e.isPayload = true ∧ e.rcn? = some rcn)
    (hfin : NoOver { rc with keys := ks', certs := certsAfter rc.certs pay })
    (hs : s.applyAll (.key rcn (.received ki cert) :: pay) = some s') : AllCls NoOver s' := by
  refine allCls_chunk NoOver (r := rcn) ?_ hg hP ?_ hs
  · exact List.forall_mem_cons.mpr ⟨decide_eq_true rfl, payloads_onClass hpay⟩
  · intro rc' happ
    obtain ⟨prods, h1⟩ := applyEvs_key_payload rcn (ke := .received ki cert) hrecv fun e he => (hpay e he).1
    cases h1.symm.trans happ
    exact noOver_congr rfl rfl hfin

/-- `process_rcvd_cert_current`: with the same resources only the certificate of the key changes;
otherwise the over-claiming child certificates shrink in the same chunk. -/
theorem noOver_rcvdCertCurrent {s s' : Ca} {rcn : Rcn} {rc : Rc} {c : CertKey} {ki : KeyId} {cert : Cert}
    {na : Int} {prods : List ProdUpd} {evs : List Ev} (hg : get s.classes rcn = some rc)
    (hP : AllCls NoOver s) (hr : rc.keys.route ki = .ok (.current c))
    (h : rc.rcvdCertCurrent rcn c ki cert na prods = .ok evs) (hs : s.applyAll evs = some s') :
    AllCls NoOver s' := by
  obtain ⟨ks', hrecv, hcur', hcur⟩ := route_current_applyReceived cert hr
  obtain ⟨hse, rfl⟩ | ⟨upd, hsh, rfl⟩ := rcvdCertCurrent_cases h
  · -- the same resources: only the certificate of the current key changes
    refine noOver_receivedChunk (pay := []) hg hP hrecv (List.forall_mem_nil _) ?_ hs
    refine noOver_keys (hP rcn rc hg) fun c0 hc0 => ⟨_, hcur', ?_⟩
    rw [hcur] at hc0; cases hc0
    exact seteq_subset_right hse
  · -- other resources: the child certificates shrink with them
    refine noOver_receivedChunk hg hP hrecv
      (List.forall_mem_append.mpr ⟨certsEv_payload rcn upd, prods_payload rcn prods⟩) ?_ hs
    rw [certsAfter_append, certsAfter_certsEv, certsAfter_products (prods_products rcn prods)]
    exact noOver_shrink hcur' hsh

theorem certifyEvents_keepsNoOver {s : Ca} {ch : Handle} {res : ResSet} {r : Rcn} {k : KeyId} {l : Limit}
    {na : Int} {evs : List Ev} (h : s.childCertifyEvents ch res r k l na = .ok evs) :
    ∀ e ∈ evs, e.keysPres = true ∧ e.keepsNoOver s := by
  obtain ⟨rc, c, cc, hg, hc, hi, rfl⟩ := childCertifyEvents_cases h
  refine List.forall_mem_cons.mpr ⟨⟨rfl, trivial⟩, List.forall_mem_singleton.mpr ⟨rfl, fun p hp => ?_⟩⟩
  simp only [List.mem_singleton, List.not_mem_nil, or_false] at hp
  subst hp
  exact ⟨rc, c, hg, hc, makeIssued_subset hi⟩

theorem entEv_harmless {r : Rcn} {e : Ev} (h : e.isEntEv r = true) : e.harmless = true := by
  revert h
  fun_cases Ev.isEntEv r e <;> intro h
  · rfl
  · rfl
  · cases h

theorem entitlementLoop_harmless {s : Ca} {p : Handle} {now : Int} {ents : List Entitlement}
    {next : Nat} {fresh : List KeyId} {evs : List Ev}
    (h : entitlementLoop s p now ents next fresh = .ok evs) : ∀ e ∈ evs, e.harmless = true := by
  have hent : ∀ (ks : KeyState) ent r, ∀ e ∈ (ks.entitlementEvents ent now).map (Ev.key r), e.harmless = true :=
    fun ks ent r e he => entEv_harmless (entitlementEvents_isEntEv ks ent now r e he)
  fun_induction entitlementLoop s p now ents next fresh generalizing evs
  case case1 => cases h; exact List.forall_mem_nil _
  -- a class that exists / a new class
  case case4 hrest ih => cases h; exact List.forall_mem_append.mpr ⟨hent _ _ _, ih hrest⟩
  case case8 hrest ih =>
    cases h
    exact List.forall_mem_cons.mpr ⟨rfl, List.forall_mem_append.mpr ⟨hent _ _ _, ih hrest⟩⟩
  all_goals cases h

theorem initLoop_harmless {fresh : AMap Rcn KeyId} {l : List (Rcn × Rc)} {evs : List Ev}
    (h : keyrollInitLoop fresh l = .ok evs) : ∀ e ∈ evs, e.harmless = true := by
  intro e he
  rw [keyrollInitLoop_eq] at h
  obtain ⟨p, _, a, ha, hea⟩ := mem_forClasses h he
  obtain ⟨_, _, _, rfl | rfl⟩ := initClass_mem ha hea <;> rfl

/-- The removals of `removeEventsFor` and the suspensions of `suspendEventsFor` add nothing to `issued`. -/
theorem classEvents_harmless {c : Child} {classes : List (Rcn × Rc)} {u : Rcn × Rc → CertUpd}
    (hu : ∀ p, (u p).issued = [] ∧ (u p).unsuspended = []) :
    ∀ e ∈ classes.filterMap fun p =>
      if (c.issuedKeys p.1).isEmpty then none else some (Ev.childCerts p.1 (u p)), e.harmless = true := by
  intro e he
  obtain ⟨p, _, _, rfl⟩ := mem_classEvents he
  simp only [Ev.harmless, (hu p).1, (hu p).2, List.isEmpty_nil, Bool.and_self]

theorem harmless_snoc {l : List Ev} {a : Ev} (hl : ∀ e ∈ l, e.harmless = true) (ha : a.harmless = true) :
    ∀ e ∈ l ++ [a], e.harmless = true :=
  List.forall_mem_append.mpr ⟨hl, List.forall_mem_singleton.mpr ha⟩

/-- A stored command keeps `NoOver`: all commands but four emit harmless events only; the issuing of
child certificates (`ChildCertify`, `ChildUnsuspend`) stays inside the current certificate, a
received certificate and the activation of new keys repair `issued` in the same chunk. -/
theorem noOver_stored {s : Sys} {c : Cmd} {evs : List Ev} {ca' : Ca} (hinv : Inv s) (hP : AllCls NoOver s.ca)
    (hp : s.ca.process c = .ok evs) (hs : s.ca.applyAll evs = some ca') : AllCls NoOver ca' := by
  have hnd := hinv.core.nodup
  have harmless : ∀ {l : List Ev}, s.ca.applyAll l = some ca' → (∀ e ∈ l, e.harmless = true) → AllCls NoOver ca' :=
    fun hs h => noOver_applyAll_harmless hnd h hP hs
  cases process_cases hp with
  | childUpdateResourcesSame | childRevokeKeyNoClass | childRevokeKeyRevoked | childSuspendInactive | childSuspendNone
  | childUnsuspendActive | keyrollInitNone => cases hs; exact hP
  | childAdd | childUpdateResources | childMapping | addParent | dropClass | repoUpdateFirst | rcvdToNew =>
    exact harmless hs (List.forall_mem_singleton.mpr rfl)
  | childCertify _ events => exact noOver_applyAll_keysPres hnd (certifyEvents_keepsNoOver events) hP hs
  | childRevokeKey => exact harmless hs (List.forall_mem_cons.mpr ⟨rfl, List.forall_mem_singleton.mpr rfl⟩)
  | childRemove | childSuspend => exact harmless hs (harmless_snoc (classEvents_harmless fun _ => ⟨rfl, rfl⟩) rfl)
  | childUnsuspend _ _ loop =>
    refine noOver_applyAll_keysPres hnd
      (List.forall_mem_append.mpr ⟨?_, List.forall_mem_singleton.mpr ⟨rfl, keepsNoOver_of_harmless _ rfl⟩⟩) hP hs
    exact unsuspendClasses_forall _ (fun _ _ _ _ _ h => certifyEvents_keepsNoOver h)
      (fun _ _ _ _ => ⟨rfl, keepsNoOver_of_harmless _ rfl⟩) loop
  | removeParent => exact harmless hs (harmless_snoc (List.forall_mem_map.mpr fun _ _ => rfl) rfl)
  | updateEntitlements loop =>
    exact harmless hs (List.forall_mem_append.mpr ⟨List.forall_mem_map.mpr fun _ _ => rfl, entitlementLoop_harmless loop⟩)
  -- a received certificate: the first of a pending key (`rcvdToNew` above, `rcvdToActive`), a new one for the new key
  -- of a roll, for the current key
  | rcvdToActive => exact harmless hs (List.forall_mem_cons.mpr ⟨rfl, List.forall_mem_map.mpr fun _ _ => rfl⟩)
  | rcvdNewCert cls route =>
    obtain ⟨n, c, hk, rfl⟩ := route_newCert route
    exact noOver_receivedChunk (ks' := .rollNew (n.setIncoming _) c) (pay := []) cls hP (by rw [hk]; exact if_pos rfl)
      (List.forall_mem_nil _) (noOver_keys (hP _ _ cls) (curLe_of_eq (by rw [hk]; rfl))) hs
  | rcvdCurrent cls route events => exact noOver_rcvdCertCurrent cls hP route events hs
  | keyrollInit _ _ loop => exact harmless hs (initLoop_harmless loop)
  | repoUpdateRoll _ _ loop => exact harmless hs (harmless_snoc (initLoop_harmless loop) rfl)
  | keyrollActivate loop =>
    rw [activateLoop_eq] at loop
    exact forClasses_allCls NoOver NoOver
      (fun r rc evs h => ⟨(activateClass_ready _ r rc evs h).1, activateClass_noOver _ r rc evs h⟩) hnd hP loop hs
  | keyrollFinish => exact harmless hs (List.forall_mem_singleton.mpr rfl)
  | config => exact harmless hs (List.forall_mem_map.mpr fun _ _ => rfl)

theorem reachable_noOver {s : Sys} (h : Reachable s) : AllCls NoOver s.ca :=
  allCls_reachable (fun _ _ _ _ => noOver_stored) h

end KM.CaK
