/-
The request branch of `Pair.sync` on ONE class of the child in any key state (`classRequests_gen`): the revocation of
the old key with `KeyRollFinish`, then every certificate request answered and routed as `process_received_cert`
routes it - on the key state that is `KeyState.syncStep`.  `ReqStep2` is what such a step keeps at the parent, the
in-use marks of the keys included.
-/
import KrillModel.Ca.ExchangeBase
import KrillModel.Ca.ExchangeChild
import KrillModel.Ca.LemmasKeyRoles
namespace KM.CaK
open KM.Res KM.AMap

/-- What every step of the exchange keeps on both sides. -/
structure PairInv (x : Pair) : Prop where
  rp : Reachable x.parent
  rc : Reachable x.child
  repo : x.child.ca.hasRepo = true
  nolim : NoLimits x.child.ca

/-- The certificate an answer carries, as the child stores it. -/
def answerCert (R : ResSet) (na : Int) : Cert := { res := R, na := na }

/-- `PairInv`, and the child has no suspended child certificate (a hypothesis of `activate_spec`). -/
structure PairInv2 (x : Pair) : Prop where
  base : PairInv x
  nosusp : NoSusp x.child.ca

/-- The parent has key `k` in use for the child in the class the child calls `n`. -/
def InUse (p : Ca) (ch : Handle) (n : Rcn) (k : KeyId) : Prop :=
  ∃ c, get p.children ch = some c ∧ get c.usedKeys k = some (.inUse (c.nameInParent n))

/-- Some requests of class `r` (named `n` at the parent) with their responses: what they keep.  `Kb`: the keys that
may have been revoked – certificate on file and in-use mark may be gone; `K`: the keys that may have been certified –
they are then in use in the class `n` stands for. -/
structure ReqStep2 (y y' : Pair) (r n : Rcn) (Kb K : List KeyId) : Prop where
  ch : y'.ch = y.ch
  ph : y'.ph = y.ph
  inv : PairInv y'
  nosusp : NoSusp y.child.ca → NoSusp y'.child.ca
  same : ParentSame y.parent.ca y'.parent.ca y.ch
  frame : ∀ r2, r2 ≠ r → get y'.child.ca.classes r2 = get y.child.ca.classes r2
  book : ∀ q k, y'.parent.ca.issuedIn q k = y.parent.ca.issuedIn q k ∨ y'.parent.ca.bookedExact y.ch q k ∨ k ∈ Kb
  used : ∀ c, get y.parent.ca.children y.ch = some c → ∃ c', get y'.parent.ca.children y.ch = some c' ∧
    c'.rcnMap = c.rcnMap ∧ ∀ k, get c'.usedKeys k = get c.usedKeys k ∨
      (k ∈ K ∧ get c'.usedKeys k = some (.inUse (c.nameInParent n))) ∨ k ∈ Kb

theorem ReqStep2.refl {y : Pair} (h : PairInv y) (r n : Rcn) (Kb K : List KeyId) : ReqStep2 y y r n Kb K :=
  ⟨rfl, rfl, h, id, ParentSame.refl _ _, fun _ _ => rfl, fun _ _ => Or.inl rfl,
    fun c hc => ⟨c, hc, rfl, fun _ => Or.inl rfl⟩⟩

theorem ReqStep2.trans {a b c : Pair} {r n : Rcn} {Kb K : List KeyId} (h1 : ReqStep2 a b r n Kb K)
    (h2 : ReqStep2 b c r n Kb K) : ReqStep2 a c r n Kb K := by
  have hs2 := h2.same; have hb2 := h2.book; have hu2 := h2.used
  rw [h1.ch] at hs2 hb2 hu2
  refine ⟨h2.ch.trans h1.ch, h2.ph.trans h1.ph, h2.inv, h2.nosusp ∘ h1.nosusp, h1.same.trans hs2,
    fun r2 hr2 => (h2.frame r2 hr2).trans (h1.frame r2 hr2), fun q k => ?_, fun ca hca => ?_⟩
  · rcases hb2 q k with h | h | h
    · rcases h1.book q k with h' | h' | h'
      · exact Or.inl (h.trans h')
      · exact Or.inr (Or.inl (hs2.bookedExact h' h))
      · exact Or.inr (Or.inr h')
    · exact Or.inr (Or.inl h)
    · exact Or.inr (Or.inr h)
  · obtain ⟨cb, hcb, hm1, hk1⟩ := h1.used ca hca
    obtain ⟨cc, hcc, hm2, hk2⟩ := hu2 cb hcb
    refine ⟨cc, hcc, hm2.trans hm1, fun k => ?_⟩
    rcases hk2 k with h | ⟨hK, h⟩ | h
    · rcases hk1 k with h' | ⟨hK, h'⟩ | h'
      · exact Or.inl (h.trans h')
      · exact Or.inr (Or.inl ⟨hK, h.trans h'⟩)
      · exact Or.inr (Or.inr h')
    · exact Or.inr (Or.inl ⟨hK, by rw [h, nameInParent_congr hm1]⟩)
    · exact Or.inr (Or.inr h)

theorem ReqStep2.mono {y y' : Pair} {r n : Rcn} {Kb K Kb' K' : List KeyId} (h : ReqStep2 y y' r n Kb K)
    (hKb : ∀ k ∈ Kb, k ∈ Kb') (hK : ∀ k ∈ K, k ∈ K') : ReqStep2 y y' r n Kb' K' :=
  ⟨h.ch, h.ph, h.inv, h.nosusp, h.same, h.frame, fun q k => (h.book q k).imp_right (Or.imp_right (hKb k)),
    fun c hc => let ⟨c', hc', hm, hk⟩ := h.used c hc
      ⟨c', hc', hm, fun k => (hk k).imp_right (Or.imp (And.imp_left (hK k)) (hKb k))⟩⟩

/-- A key in use stays in use unless it may have been revoked. -/
theorem ReqStep2.inUse {y y' : Pair} {r n : Rcn} {Kb K : List KeyId} (h : ReqStep2 y y' r n Kb K) {k : KeyId}
    (hu : InUse y.parent.ca y.ch n k) (hk : k ∉ Kb) : InUse y'.parent.ca y.ch n k := by
  obtain ⟨c, hc, hkc⟩ := hu
  obtain ⟨c', hc', hm, hks⟩ := h.used c hc
  refine ⟨c', hc', ?_⟩
  rw [nameInParent_congr hm]
  rcases hks k with h1 | ⟨_, h1⟩ | h1
  · rw [h1]; exact hkc
  · exact h1
  · exact absurd h1 hk

/-- A key outside `K` that is in use, in whatever class, stays so: its in-use mark is untouched. -/
theorem ReqStep2.inUse_other {y y' : Pair} {r n : Rcn} {Kb K : List KeyId} (h : ReqStep2 y y' r n Kb K)
    (hKb : ∀ k ∈ Kb, k ∈ K) {n' : Rcn} {k : KeyId} (hu : InUse y.parent.ca y.ch n' k) (hk : k ∉ K) :
    InUse y'.parent.ca y.ch n' k := by
  obtain ⟨c, hc, hkc⟩ := hu
  obtain ⟨c', hc', hm, hks⟩ := h.used c hc
  refine ⟨c', hc', ?_⟩
  rw [nameInParent_congr hm]
  rcases hks k with h1 | ⟨h1, _⟩ | h1
  · rw [h1]; exact hkc
  · exact absurd h1 hk
  · exact absurd (hKb k h1) hk

/-- Without revocations a certificate on file with the offered resources stays so. -/
theorem ReqStep2.exact {y y' : Pair} {r n : Rcn} {K : List KeyId} (h : ReqStep2 y y' r n [] K) {q : Rcn} {k : KeyId}
    (he : y.parent.ca.bookedExact y.ch q k) : y'.parent.ca.bookedExact y.ch q k := by
  rcases h.book q k with h' | h' | h'
  · exact h.same.bookedExact he h'
  · exact h'
  · cases h'

/-- One certificate request for a key the class routes, answered by the parent. -/
theorem certRequest_gen {y : Pair} (hinv : PairInv y) {r : Rcn} {rc : Rc} {ki : KeyId}
    (hg : get y.child.ca.classes r = some rc) (hroute : ki ∈ rc.keys.routed) (na : Int)
    {K : List KeyId} (hK : ki ∈ K) {R : ResSet} (ha : y.parent.ca.answer y.ch rc.parentRcn = some R) :
    ∃ y' certs' c, y.certRequest r rc.parentRcn ki na = y' ∧ ReqStep2 y y' r rc.parentRcn [] K ∧
      get y'.child.ca.classes r = some { rc with keys := rc.keys.receive ki (answerCert R na), certs := certs' } ∧
      get y'.parent.ca.children y.ch = some c ∧ y'.parent.ca.bookedExact y.ch (c.nameInParent rc.parentRcn) ki := by
  obtain ⟨rt, hrt⟩ := (route_ok_iff rc.keys ki).mpr hroute
  obtain ⟨evs, p', hex, hr', hsame, hiss, hbook, c0, c0', hc0, hc0', hu1, hu2⟩ :=
    certify_stored hinv.rp ki na ha
  obtain ⟨s', certs', hn, c1, honly, hnl', hns'⟩ :=
    recv_gen hinv.rc hg (hinv.nolim r rc hg) hrt (answerCert R na) na
  obtain ⟨c, hc, hb⟩ := bookedExact_of_issuedFor ((hsame.answer _).trans ha) hiss rfl
  refine ⟨{ y with parent := p', child := s' }, certs', c, ?_,
    ⟨rfl, rfl, ⟨hr', c1, honly.hasRepo.trans hinv.repo, AllCls.of_onlyClass hinv.nolim honly hnl'⟩,
      fun hns => AllCls.of_onlyClass hns honly (hns' (hns r rc hg)), hsame, honly.frame,
      fun q k => (hbook q k).imp_right Or.inl, ?_⟩,
    honly.classAt, hc, hb⟩
  · unfold Pair.certRequest; rw [hex]; simp only [hiss]; rw [← hn]; rfl
  · intro c hc
    rw [hc0] at hc; cases hc
    have hm : c0'.rcnMap = c0.rcnMap := by
      obtain ⟨cb, e2, _, e4⟩ := hsame.child_some hc0
      cases hc0'.symm.trans e2
      exact e4
    refine ⟨c0', hc0', hm, fun k => ?_⟩
    by_cases hk : k = ki
    · subst hk; exact Or.inr (Or.inl ⟨hK, hu1⟩)
    · exact Or.inl (hu2 k hk)

/-- The certificate requests of a class, one after the other (`send_cert_requests_handle_responses`
for one class), when the parent answers: the key state receives the answer's certificate for every
requested key, and the parent has these certificates on file. -/
theorem certRequests_fold (r : Rcn) (na : Int) {K : List KeyId} :
    ∀ (L : List KeyId) {y : Pair} {rc : Rc}, PairInv y → get y.child.ca.classes r = some rc →
      (L ≠ [] → ∃ R, y.parent.ca.answer y.ch rc.parentRcn = some R) →
      (∀ ki ∈ L, ki ∈ rc.keys.routed) → (∀ ki ∈ L, ki ∈ K) →
      ∃ z, L.foldl (fun y ki =>
          if (get y.child.ca.classes r).isSome then y.certRequest r rc.parentRcn ki na else y) y = z ∧
        ReqStep2 y z r rc.parentRcn [] K ∧
        ∀ R, y.parent.ca.answer y.ch rc.parentRcn = some R →
          (∃ certs', get z.child.ca.classes r =
            some { rc with keys := L.foldl (fun k ki => k.receive ki (answerCert R na)) rc.keys, certs := certs' }) ∧
          ∀ ki ∈ L, ∃ c, get z.parent.ca.children y.ch = some c ∧
            z.parent.ca.bookedExact y.ch (c.nameInParent rc.parentRcn) ki := by
  intro L
  induction L with
  | nil =>
    intro y rc hinv hg _ _ _
    exact ⟨y, rfl, .refl hinv r _ [] K, fun R _ => ⟨⟨rc.certs, hg⟩, fun _ h => (nomatch h)⟩⟩
  | cons ki t ih =>
    intro y rc hinv hg hansw hrouted hK
    obtain ⟨R, ha⟩ := hansw (List.cons_ne_nil _ _)
    obtain ⟨y1, certs1, c, hy1, hst, g1, g5, g6⟩ := certRequest_gen hinv hg (hrouted ki (List.mem_cons_self ..)) na
      (hK ki (List.mem_cons_self ..)) ha
    have hans1 : y1.parent.ca.answer y1.ch rc.parentRcn = some R := by rw [hst.ch]; exact (hst.same.answer _).trans ha
    obtain ⟨z, hz, ih1, ih3⟩ := ih hst.inv g1 (fun _ => ⟨R, hans1⟩)
      (fun k hk => by rw [routed_receive]; exact hrouted k (List.mem_cons_of_mem _ hk))
      (fun k hk => hK k (List.mem_cons_of_mem _ hk))
    obtain ⟨f1, f5⟩ := ih3 R hans1
    refine ⟨z, ?_, hst.trans ih1, fun R' hR' => ?_⟩
    · simp only [List.foldl_cons, hg, Option.isSome_some, if_true, hy1]; exact hz
    · cases ha.symm.trans hR'
      refine ⟨f1, fun k hk => ?_⟩
      rcases List.mem_cons.mp hk with rfl | hk
      · -- the first request's certificate is still on file
        have hs := ih1.same; have hb := @ih1.exact
        rw [hst.ch] at hs hb
        obtain ⟨cb, e2, _, e4⟩ := hs.child_some g5
        exact ⟨cb, e2, by rw [nameInParent_congr e4]; exact hb g6⟩
      · have := f5 k hk
        rw [hst.ch] at this
        exact this

theorem classRequests_of_not_under {y : Pair} {r : Rcn} (na : Int)
    (h : ∀ rc, get y.child.ca.classes r = some rc → rc.parent ≠ y.ph) : y.classRequests r na = y := by
  unfold Pair.classRequests
  split
  · rfl
  · rename_i rc hg; rw [if_pos (h rc hg)]

/-- The outcome of `Pair.classRequests` on a class under the parent, whatever its key state:
the revocation request (for a key the parent has in use) is confirmed and `KeyRollFinish` stored;
every certificate request is answered and stored, i.e. the key state makes `KeyState.syncStep`.
Where the parent has no answer, `hansw` leaves the class without a certificate request: only the revocation is made. -/
theorem classRequests_gen {y : Pair} (hinv : PairInv y) (r : Rcn) (na now : Int) {rc : Rc}
    (hg : get y.child.ca.classes r = some rc) (hp : rc.parent = y.ph) (hwf : rc.keys.wf = true)
    (hleave : ∀ k ∈ rc.keys.revoked, InUse y.parent.ca y.ch rc.parentRcn k)
    (hansw : rc.keys.certRequests ≠ [] → ∃ R, y.parent.ca.answer y.ch rc.parentRcn = some R) :
    ReqStep2 y (y.classRequests r na) r rc.parentRcn rc.keys.revoked rc.keys.keyIds ∧
    (rc.keys.hasPending = false → y.classRequests r na = y) ∧
    (rc.keys.hasPending = true → y.parent.ca.answer y.ch rc.parentRcn = none →
      ∃ rc', get (y.classRequests r na).child.ca.classes r = some rc' ∧ rc'.parent = rc.parent ∧
        rc'.parentRcn = rc.parentRcn ∧ rc'.keys = rc.keys.finished ∧ rc.keys.finished.certRequests = []) ∧
    (∀ R, rc.keys.hasPending = true → y.parent.ca.answer y.ch rc.parentRcn = some R →
      ∃ rc', get (y.classRequests r na).child.ca.classes r = some rc' ∧ rc'.parent = rc.parent ∧
        rc'.parentRcn = rc.parentRcn ∧ rc'.keys = rc.keys.syncStep ⟨R, na⟩ now ∧
        ∀ ki ∈ rc.keys.finished.certRequests,
          ∃ c, get (y.classRequests r na).parent.ca.children y.ch = some c ∧
            (y.classRequests r na).parent.ca.bookedExact y.ch (c.nameInParent rc.parentRcn) ki) := by
  generalize hz : y.classRequests r na = z
  unfold Pair.classRequests at hz
  simp only [hg, hp, ne_eq, not_true_eq_false, if_false] at hz
  -- the pair after the revocation, if any
  have hx1 : ∃ x1 : Pair,
      z = rc.keys.certRequests.foldl (fun w ki =>
        if (get w.child.ca.classes r).isSome then w.certRequest r rc.parentRcn ki na else w) x1 ∧
      ReqStep2 y x1 r rc.parentRcn rc.keys.revoked [] ∧
      get x1.child.ca.classes r = some { rc with keys := rc.keys.finished } ∧
      (rc.keys.revokeRequest = none → x1 = y) := by
    rcases revokeRequest_cases rc.keys with ⟨hrev, hfin⟩ | ⟨c, o, hks⟩
    · -- no revocation request: nothing happens before the certificate requests
      rw [hrev] at hz
      exact ⟨y, hz.symm, .refl hinv r _ _ _, by rw [hfin]; exact hg, fun _ => rfl⟩
    · obtain ⟨c0, hc0, hu0⟩ := hleave o.id (hks ▸ List.mem_singleton.mpr rfl)
      obtain ⟨evs, p', hex, hr', hsame, hiss, c0', hc0', hm0, hu0'⟩ := revoke_stored hinv.rp hc0 hu0
      have honly := finish_spec hinv.rc hg hks
      simp only [hks, KeyState.revokeRequest, hex] at hz
      rw [hks]
      have hne : ∀ k, k ∉ (KeyState.rollOld c o).revoked → k ≠ o.id :=
        fun k hk h => hk (h ▸ List.mem_singleton.mpr rfl)
      refine ⟨{ y with parent := p', child := y.child.next (.keyrollFinish r) }, hz.symm,
        ⟨rfl, rfl,
          ⟨hr', .step _ hinv.rc, honly.hasRepo.trans hinv.repo, AllCls.of_onlyClass hinv.nolim honly (hinv.nolim r rc hg)⟩,
          fun hns => AllCls.of_onlyClass hns honly (hns r rc hg), hsame, honly.frame,
          fun q k => ?_, fun c1 hc1 => ?_⟩,
        honly.classAt,
        fun h => nomatch h⟩
      · by_cases hk : k ∈ (KeyState.rollOld c o).revoked
        · exact Or.inr (Or.inr hk)
        · exact Or.inl (hiss q k (hne k hk))
      · rw [hc0] at hc1; cases hc1
        refine ⟨c0', hc0', hm0, fun k => ?_⟩
        by_cases hk : k ∈ (KeyState.rollOld c o).revoked
        · exact Or.inr (Or.inr hk)
        · exact Or.inl (hu0' k (hne k hk))
  obtain ⟨x1, hy, hrev, a6, a12⟩ := hx1
  have hL : rc.keys.certRequests = rc.keys.finished.certRequests := (certRequests_finished hwf).symm
  have hans : x1.parent.ca.answer x1.ch rc.parentRcn = y.parent.ca.answer y.ch rc.parentRcn := by
    rw [hrev.ch]; exact hrev.same.answer _
  obtain ⟨z', hz', hcs, hyes⟩ := certRequests_fold r na rc.keys.certRequests hrev.inv a6
    (fun h => by rw [hans]; exact hansw h)
    (fun ki hki => by
      rw [routed_finished_eq]
      exact certRequests_sub_keyIds _ ki (by rw [← hL]; exact hki))
    (certRequests_sub_keyIds rc.keys)
  rw [hy, hz']
  have hnil : y.parent.ca.answer y.ch rc.parentRcn = none → rc.keys.certRequests = [] := fun hnone => by
    cases hl : rc.keys.certRequests with
    | nil => rfl
    | cons k t =>
      obtain ⟨R, hR⟩ := hansw (by rw [hl]; simp)
      rw [hnone] at hR; cases hR
  refine ⟨(hrev.mono (fun _ h => h) (fun _ h => nomatch h)).trans (hcs.mono (fun _ h => nomatch h) (fun _ h => h)),
    ?_, ?_, ?_⟩
  · intro hnp
    obtain ⟨h2, h3⟩ := hasPending_false_iff.mp hnp
    rw [← hz', h2, a12 h3]; rfl
  · intro hpend hnone
    rw [← hz', hnil hnone]
    exact ⟨_, a6, rfl, rfl, rfl, by rw [← hL]; exact hnil hnone⟩
  · intro R hpend hsome
    obtain ⟨⟨certs', g1⟩, g5⟩ := hyes R (hans.trans hsome)
    refine ⟨_, g1, rfl, rfl, ?_, ?_⟩
    · rw [syncStep_of_pending hwf hpend, ← foldl_receive_certRequests (wf_finished hwf), hL]; rfl
    · intro ki hki
      have := g5 ki (by rw [hL]; exact hki)
      rw [hrev.ch] at this
      exact this

end KM.CaK
