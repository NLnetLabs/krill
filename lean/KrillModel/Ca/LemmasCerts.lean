/-
What `ChildCertificates::apply` of an update, `shrink_overclaiming` and `activate_key` do to the `issued` map, and
which resources `make_issued_cert` puts in a certificate (`makeIssued_cases`).
-/
import KrillModel.Ca.Preds
namespace KM.CaK
open KM.Res KM.AMap

theorem suspended_foldl_addIssued (l : List (KeyId × ChildCert)) (cs : ChildCerts) :
    (l.foldl ChildCerts.addIssued cs).suspended = l.foldl (fun m a => del m a.1) cs.suspended :=
  (List.foldl_hom ChildCerts.suspended fun _ _ => rfl).symm

/-- The issued map after an update: the insertions of `issued`, then of `unsuspended`, then the
deletions of `removed`, then of `suspended`. -/
theorem get_applyUpd_issued (cs : ChildCerts) (u : CertUpd) (k : KeyId) :
    get (cs.applyUpd u).issued k =
      if k ∈ u.suspended.map (·.1) then none
      else if k ∈ u.removed then none
      else (lastOf u.unsuspended k).orElse fun _ => (lastOf u.issued k).orElse fun _ => get cs.issued k := by
  simp only [ChildCerts.applyUpd,
    ← List.foldl_hom ChildCerts.issued (g₁ := ChildCerts.suspend) (g₂ := fun m a => del m a.1) fun _ _ => rfl,
    ← List.foldl_hom ChildCerts.issued (g₁ := ChildCerts.removeRevoked) (g₂ := fun m a => del m (id a)) fun _ _ => rfl,
    ← List.foldl_hom ChildCerts.issued (g₁ := ChildCerts.unsuspend) (g₂ := fun m a => set m a.1 a.2) fun _ _ => rfl,
    ← List.foldl_hom ChildCerts.issued (g₁ := ChildCerts.addIssued) (g₂ := fun m a => set m a.1 a.2) fun _ _ => rfl,
    get_foldl_delK, get_foldl_set, List.map_id]

theorem applyUpd_issued_get (cs : ChildCerts) (u : CertUpd) (hu : u.unsuspended = []) (k : KeyId) :
    get (cs.applyUpd u).issued k =
      if k ∈ u.suspended.map (·.1) then none
      else if k ∈ u.removed then none
      else (lastOf u.issued k).orElse (fun _ => get cs.issued k) := by
  rw [get_applyUpd_issued, hu]; rfl

/-- Where an entry of the issued map comes from after an update was applied. -/
theorem applyUpd_issued_cases (cs : ChildCerts) (u : CertUpd) (k : KeyId) (x : ChildCert)
    (h : get (cs.applyUpd u).issued k = some x) :
    k ∉ u.removed ∧ k ∉ u.suspended.map (·.1) ∧
    ((k, x) ∈ u.unsuspended ∨
     (k ∉ u.unsuspended.map (·.1) ∧
      ((k, x) ∈ u.issued ∨ (get cs.issued k = some x ∧ k ∉ u.issued.map (·.1))))) := by
  rw [get_applyUpd_issued] at h
  split at h
  · cases h
  · rename_i hns
    split at h
    · cases h
    · rename_i hnr
      refine ⟨hnr, hns, ?_⟩
      cases hu : lastOf u.unsuspended k with
      | some y => rw [hu] at h; cases h; exact Or.inl (lastOf_mem hu)
      | none =>
        rw [hu] at h
        refine Or.inr ⟨lastOf_eq_none.mp hu, ?_⟩
        cases hi : lastOf u.issued k with
        | some y => rw [hi] at h; cases h; exact Or.inl (lastOf_mem hi)
        | none => rw [hi] at h; exact Or.inr ⟨h, lastOf_eq_none.mp hi⟩

/-- `make_issued_cert` inverted: the certificate carries the limit if one was asked for, which then lies inside the
resources offered, else those resources; either way it lies inside the signing certificate. -/
theorem makeIssued_cases {res : ResSet} {l : Limit} {signing : Cert} {na : Int} {cc : ChildCert}
    (h : makeIssued res l signing na = .ok cc) :
    cc.res = l.getD res ∧ subset cc.res res = true ∧ subset cc.res signing.res = true := by
  revert h
  fun_cases makeIssued res l signing na <;> intro h <;> cases h
  next r hr hs =>
    revert hr
    fun_cases applyLimit l res <;> intro hr <;> cases hr
    · exact ⟨rfl, subset_refl _, hs⟩
    · exact ⟨rfl, ‹_›, hs⟩

theorem makeIssued_subset {res : ResSet} {l : Limit} {signing : Cert} {na : Int} {cc : ChildCert}
    (h : makeIssued res l signing na = .ok cc) : subset cc.res signing.res = true :=
  (makeIssued_cases h).2.2

theorem reissue_subset {prev : ChildCert} {upd : Option ResSet} {signing : Cert} {na : Int} {cc : ChildCert}
    (h : reissue prev upd signing na = .ok cc) : subset cc.res signing.res = true :=
  makeIssued_subset h

theorem reduced_eq_none {cc : ChildCert} {e : ResSet} (h : cc.reduced e = none) : subset cc.res e = true := by
  unfold ChildCert.reduced at h
  split at h
  · assumption
  · cases h

theorem reduced_eq_some {cc : ChildCert} {e r : ResSet} (h : cc.reduced e = some r) :
    subset cc.res e = false ∧ r = inter e cc.res := by
  unfold ChildCert.reduced at h
  split at h
  · cases h
  · exact ⟨Bool.eq_false_iff.mpr ‹_›, (Option.some.inj h).symm⟩

/-- `shrinkList`: what is re-issued lies inside the received certificate; every over-claiming
entry is re-issued or removed; nothing else is touched. -/
theorem shrinkList_spec {l : List (KeyId × ChildCert)} {rcvd : Cert} {na : Int}
    {iss : List (KeyId × ChildCert)} {rem : List KeyId} (h : shrinkList l rcvd na = .ok (iss, rem)) :
    (∀ p ∈ iss, subset p.2.res rcvd.res = true) ∧
    (∀ p ∈ l, subset p.2.res rcvd.res = false → p.1 ∈ rem ∨ p.1 ∈ iss.map (·.1)) ∧
    (∀ k, k ∈ rem ∨ k ∈ iss.map (·.1) → k ∈ l.map (·.1)) := by
  fun_induction shrinkList l rcvd na generalizing iss rem
  case case1 => cases h; exact ⟨List.forall_mem_nil _, List.forall_mem_nil _, fun k hk => hk.elim id id⟩
  case case2 k cc t hred ih =>
    -- the head fits
    obtain ⟨h1, h2, h3⟩ := ih h
    exact ⟨h1, List.forall_mem_cons.mpr ⟨fun hov => Bool.noConfusion ((reduced_eq_none hred).symm.trans hov), h2⟩,
      fun k hk => List.mem_cons_of_mem _ (h3 k hk)⟩
  case case4 k cc t r hred hemp iss' rem' ht ih =>
    -- the head is removed
    cases h
    obtain ⟨h1, h2, h3⟩ := ih ht
    refine ⟨h1, List.forall_mem_cons.mpr ⟨fun _ => Or.inl (List.mem_cons_self ..),
      fun q hq hov => (h2 q hq hov).imp (List.mem_cons_of_mem _) id⟩, fun k' hk => ?_⟩
    rw [List.mem_cons, or_assoc] at hk
    exact hk.elim (fun e => e ▸ List.mem_cons_self ..) fun hk => List.mem_cons_of_mem _ (h3 k' hk)
  case case7 k cc t r hred hemp c' hre iss' rem' ht ih =>
    -- the head is re-issued
    cases h
    obtain ⟨h1, h2, h3⟩ := ih ht
    refine ⟨List.forall_mem_cons.mpr ⟨reissue_subset hre, h1⟩,
      List.forall_mem_cons.mpr ⟨fun _ => Or.inr (List.mem_cons_self ..),
        fun q hq hov => (h2 q hq hov).imp id (List.mem_cons_of_mem _)⟩, fun k' hk => ?_⟩
    rw [List.map_cons, List.mem_cons, or_left_comm] at hk
    exact hk.elim (fun e => e ▸ List.mem_cons_self ..) fun hk => List.mem_cons_of_mem _ (h3 k' hk)
  all_goals cases h

/-- `reissueAll` re-issues entry by entry. -/
theorem reissueAll_mem {l : List (KeyId × ChildCert)} {signing : Cert} {na : Int}
    {out : List (KeyId × ChildCert)} (h : reissueAll l signing na = .ok out) :
    out.map (·.1) = l.map (·.1) ∧ ∀ q ∈ out, ∃ p ∈ l, reissue p.2 none signing na = .ok q.2 := by
  fun_induction reissueAll l signing na generalizing out
  case case1 => cases h; exact ⟨rfl, fun _ hq => nomatch hq⟩
  -- head and tail re-issued
  case case4 hre _ hrest ih =>
    cases h
    exact ⟨congrArg (_ :: ·) (ih hrest).1, List.forall_mem_cons.mpr ⟨⟨_, List.mem_cons_self, hre⟩,
      fun q hq => let ⟨p, hp, h'⟩ := (ih hrest).2 q hq; ⟨p, List.mem_cons_of_mem _ hp, h'⟩⟩⟩
  all_goals cases h

theorem reissueAll_spec {l : List (KeyId × ChildCert)} {signing : Cert} {na : Int}
    {out : List (KeyId × ChildCert)} (h : reissueAll l signing na = .ok out) :
    (∀ p ∈ out, subset p.2.res signing.res = true) ∧ out.map (·.1) = l.map (·.1) :=
  ⟨fun q hq => let ⟨_, _, hr⟩ := (reissueAll_mem h).2 q hq; reissue_subset hr, (reissueAll_mem h).1⟩

theorem shrinkOverclaiming_ok {cs : ChildCerts} {rcvd : Cert} {na : Int} {upd : CertUpd}
    (h : cs.shrinkOverclaiming rcvd na = .ok upd) :
    ∃ iss rem1 sus rem2, shrinkList cs.issued rcvd na = .ok (iss, rem1) ∧
      shrinkList cs.suspended rcvd na = .ok (sus, rem2) ∧
      upd = { issued := iss, removed := rem1 ++ rem2, suspended := sus } := by
  revert h
  fun_cases ChildCerts.shrinkOverclaiming cs rcvd na <;> intro h <;> cases h
  next iss rem1 h1 sus rem2 h2 => exact ⟨iss, rem1, sus, rem2, h1, h2, rfl⟩

theorem activateKey_ok {cs : ChildCerts} {signing : Cert} {na : Int} {upd : CertUpd}
    (h : cs.activateKey signing na = .ok upd) :
    ∃ iss sus, reissueAll cs.issued signing na = .ok iss ∧ reissueAll cs.suspended signing na = .ok sus ∧
      upd = { issued := iss, suspended := sus } := by
  revert h
  fun_cases ChildCerts.activateKey cs signing na <;> intro h <;> cases h
  next iss h1 sus h2 => exact ⟨iss, sus, h1, h2, rfl⟩

/-- What every step of an update keeps, the update keeps. -/
theorem applyUpd_pres {P : ChildCerts → Prop} {cs : ChildCerts} (u : CertUpd) (h : P cs)
    (hi : ∀ cs, P cs → ∀ p ∈ u.issued, P (cs.addIssued p))
    (hu : ∀ cs, P cs → ∀ p ∈ u.unsuspended, P (cs.unsuspend p))
    (hr : ∀ cs, P cs → ∀ k ∈ u.removed, P (cs.removeRevoked k))
    (hs : ∀ cs, P cs → ∀ p ∈ u.suspended, P (cs.suspend p)) : P (cs.applyUpd u) :=
  List.foldlRecOn (motive := P) _ _ (List.foldlRecOn (motive := P) _ _
    (List.foldlRecOn (motive := P) _ _ (List.foldlRecOn (motive := P) _ _ h hi) hu) hr) hs

theorem CertUpd.eq_empty_of_isEmpty {u : CertUpd} (h : u.isEmpty = true) : u = {} := by
  obtain ⟨i, r, su, un⟩ := u
  simp only [CertUpd.isEmpty, Bool.and_eq_true, List.isEmpty_iff] at h
  obtain ⟨⟨⟨rfl, rfl⟩, rfl⟩, rfl⟩ := h
  rfl

theorem isEmpty_applyUpd {u : CertUpd} (h : u.isEmpty = true) (cs : ChildCerts) : cs.applyUpd u = cs := by
  rw [CertUpd.eq_empty_of_isEmpty h]; rfl

end KM.CaK
