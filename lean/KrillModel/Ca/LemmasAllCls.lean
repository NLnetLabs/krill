/-
A predicate on every class record (`AllCls`) along `Ca.apply`, along a chunk (a list of events that all name one
class) and along a loop over the classes, and in every reachable state once every stored command keeps it.  After
it what a chunk of a key event followed by payload events makes of the class record (`certsAfter`: of its
child certificates).
-/
import KrillModel.Ca.LemmasCerts
import KrillModel.Ca.LemmasProcess
namespace KM.CaK
open KM.Res KM.AMap

/-- `P` holds of every class record. -/
def AllCls (P : Rc → Prop) (s : Ca) : Prop := ∀ r rc, get s.classes r = some rc → P rc

/-- What `Ca.apply` does to the class map: it drops classes, or rewrites the record under one
name - with a new class, with the class part of the event, or without a revoked key. -/
theorem apply_classes {s s' : Ca} {e : Ev} (ha : s.apply e = some s') :
    (∃ q, s'.classes = s.classes.filter q) ∨
    ∃ r rc', s'.classes = set s.classes r rc' ∧ e.rcn? = some r ∧
      ((∃ p pr k, rc' = Rc.create p pr k) ∨
       ∃ rc, get s.classes r = some rc ∧
         (rc.applyEv e = some rc' ∨ ∃ k, rc' = { rc with certs := rc.certs.removeRevoked k })) := by
  have same : ∀ {s1 : Ca}, s1.classes = s.classes → ∃ q, s1.classes = s.classes.filter q :=
    fun h => ⟨fun _ => true, by rw [h, List.filter_eq_self.mpr fun _ _ => rfl]⟩
  have child : ∀ {s0 s1 : Ca} {ch : Handle} {f : Child → Child}, s0.withChild ch f = some s1 →
      s1.classes = s0.classes := by
    intro s0 s1 ch f h; obtain ⟨c, _, rfl⟩ := Ca.withChild_some h; rfl
  cases e with
  | rcAdded r p pr k => cases ha; exact Or.inr ⟨r, _, rfl, rfl, Or.inl ⟨p, pr, k, rfl⟩⟩
  | rcRemoved _ | parentRemoved _ => cases ha; exact Or.inl ⟨_, rfl⟩
  | childAdded _ _ | childRemoved _ | parentAdded _ | repoUpdated | other => cases ha; exact Or.inl (same rfl)
  | childCertIssued _ _ _ | childUpdatedResources _ _ | childUpdatedId _ | childMapping _ _ _ | childSuspended _
  | childUnsuspended _ => exact Or.inl (same (child ha))
  | key r ke =>
    by_cases hu : ∃ k, ke = .unexpected k
    · obtain ⟨k, rfl⟩ := hu; cases ha; exact Or.inl (same rfl)
    · obtain ⟨rc, rc', hg, hf, rfl⟩ := Ca.withClass_some (apply_key (fun k hk => hu ⟨k, hk⟩) ▸ ha)
      exact Or.inr ⟨r, rc', rfl, rfl, Or.inr ⟨rc, hg, Or.inl hf⟩⟩
  | products r u =>
    obtain ⟨rc, rc', hg, hf, rfl⟩ := Ca.withClass_some (f := fun rc => some (rc.applyProducts u)) ha
    exact Or.inr ⟨r, rc', rfl, rfl, Or.inr ⟨rc, hg, Or.inl hf⟩⟩
  | childCerts r u =>
    dsimp only [Ca.apply] at ha
    cases hw : s.withClass r (fun rc => some { rc with certs := rc.certs.applyUpd u }) with
    | none => rw [hw] at ha; cases ha
    | some s1 =>
      rw [hw] at ha; cases ha
      obtain ⟨rc, rc', hg, hf, rfl⟩ := Ca.withClass_some hw
      exact Or.inr ⟨r, rc', rfl, rfl, Or.inr ⟨rc, hg, Or.inl hf⟩⟩
  | childKeyRevoked ch r k =>
    dsimp only [Ca.apply] at ha
    cases hw : s.withClass r (fun rc => some { rc with certs := rc.certs.removeRevoked k }) with
    | none => rw [hw] at ha; cases ha
    | some s1 =>
      rw [hw] at ha
      obtain ⟨rc, rc', hg, hf, rfl⟩ := Ca.withClass_some hw
      cases hf
      exact Or.inr ⟨r, _, child ha, rfl, Or.inr ⟨rc, hg, Or.inr ⟨k, rfl⟩⟩⟩

theorem apply_nodup {s s' : Ca} {e : Ev} (hnd : (keys s.classes).Nodup) (ha : s.apply e = some s') :
    (keys s'.classes).Nodup := by
  rcases apply_classes ha with ⟨q, h⟩ | ⟨r, rc', h, _⟩
  · rw [h]; exact Assoc.nodup_map_filter hnd q
  · rw [h]; exact nodup_set hnd _ _

theorem allCls_apply {P : Rc → Prop} {s s' : Ca} {e : Ev} (hnd : (keys s.classes).Nodup)
    (hP : AllCls P s) (ha : s.apply e = some s')
    (hnew : ∀ p pr k, P (Rc.create p pr k))
    (hcls : ∀ r rc rc', e.rcn? = some r → get s.classes r = some rc → P rc → rc.applyEv e = some rc' → P rc')
    (hrev : ∀ rc k, P rc → P { rc with certs := rc.certs.removeRevoked k }) : AllCls P s' := by
  intro r2 rc2 hg2
  rcases apply_classes ha with ⟨q, h⟩ | ⟨r, rc', h, hr, hstep⟩
  · rw [h] at hg2
    exact hP r2 rc2 (get_of_mem_nodup hnd (List.mem_filter.mp (mem_of_get hg2)).1)
  · rw [h, get_set] at hg2
    split at hg2
    · cases hg2
      rcases hstep with ⟨p, pr, k, rfl⟩ | ⟨rc, hg, happ | ⟨k, rfl⟩⟩
      · exact hnew p pr k
      · exact hcls r rc _ hr hg (hP r rc hg) happ
      · exact hrev rc k (hP r rc hg)
    · exact hP r2 rc2 hg2

/-- A state predicate along an event list; the class names stay pairwise different on the way. -/
theorem applyAll_pres {Q : Ca → Prop} {evs : List Ev}
    (hstep : ∀ e ∈ evs, ∀ s s' : Ca, (keys s.classes).Nodup → Q s → s.apply e = some s' → Q s')
    {s s' : Ca} (hnd : (keys s.classes).Nodup) (hQ : Q s) (hs : s.applyAll evs = some s') : Q s' := by
  induction evs generalizing s with
  | nil => cases hs; exact hQ
  | cons e es ih =>
    obtain ⟨he, hes⟩ := List.forall_mem_cons.mp hstep
    simp only [Ca.applyAll] at hs
    cases ha : s.apply e with
    | none => rw [ha] at hs; cases hs
    | some s1 =>
      rw [ha] at hs
      exact ih hes (apply_nodup hnd ha) (he s s1 hnd hQ ha) hs

theorem allCls_reachable {P : Rc → Prop}
    (hnext : ∀ (s : Sys) (c : Cmd) (evs : List Ev) (ca' : Ca), Inv s → AllCls P s.ca →
      s.ca.process c = .ok evs → s.ca.applyAll evs = some ca' → AllCls P ca')
    {s : Sys} (h : Reachable s) : AllCls P s.ca := by
  induction h with
  | init => intro r rc hg; cases hg
  | @step s c hr ih =>
    obtain h | ⟨evs, hp, hrun⟩ := next_cases s c
    · rw [h]; exact ih
    · exact hnext s c evs _ (reachable_inv hr) ih hp (runEvs_some_iff.mp hrun).1

/-- A class predicate survives a step that changes only class `r`, if the new record under `r` has it. -/
theorem AllCls.of_onlyClass {P : Rc → Prop} {s s' : Ca} {r : Rcn} {rc' : Rc} (hP : AllCls P s)
    (hs : OnlyClass s s' r rc') (h : P rc') : AllCls P s' := by
  intro r2 rc2 hg2
  by_cases hr : r2 = r
  · subst hr; rw [hs.classAt] at hg2; cases hg2; exact h
  · rw [hs.frame r2 hr] at hg2; exact hP r2 rc2 hg2

theorem allCls_chunk (P : Rc → Prop) {s s' : Ca} {r : Rcn} {rc : Rc} {evs : List Ev}
    (hon : ∀ e ∈ evs, e.onClass r = true) (hg : get s.classes r = some rc) (hP : AllCls P s)
    (hpres : ∀ rc', rc.applyEvs evs = some rc' → P rc') (hs : s.applyAll evs = some s') : AllCls P s' := by
  obtain ⟨rc', happ, h⟩ := applyAll_of_rc hon hg hs
  exact hP.of_onlyClass h (hpres _ happ)

theorem forClasses_allCls (P Q : Rc → Prop) {f : Rcn → Rc → Except Err (List Ev)}
    (hf : ∀ r rc evs, f r rc = .ok evs → (∀ e ∈ evs, e.onClass r = true) ∧
      (P rc → ∀ rc', rc.applyEvs evs = some rc' → Q rc'))
    {evs : List Ev} {s s' : Ca} (hnd : (keys s.classes).Nodup) (hP : AllCls P s)
    (h : forClasses f s.classes = .ok evs) (hs : s.applyAll evs = some s') : AllCls Q s' := by
  obtain ⟨hon, hchunk, _⟩ := forClasses_evsOf (fun r rc a h => (hf r rc a h).1) hnd h
  intro r rc' hg'
  have h1 := (get_applyAll hon hs).2 r
  cases hg : get s.classes r with
  | none => simp only [hg] at h1; rw [h1] at hg'; cases hg'   -- no class is created by a class loop
  | some rc =>
    simp only [hg] at h1
    obtain ⟨rc1, happ, hg1⟩ := h1
    cases hg1.symm.trans hg'
    exact (hf r rc _ (hchunk (r, rc) (mem_of_get hg))).2 (hP r rc hg) _ happ

/-- The child certificates of a class after the `ChildCertificatesUpdated` events of a list. -/
def certsAfter (cs : ChildCerts) (evs : List Ev) : ChildCerts :=
  evs.foldl (fun cs e => match e with
    | .childCerts _ u => cs.applyUpd u
    | _ => cs) cs

theorem certsAfter_append (cs : ChildCerts) (a b : List Ev) :
    certsAfter cs (a ++ b) = certsAfter (certsAfter cs a) b :=
  List.foldl_append

theorem certsAfter_products {r : Rcn} {evs : List Ev} (h : ∀ e ∈ evs, ∃ u, e = Ev.products r u)
    (cs : ChildCerts) : certsAfter cs evs = cs := by
  induction evs with
  | nil => rfl
  | cons e es ih =>
    obtain ⟨u, rfl⟩ := h e (List.mem_cons_self ..)
    exact ih fun e' he' => h e' (List.mem_cons_of_mem _ he')

theorem certsAfter_certsEv (cs : ChildCerts) (r : Rcn) (u : CertUpd) :
    certsAfter cs (certsEv r u) = cs.applyUpd u := by
  unfold certsEv
  split
  · rename_i h; exact (isEmpty_applyUpd h cs).symm
  · rfl

theorem certsAfter_activatePayload (cs : ChildCerts) (r : Rcn) (rc : Rc) (upd : CertUpd) :
    certsAfter cs (activatePayload r rc upd) = cs.applyUpd upd := by
  simp only [activatePayload, certsAfter_append, certsAfter_products (renewal_products r rc _),
    certsAfter_certsEv]

/-- Payload events rewrite the certificates and the objects of the record, nothing else. -/
theorem applyEvs_payload {evs : List Ev} (hp : ∀ e ∈ evs, e.isPayload = true) (rc : Rc) :
    ∃ prods, rc.applyEvs evs = some { rc with certs := certsAfter rc.certs evs, products := prods } := by
  induction evs generalizing rc with
  | nil => exact ⟨rc.products, rfl⟩
  | cons e es ih =>
    have hrest := fun e' he' => hp e' (List.mem_cons_of_mem _ he')
    rcases isPayload_cases (hp e (List.mem_cons_self ..)) with ⟨r, u, rfl⟩ | ⟨r, u, rfl⟩
    · exact ih hrest (rc.applyProducts u)
    · exact ih hrest { rc with certs := rc.certs.applyUpd u }

theorem applyEvs_key_payload {rc : Rc} (r : Rcn) {ke : KeyEv} {ks' : KeyState} {pay : List Ev}
    (hk : rc.keys.apply ke = some ks') (hp : ∀ e ∈ pay, e.isPayload = true) :
    ∃ prods, rc.applyEvs (.key r ke :: pay) =
      some { rc with keys := ks', certs := certsAfter rc.certs pay, products := prods } := by
  simp only [Rc.applyEvs, Rc.applyEv, hk, Option.map_some, Option.bind_some]
  exact applyEvs_payload hp { rc with keys := ks' }

theorem ActivateChunk.applyEvs {r : Rcn} {rc : Rc} {na : Int} {n c : CertKey} {upd : CertUpd} {evs : List Ev}
    (h : ActivateChunk r rc na n c upd evs) : ∃ prods, rc.applyEvs evs =
      some { rc with keys := .rollOld n c, certs := rc.certs.applyUpd upd, products := prods } := by
  rw [h.events, ← certsAfter_activatePayload rc.certs r rc upd]
  exact applyEvs_key_payload r (by rw [h.keys]; rfl) fun e he => (activatePayload_payload r rc upd e he).1

end KM.CaK
