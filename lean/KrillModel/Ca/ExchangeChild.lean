/-
The child side of the exchange, one command on one aggregate: `UpdateRcvdCert` for a class in any key state
(`recv_gen`), `DropResourceClass`, `KeyRollFinish`, `KeyRollActivate` (`activate_spec`) - for a CA whose child
certificates carry no request limit (`NoLimits`) and, for the activation, are not suspended (`NoSusp`): the two
hypotheses the exchange theorems carry.
-/
import KrillModel.Ca.Exchange
import KrillModel.Ca.LemmasProgress
import KrillModel.Ca.LemmasKeySync
namespace KM.CaK
open KM.Res KM.AMap

/-- No child certificate of the class carries a request limit. -/
def ChildCerts.noLimits (cs : ChildCerts) : Prop := ∀ e ∈ cs.issued ++ cs.suspended, e.2.limit = none

/-- No child certificate of the CA carries a request limit (krill as a child never sends one). -/
def NoLimits (s : Ca) : Prop := ∀ r rc, get s.classes r = some rc → rc.certs.noLimits

theorem noLimits_iff {cs : ChildCerts} :
    cs.noLimits ↔ (∀ e ∈ cs.issued, e.2.limit = none) ∧ ∀ e ∈ cs.suspended, e.2.limit = none :=
  List.forall_mem_append

theorem noLimits_addIssued {cs : ChildCerts} (h : cs.noLimits) {p : KeyId × ChildCert} (hp : p.2.limit = none) :
    (cs.addIssued p).noLimits :=
  noLimits_iff.mpr ⟨forall_mem_set (noLimits_iff.mp h).1 hp, forall_mem_del (noLimits_iff.mp h).2 _⟩

theorem noLimits_suspend {cs : ChildCerts} (h : cs.noLimits) {p : KeyId × ChildCert} (hp : p.2.limit = none) :
    (cs.suspend p).noLimits :=
  noLimits_iff.mpr ⟨forall_mem_del (noLimits_iff.mp h).1 _, forall_mem_set (noLimits_iff.mp h).2 hp⟩

theorem noLimits_removeRevoked {cs : ChildCerts} (h : cs.noLimits) (k : KeyId) : (cs.removeRevoked k).noLimits :=
  noLimits_iff.mpr ⟨forall_mem_del (noLimits_iff.mp h).1 _, forall_mem_del (noLimits_iff.mp h).2 _⟩

theorem noLimits_applyUpd {cs : ChildCerts} (h : cs.noLimits) {u : CertUpd}
    (hi : ∀ e ∈ u.issued, e.2.limit = none) (hs : ∀ e ∈ u.suspended, e.2.limit = none)
    (hu : u.unsuspended = []) : (cs.applyUpd u).noLimits :=
  applyUpd_pres u h (fun _ h p hp => noLimits_addIssued h (hi p hp)) (fun _ _ _ hp => by rw [hu] at hp; cases hp)
    (fun _ h k _ => noLimits_removeRevoked h k) fun _ h p hp => noLimits_suspend h (hs p hp)

theorem reissue_reduced {cc : ChildCert} {rcvd : Cert} {r : ResSet} (hl : cc.limit = none)
    (hred : cc.reduced rcvd.res = some r) (na : Int) :
    reissue cc (some r) rcvd na = .ok { res := r, limit := none, na := na } := by
  unfold ChildCert.reduced at hred
  split at hred
  · cases hred
  · cases hred
    simp only [reissue, Option.getD_some, makeIssued, hl, applyLimit, inter_subset_left, if_true]

theorem shrinkList_noLimit (l : List (KeyId × ChildCert)) (rcvd : Cert) (na : Int)
    (h : ∀ e ∈ l, e.2.limit = none) :
    ∃ iss rem, shrinkList l rcvd na = .ok (iss, rem) ∧ ∀ e ∈ iss, e.2.limit = none := by
  induction l with
  | nil => exact ⟨[], [], rfl, fun _ he => nomatch he⟩
  | cons p t ih =>
    obtain ⟨k, cc⟩ := p
    obtain ⟨iss, rem, ht, hiss⟩ := ih fun e he => h e (List.mem_cons_of_mem _ he)
    rewrite [shrinkList]
    cases hred : cc.reduced rcvd.res with
    | none => exact ⟨iss, rem, ht, hiss⟩
    | some r =>
      by_cases he : isEmpty r = true
      · exact ⟨iss, k :: rem, by simp only [he, if_true, ht], hiss⟩
      · exact ⟨(k, ⟨r, none, na⟩) :: iss, rem,
          by simp only [he, Bool.false_eq_true, if_false, reissue_reduced (h (k, cc) (List.mem_cons_self ..)) hred, ht],
          List.forall_mem_cons.mpr ⟨rfl, hiss⟩⟩

theorem applyUpd_suspended_nil {cs : ChildCerts} {u : CertUpd} (h : cs.suspended = [])
    (hs : u.suspended = []) (hu : u.unsuspended = []) : (cs.applyUpd u).suspended = [] :=
  applyUpd_pres (P := fun c => c.suspended = []) u h
    (fun cs h _ _ => by simp only [ChildCerts.addIssued, h]; rfl) (fun _ _ _ hp => by rw [hu] at hp; cases hp)
    (fun cs h _ _ => by simp only [ChildCerts.removeRevoked, h]; rfl) fun _ _ _ hp => by rw [hs] at hp; cases hp

/-- Without request limits `shrink_overclaiming` succeeds, and its update brings in neither a limit nor a
suspended certificate. -/
theorem shrinkOverclaiming_noLimit {cs : ChildCerts} (h : cs.noLimits) (rcvd : Cert) (na : Int) :
    ∃ upd, cs.shrinkOverclaiming rcvd na = .ok upd ∧ (cs.applyUpd upd).noLimits ∧
      (cs.suspended = [] → (cs.applyUpd upd).suspended = []) := by
  obtain ⟨iss, rem1, h1, hi⟩ := shrinkList_noLimit cs.issued rcvd na (fun e he => h e (List.mem_append_left _ he))
  obtain ⟨sus, rem2, h2, hs⟩ := shrinkList_noLimit cs.suspended rcvd na (fun e he => h e (List.mem_append_right _ he))
  refine ⟨{ issued := iss, removed := rem1 ++ rem2, suspended := sus }, ?_, noLimits_applyUpd h hi hs rfl, ?_⟩
  · simp only [ChildCerts.shrinkOverclaiming, h1, h2]
  · intro hsus
    rw [hsus] at h2
    simp only [shrinkList, Except.ok.injEq, Prod.mk.injEq] at h2
    exact applyUpd_suspended_nil hsus h2.1.symm rfl

/-- The events of `process_rcvd_cert_current` on the class record: the key event, and the child certificates
shrunk where they overclaim. -/
theorem rcvdCertCurrent_events {rc : Rc} (r : Rcn) (c0 : CertKey) {ki : KeyId} {cert : Cert} {ks' : KeyState}
    (hnl : rc.certs.noLimits) (na : Int) (happ : rc.keys.applyReceived ki cert = some ks') :
    ∃ evs certs', rc.rcvdCertCurrent r c0 ki cert na [] = .ok evs ∧ (∀ e ∈ evs, e.onClass r = true) ∧
      rc.applyEvs evs = some { rc with keys := ks', certs := certs' } ∧
      certs'.noLimits ∧ (rc.certs.suspended = [] → certs'.suspended = []) := by
  obtain ⟨upd, hupd, hnl', hsus'⟩ := shrinkOverclaiming_noLimit hnl cert na
  have hkey : rc.applyEv (.key r (.received ki cert)) = some { rc with keys := ks' } := by
    simp only [Rc.applyEv, KeyState.apply, happ, Option.map_some]
  by_cases hsame : seteq cert.res c0.cert.res = true ∨ upd.isEmpty = true
  · refine ⟨[.key r (.received ki cert)], rc.certs, ?_, ?_, ?_, hnl, id⟩
    · unfold Rc.rcvdCertCurrent
      rcases hsame with h | h
      · rw [if_pos h]
      · simp only [hupd, h, if_true, List.filter_nil, List.map_nil, List.append_nil, ite_self]
    · intro e he; rw [List.mem_singleton.mp he]; simp only [Ev.onClass, decide_true]
    · simp only [Rc.applyEvs, hkey, Option.bind_some]
  · rw [not_or] at hsame
    refine ⟨[.key r (.received ki cert), .childCerts r upd], rc.certs.applyUpd upd, ?_, ?_, ?_, hnl', hsus'⟩
    · simp only [Rc.rcvdCertCurrent, hupd, hsame.1, hsame.2, if_false, List.filter_nil, List.map_nil, List.append_nil, Bool.false_eq_true]
    · intro e he
      simp only [List.mem_cons, List.not_mem_nil, or_false] at he
      rcases he with rfl | rfl <;> simp only [Ev.onClass, decide_true]
    · rw [Rc.applyEvs, hkey]; rfl

/-- The key event `process_received_cert` stores for a certificate it routes as `rt`. -/
def Route.keyEv (rt : Route) (ki : KeyId) (cert : Cert) : KeyEv :=
  match rt with
  | .toActive => .pendingToActive (.create ki cert)
  | .toNew => .pendingToNew (.create ki cert)
  | _ => .received ki cert

/-- Applying that event never panics; the result is `KeyState.receive`. -/
theorem apply_keyEv_of_route {ks : KeyState} {ki : KeyId} {rt : Route} (h : ks.route ki = .ok rt) (cert : Cert) :
    ks.apply (rt.keyEv ki cert) = some (ks.receive ki cert) := by
  unfold KeyState.receive
  revert h
  -- through the tests of `route`: an accepted route names a key the state has, so `apply` finds it
  fun_cases KeyState.route ks ki <;> intro h <;> cases h
  all_goals first
    | rfl
    | -- with two certified keys `applyReceived` compares the key identifier once more
      (simp only [KeyState.apply, Route.keyEv, KeyState.applyReceived]; split <;> rfl)

/-- `UpdateRcvdCert` for a key the class routes (`process_received_cert`), in a reachable CA, the class
without request limits: the command is stored and the key state is `KeyState.receive`; nothing else of the
class map changes. -/
theorem recv_gen {s : Sys} (hr : Reachable s) {r : Rcn} {rc : Rc} {ki : KeyId} {rt : Route}
    (hg : get s.ca.classes r = some rc) (hnl : rc.certs.noLimits) (hroute : rc.keys.route ki = .ok rt)
    (cert : Cert) (na : Int) :
    ∃ s' certs', s.receiveOrDrop r ki cert na = s' ∧ Reachable s' ∧
      OnlyClass s.ca s'.ca r { rc with keys := rc.keys.receive ki cert, certs := certs' } ∧
      certs'.noLimits ∧ (rc.certs.suspended = [] → certs'.suspended = []) := by
  have happ := apply_keyEv_of_route hroute cert
  have hev : ∃ evs certs', s.ca.process (.updateRcvdCert r ki cert na []) = .ok evs ∧
      (∀ e ∈ evs, e.onClass r = true) ∧
      rc.applyEvs evs = some { rc with keys := rc.keys.receive ki cert, certs := certs' } ∧
      certs'.noLimits ∧ (rc.certs.suspended = [] → certs'.suspended = []) := by
    cases hrt : rt with
    | current c0 =>
      rw [hrt] at hroute happ
      obtain ⟨evs, certs', h1, h2⟩ := rcvdCertCurrent_events r c0 hnl na happ
      exact ⟨evs, certs', by simp only [Ca.process, hg, hroute, h1], h2⟩
    | _ =>
      -- the other routes store the one key event
      refine ⟨[.key r (rt.keyEv ki cert)], rc.certs, ?_, ?_, ?_, hnl, id⟩
      · simp only [Ca.process, hg, hroute, hrt, Route.keyEv, List.filter_nil, List.map_nil]
      · intro e he; rw [List.mem_singleton.mp he, hrt]; simp [Ev.onClass, Route.keyEv]
      · simp only [Rc.applyEvs, Rc.applyEv, happ, Option.map_some, Option.bind_some]
  obtain ⟨evs, certs', hp, hon, happl, h4, h5⟩ := hev
  obtain ⟨hex, h2⟩ := class_cmd hr hg (c := .updateRcvdCert r ki cert na []) hp hon happl
  exact ⟨_, certs', by unfold Sys.receiveOrDrop; rw [hex], Reachable.step _ hr, h2, h4, h5⟩

/-- The CA has no suspended child certificate (krill suspends a child on the operator's request, or on
its own when `suspend_child_after_inactive_hours` is configured). -/
def NoSusp (s : Ca) : Prop := ∀ r rc, get s.classes r = some rc → rc.certs.suspended = []

theorem del_nil' {K V : Type} [DecidableEq K] (k : K) : del ([] : AMap K V) k = [] := rfl

theorem finish_spec {s : Sys} (hr : Reachable s) {r : Rcn} {rc : Rc} {c o : CertKey}
    (hg : get s.ca.classes r = some rc) (hk : rc.keys = .rollOld c o) :
    OnlyClass s.ca (s.next (.keyrollFinish r)).ca r { rc with keys := .active c } :=
  (class_cmd hr hg (process_keyrollFinish.mpr ⟨rc, c, o, hg, hk, rfl⟩)
    (List.forall_mem_singleton.mpr (decide_eq_true rfl))
    (by simp [Rc.applyEvs, Rc.applyEv, hk, KeyState.apply, KeyState.applyFinished])).2

theorem drop_gen {s : Sys} (hr : Reachable s) (hnl : NoLimits s.ca) (hns : NoSusp s.ca) {r : Rcn} {rc : Rc}
    (hg : get s.ca.classes r = some rc) :
    ∃ s', s.next (.dropClass r) = s' ∧ Reachable s' ∧ NoLimits s'.ca ∧ NoSusp s'.ca ∧
      s'.ca.hasRepo = s.ca.hasRepo ∧ (∀ r2, r2 ≠ r → get s'.ca.classes r2 = get s.ca.classes r2) ∧
      get s'.ca.classes r = none := by
  obtain ⟨_, happ⟩ := next_of_process hr (c := .dropClass r) (by rw [Ca.process, hg])
  have hca : (s.next (.dropClass r)).ca = { s.ca with classes := del s.ca.classes r } := (Option.some.inj happ).symm
  -- a class of the state after the command is a class of `s`
  have hsub : ∀ r2 rc2, get (del s.ca.classes r) r2 = some rc2 → get s.ca.classes r2 = some rc2 := by
    intro r2 rc2 hg2
    rewrite [get_del] at hg2
    split at hg2
    · cases hg2
    · exact hg2
  refine ⟨_, rfl, Reachable.step _ hr, ?_⟩
  rewrite [hca]
  exact ⟨fun r2 rc2 hg2 => hnl r2 rc2 (hsub r2 rc2 hg2), fun r2 rc2 hg2 => hns r2 rc2 (hsub r2 rc2 hg2), rfl,
    fun r2 hr2 => get_del_ne _ (fun h => hr2 h.symm), get_del_self _ _⟩

theorem reissueAll_noLimit {l : List (KeyId × ChildCert)} {signing : Cert} {na : Int}
    {out : List (KeyId × ChildCert)} (h : reissueAll l signing na = .ok out) (hl : ∀ e ∈ l, e.2.limit = none) :
    ∀ e ∈ out, e.2.limit = none := fun e he => by
  obtain ⟨p, hp, hr⟩ := (reissueAll_mem h).2 e he
  obtain ⟨k, c⟩ := e
  -- a re-issued certificate has the limit of the old one
  simp only [reissue, makeIssued, hl p hp, applyLimit, Option.getD_none] at hr
  split at hr
  · cases hr; rfl
  · cases hr

/-- What `append_keyroll_activate` does to one class without request limits and suspended
certificates: the key state makes `KeyState.activateStep`. -/
theorem activateClass_effect (na : Int) (r : Rcn) (rc : Rc) (evs : List Ev)
    (h : activateClass r rc na = .ok evs) (hnl : rc.certs.noLimits) (hns : rc.certs.suspended = []) :
    ∀ rc', rc.applyEvs evs = some rc' → ∃ certs' prods',
      rc' = { rc with keys := rc.keys.activateStep, certs := certs', products := prods' } ∧
      certs'.noLimits ∧ certs'.suspended = [] := by
  intro rc' happ
  cases hn : rc.keys.newKey with
  | none =>
    -- no new key: no event
    cases activateClass_noNew hn h
    cases happ
    have hk : rc.keys.activateStep = rc.keys := by
      rcases activateStep_cases rc.keys with h1 | ⟨n, c, h1, _⟩
      · exact h1
      · rw [h1] at hn; cases hn
    exact ⟨rc.certs, rc.products, by rw [hk], hnl, hns⟩
  | some n =>
    obtain ⟨c, hk⟩ := newKey_some hn
    obtain ⟨upd, ha⟩ := activateClass_rollNew hk h
    obtain ⟨prods, h1⟩ := ha.applyEvs
    rw [h1] at happ
    -- the update carries no limits and suspends nothing
    obtain ⟨iss, sus, hr1, hr2, rfl⟩ := activateKey_ok ha.activateKey
    rw [hns] at hr2
    cases hr2
    refine ⟨rc.certs.applyUpd { issued := iss, suspended := [] }, prods, ?_,
      noLimits_applyUpd hnl (reissueAll_noLimit hr1 fun e he => hnl e (List.mem_append_left _ he))
        (fun _ he => nomatch he) rfl,
      applyUpd_suspended_nil hns rfl rfl⟩
    rw [← Option.some.inj happ, hk, activateStep_rollNew, ha.newReq, ha.curReq]
    rfl

/-- `KeyRollActivate` in a reachable CA without request limits and suspended certificates in
which every class is `activatable`: the command is stored and every class makes
`KeyState.activateStep`. -/
theorem activate_spec {s : Sys} (hr : Reachable s) (hnl : NoLimits s.ca) (hns : NoSusp s.ca) (na : Int)
    (hall : ∀ p ∈ s.ca.classes, p.2.activatable) :
    ∃ s', s.next (.keyrollActivate na) = s' ∧ Reachable s' ∧ NoLimits s'.ca ∧ NoSusp s'.ca ∧
      s'.ca.hasRepo = s.ca.hasRepo ∧
      (∀ r, get s.ca.classes r = none → get s'.ca.classes r = none) ∧
      (∀ r rc, get s.ca.classes r = some rc → ∃ certs' prods',
        get s'.ca.classes r = some { rc with keys := rc.keys.activateStep, certs := certs', products := prods' }) := by
  obtain ⟨evs, hevs⟩ := forClasses_ok_of_all (f := fun r rc => activateClass r rc na)
    (fun p hp => activateClass_ok na (hall p hp))
  obtain ⟨_, hrepo, hnone, hpost⟩ := loop_cmd hr
    (fun r rc a ha => (activateClass_ready na r rc a ha).1) ((process_keyrollActivate _ na).trans hevs) hevs
  -- only classes without limits and suspended certificates are met
  have hsome : ∀ r rc, get s.ca.classes r = some rc → ∃ certs' prods',
      get (s.next (.keyrollActivate na)).ca.classes r =
        some { rc with keys := rc.keys.activateStep, certs := certs', products := prods' } ∧
      certs'.noLimits ∧ certs'.suspended = [] := by
    intro r rc hg
    obtain ⟨a, rc', ha, happ', g1⟩ := hpost r rc hg
    obtain ⟨c, p, rfl, g3⟩ := activateClass_effect na r rc a ha (hnl r rc hg) (hns r rc hg) rc' happ'
    exact ⟨c, p, g1, g3⟩
  have hcerts : ∀ r rc', get (s.next (.keyrollActivate na)).ca.classes r = some rc' →
      rc'.certs.noLimits ∧ rc'.certs.suspended = [] := by
    intro r rc' hg'
    cases hg : get s.ca.classes r with
    | none => rw [hnone r hg] at hg'; cases hg'
    | some rc =>
      obtain ⟨c, p, g1, g5⟩ := hsome r rc hg
      rw [g1] at hg'; cases hg'; exact g5
  refine ⟨_, rfl, .step _ hr, fun r rc' hg' => (hcerts r rc' hg').1, fun r rc' hg' => (hcerts r rc' hg').2, hrepo,
    hnone, ?_⟩
  intro r rc hg
  obtain ⟨c, p, g1, _⟩ := hsome r rc hg
  exact ⟨c, p, g1⟩

end KM.CaK
