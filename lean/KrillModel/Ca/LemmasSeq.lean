/-
Event sequences.  `Ready` = what has to hold of the aggregate for one event to be applied without
panic and accepted by the pre-save listener; `ReadySeq` = the same along a list; running a ready
sequence from a state with the invariant succeeds on both sides and keeps the invariant
(`readySeq_run`; one event: `ready_step`).  Used for C04 and C02.
-/
import KrillModel.Ca.LemmasInv
namespace KM.CaK
open KM.Res KM.AMap

/-- One event on both sides (`none`: the aggregate panics or the listener refuses). -/
def Sys.stepEv (s : Sys) (e : Ev) : Option Sys :=
  match s.ca.apply e with
  | none => none
  | some ca' =>
    match s.objs.step e with
    | .error _ => none
    | .ok o' => some ⟨ca', o'⟩

def Sys.runEvs (s : Sys) : List Ev → Option Sys
  | [] => some s
  | e :: es => (s.stepEv e).bind (·.runEvs es)

theorem runEvs_some_iff {s : Sys} {evs : List Ev} {ca' : Ca} {o' : Objs} :
    s.runEvs evs = some ⟨ca', o'⟩ ↔ s.ca.applyAll evs = some ca' ∧ s.objs.stepAll evs = .ok o' := by
  induction evs generalizing s with
  | nil => exact ⟨fun h => by cases h; exact ⟨rfl, rfl⟩, fun ⟨h1, h2⟩ => by cases h1; cases h2; rfl⟩
  | cons e es ih =>
    simp only [Sys.runEvs, Sys.stepEv, Ca.applyAll, Objs.stepAll]
    cases s.ca.apply e with
    | none => simp
    | some ca1 =>
      cases s.objs.step e with
      | error err => simp
      | ok o1 => exact ih (s := ⟨ca1, o1⟩)

theorem runEvs_none_iff {s : Sys} {evs : List Ev} :
    s.runEvs evs = none ↔ s.ca.applyAll evs = none ∨ ∃ e, s.objs.stepAll evs = .error e := by
  cases hr : s.runEvs evs with
  | some s' =>
    obtain ⟨ha, ho⟩ := (runEvs_some_iff (ca' := s'.ca) (o' := s'.objs)).mp hr
    simp [ha, ho]
  | none =>
    refine iff_of_true rfl ?_
    cases ha : s.ca.applyAll evs with
    | none => exact .inl rfl
    | some ca' =>
      cases ho : s.objs.stepAll evs with
      | error e => exact .inr ⟨e, rfl⟩
      | ok o' => rw [runEvs_some_iff.mpr ⟨ha, ho⟩] at hr; cases hr

theorem applyAll_append {s : Ca} {a b : List Ev} :
    s.applyAll (a ++ b) = (s.applyAll a).bind (·.applyAll b) := by
  induction a generalizing s with
  | nil => rfl
  | cons e es ih =>
    simp only [List.cons_append, Ca.applyAll]
    cases s.apply e with
    | none => rfl
    | some s' => simp only [Option.bind_some]; exact ih

/-- Key identifiers that hold a certificate. -/
def KeyState.certified : KeyState → List KeyId
  | .pending _ => []
  | .active c => [c.id]
  | .rollPending _ c => [c.id]
  | .rollNew n c => [n.id, c.id]
  | .rollOld c o => [c.id, o.id]

/-- What `process` guarantees about an event beyond its applicability (used for the invariant). -/
def Good (s : Ca) : Ev → Prop
  | .rcAdded r .. => r = s.nextClass
  | .parentRemoved p => ∀ r rc, get s.classes r = some rc → rc.parent ≠ p
  | .key r (.pendingAdded k) => ∀ rc c, get s.classes r = some rc → rc.keys = .active c → k ≠ c.id
  | .key r (.pendingToNew n) =>
    ∀ rc p c, get s.classes r = some rc → rc.keys = .rollPending p c → n.id = p.id
  | .childCertIssued _ r _ => ∃ rc, get s.classes r = some rc ∧ rc.keys.current.isSome = true
  | _ => True

/-- What the listener needs beyond what the mirror gives. -/
def ObjReady (s : Ca) : Ev → Prop
  | .products r _ => ∃ rc, get s.classes r = some rc ∧ rc.keys.current.isSome = true
  | .childCerts r _ => ∃ rc, get s.classes r = some rc ∧ rc.keys.current.isSome = true
  | .key r (.received ki _) => ∃ rc, get s.classes r = some rc ∧ ki ∈ rc.keys.certified
  | _ => True

/-- An event the aggregate can apply and the listener accepts, with what `process` guarantees. -/
structure Ready (s : Ca) (e : Ev) : Prop where
  good : Good s e
  app : (s.apply e).isSome = true
  obj : ObjReady s e

def ReadySeq (s : Ca) : List Ev → Prop
  | [] => True
  | e :: es => Ready s e ∧ ∀ s', s.apply e = some s' → ReadySeq s' es

theorem readySeq_append {s : Ca} {a b : List Ev} (ha : ReadySeq s a)
    (hb : ∀ s', s.applyAll a = some s' → ReadySeq s' b) : ReadySeq s (a ++ b) := by
  induction a generalizing s with
  | nil => exact hb s rfl
  | cons e es ih =>
    refine ⟨ha.1, fun s' hs' => ih (ha.2 s' hs') fun s'' hs'' => hb s'' ?_⟩
    simp only [Ca.applyAll, hs', Option.bind_some, hs'']

/-- How a loop's events are shown ready: each is ready in every state with `P`, and keeps `P`. -/
theorem readySeq_of_inv {P : Ca → Prop} {evs : List Ev}
    (hstep : ∀ e ∈ evs, ∀ s, P s → Ready s e ∧ ∀ s', s.apply e = some s' → P s') {s : Ca} (h : P s) :
    ReadySeq s evs ∧ ∀ s', s.applyAll evs = some s' → P s' := by
  induction evs generalizing s with
  | nil => exact ⟨trivial, fun s' hs' => by cases hs'; exact h⟩
  | cons e es ih =>
    obtain ⟨hr, hP⟩ := hstep e (List.mem_cons_self ..) s h
    have ih' := fun s1 h1 => ih (fun e' he' => hstep e' (List.mem_cons_of_mem _ he')) (hP s1 h1)
    refine ⟨⟨hr, fun s1 h1 => (ih' s1 h1).1⟩, fun s' hs' => ?_⟩
    obtain ⟨s1, ha, hs1⟩ := Option.bind_eq_some_iff.mp hs'
    exact (ih' s1 ha).2 s' hs1

theorem clsInv_withClass {o : Objs} {r : Rcn} {ok ok' : ObjKeys} {f : ObjKeys → Except ObjErr ObjKeys}
    {rc' : Rc} (hy : get o r = some ok) (hf : f ok = .ok ok') (hm : ksMirror rc'.keys (some ok') = true)
    (hd : rc'.keys.distinct = true) (hs : ok'.sideSetsEmpty = true) :
    ∃ o', o.withClass r f = .ok o' ∧ (∀ r', r' ≠ r → get o' r' = get o r') ∧ ClsInv (some rc') (get o' r) :=
  ⟨set o r ok', by simp only [Objs.withClass, hy, hf], fun _ hr => get_set_ne _ _ (Ne.symm hr), by
    rw [get_set_self]; exact ⟨hm, hd, fun _ h => by cases h; exact hs⟩⟩

theorem payload_objStep {o : Objs} {r : Rcn} {rc rc' : Rc} (h : ClsInv (some rc) (get o r))
    (hc : rc.keys.current.isSome = true) (hk : rc'.keys = rc.keys) {f : ObjSet → ObjSet}
    (hf : ∀ x, (f x).key = x.key ∧ (f x).cert = x.cert) :
    ∃ o', (o.withClass r fun ks => .ok (ks.mapCurrent f)) = .ok o' ∧
      (∀ r', r' ≠ r → get o' r' = get o r') ∧ ClsInv (some rc') (get o' r) := by
  obtain ⟨hm, hd, hs⟩ := h
  obtain ⟨ok, hy⟩ := ksMirror_current hm hc
  rw [hy] at hm
  exact clsInv_withClass hy rfl (hk ▸ ksMirror_mapCurrent hf hm) (hk ▸ hd) (sideSetsEmpty_mapCurrent (hs ok hy))

/-- The listener finds the key whose certificate the aggregate updates.  `update_received_cert` tries
the staging / old set first and `apply_received_cert` the new / current key: they agree as the keys differ. -/
theorem received_mirror {ks ks' : KeyState} {y : Option ObjKeys} {ki : KeyId} {cert : Cert}
    (hm : ksMirror ks y = true) (hd : ks.distinct = true) (hs : ∀ ok, y = some ok → ok.sideSetsEmpty = true)
    (hmem : ki ∈ ks.certified) (hk : ks.applyReceived ki cert = some ks') :
    ∃ ok ok', y = some ok ∧ ok.updateReceivedCert ki cert = .ok ok' ∧ ksMirror ks' (some ok') = true ∧
      ks'.distinct = true ∧ ok'.sideSetsEmpty = true := by
  cases ks with
  | pending p => cases hmem
  | active c =>
    cases hk
    obtain ⟨cs, hy, h1, -⟩ := ksMirror_active.mp hm
    cases List.mem_singleton.mp hmem
    exact ⟨_, .current { cs with cert := cert }, hy,
      by simp only [ObjKeys.updateReceivedCert, ObjSet.updateSigningCert, if_pos h1],
      ksMirror_active.mpr ⟨_, rfl, h1, rfl⟩, rfl, rfl⟩
  | rollPending p c =>
    cases hk
    obtain ⟨cs, hy, h1, -⟩ := ksMirror_rollPending.mp hm
    cases List.mem_singleton.mp hmem
    exact ⟨_, .current { cs with cert := cert }, hy,
      by simp only [ObjKeys.updateReceivedCert, ObjSet.updateSigningCert, if_pos h1],
      ksMirror_rollPending.mpr ⟨_, rfl, h1, rfl⟩, hd, rfl⟩
  | rollNew n c =>
    obtain ⟨ss, cs, hy, h1, h2, h3, h4⟩ := ksMirror_rollNew.mp hm
    have hs' := hs _ hy
    have hne : n.id ≠ c.id := of_decide_eq_true hd
    simp only [KeyState.applyReceived] at hk
    split at hk <;> cases hk
    · next hn =>
      cases hn
      exact ⟨_, .staging { ss with cert := cert } cs, hy,
        by simp only [ObjKeys.updateReceivedCert, ObjSet.updateSigningCert, if_pos h1],
        ksMirror_rollNew.mpr ⟨_, _, rfl, h1, rfl, h3, h4⟩, hd, hs'⟩
    · next hn =>
      cases List.mem_singleton.mp ((List.mem_cons.mp hmem).resolve_left (Ne.symm hn))
      exact ⟨_, .staging ss { cs with cert := cert }, hy,
        by simp only [ObjKeys.updateReceivedCert, ObjSet.updateSigningCert, if_neg (h1 ▸ hne), if_pos h3],
        ksMirror_rollNew.mpr ⟨_, _, rfl, h1, h2, h3, rfl⟩, hd, hs'⟩
  | rollOld c od =>
    obtain ⟨cs, os, hy, h1, h2, h3, h4⟩ := ksMirror_rollOld.mp hm
    have hs' := hs _ hy
    have hne : c.id ≠ od.id := of_decide_eq_true hd
    simp only [KeyState.applyReceived] at hk
    split at hk <;> cases hk
    · next hn =>
      cases hn
      exact ⟨_, .old { cs with cert := cert } os, hy,
        by simp only [ObjKeys.updateReceivedCert, ObjSet.updateSigningCert, if_neg (h3 ▸ hne.symm), if_pos h1],
        ksMirror_rollOld.mpr ⟨_, _, rfl, h1, rfl, h3, h4⟩, hd, hs'⟩
    · next hn =>
      cases List.mem_singleton.mp ((List.mem_cons.mp hmem).resolve_left (Ne.symm hn))
      exact ⟨_, .old cs { os with cert := cert }, hy,
        by simp only [ObjKeys.updateReceivedCert, ObjSet.updateSigningCert, if_pos h3],
        ksMirror_rollOld.mpr ⟨_, _, rfl, h1, h2, h3, rfl⟩, hd, hs'⟩

/-- Each arm of `KeyState.apply` fixes the key state it starts from, the mirror then
gives the object class, and the listener's function is computed on it. -/
theorem keyEv_objStep {ca : Ca} {o : Objs} {r : Rcn} {rc : Rc} {ke : KeyEv} {ks' : KeyState}
    (hg : get ca.classes r = some rc) (h : ClsInv (some rc) (get o r)) (hk : rc.keys.apply ke = some ks')
    (hgood : Good ca (.key r ke)) (hobj : ObjReady ca (.key r ke)) :
    ∃ o', o.step (.key r ke) = .ok o' ∧ (∀ r', r' ≠ r → get o' r' = get o r') ∧
      ClsInv (some { rc with keys := ks' }) (get o' r) := by
  obtain ⟨hm, hd, hs⟩ := h
  generalize hks : rc.keys = ks at hm hd hk
  cases ke with
  | requested ki =>
    cases hk
    exact ⟨o, rfl, fun _ _ => rfl, (ksMirror_applyRequested ..).trans hm, (distinct_applyRequested ..).trans hd, hs⟩
  | unexpected ki => cases hk; exact ⟨o, rfl, fun _ _ => rfl, hm, hd, hs⟩
  | pendingAdded k =>
    cases ks <;> cases hk
    exact ⟨o, rfl, fun _ _ => rfl, ksMirror_rollPending.mpr (ksMirror_active.mp hm),
      decide_eq_true (hgood rc _ hg hks), hs⟩
  | pendingToActive k =>
    cases ks <;> cases hk
    have hy := ksMirror_pending.mp hm
    refine ⟨set o r (.current (ObjSet.create k)), by simp only [Objs.step, hy]; rfl,
      fun _ hr => get_set_ne _ _ (Ne.symm hr), ?_⟩
    rw [get_set_self]
    exact ⟨ksMirror_active.mpr ⟨_, rfl, rfl, rfl⟩, rfl, fun _ h => by cases h; rfl⟩
  | pendingToNew n =>
    cases ks <;> cases hk
    obtain ⟨cs, hy, h1, h2⟩ := ksMirror_rollPending.mp hm
    exact clsInv_withClass (f := (·.keyrollStage n)) hy rfl (ksMirror_rollNew.mpr ⟨_, _, rfl, rfl, rfl, h1, h2⟩)
      (decide_eq_true (hgood rc _ _ hg hks ▸ of_decide_eq_true hd)) rfl
  | activated =>
    cases ks <;> cases hk
    obtain ⟨ss, cs, hy, h1, h2, h3, h4⟩ := ksMirror_rollNew.mp hm
    exact clsInv_withClass (f := (·.keyrollActivate)) hy rfl (ksMirror_rollOld.mpr ⟨_, _, rfl, h1, h2, h3, h4⟩) hd rfl
  | finished =>
    cases ks <;> cases hk
    obtain ⟨cs, os, hy, h1, h2, _⟩ := ksMirror_rollOld.mp hm
    exact clsInv_withClass (f := (·.keyrollFinish)) hy rfl (ksMirror_active.mpr ⟨_, rfl, h1, h2⟩) rfl rfl
  | received ki cert =>
    obtain ⟨_, hg', hmem⟩ := hobj
    cases hg.symm.trans hg'
    obtain ⟨ok, ok', hy, hf, hm', hd', hs'⟩ := received_mirror hm hd hs (hks ▸ hmem) hk
    exact clsInv_withClass (f := (·.updateReceivedCert ki cert)) hy hf hm' hd' hs'

theorem ready_step {ca ca' : Ca} {o : Objs} {e : Ev} (hinv : Inv ⟨ca, o⟩) (hr : Ready ca e)
    (ha : ca.apply e = some ca') : ∃ o', o.step e = .ok o' ∧ Inv ⟨ca', o'⟩ := by
  have hcore := hinv.core
  have hu : UsedInv ca := hinv.used
  have hnd : (keys ca.classes).Nodup := hcore.nodup
  have hfr : ∀ r, (get ca.classes r).isSome = true → r < ca.nextClass := hcore.fresh
  have hcls : ∀ r, ClsInv (get ca.classes r) (get o r) := hcore.cls
  -- the class part looks at classes and `next_class_name` only
  have hcore' : ∀ ch pa hr, InvCore ⟨{ ca with children := ch, parents := pa, hasRepo := hr }, o⟩ :=
    fun _ _ _ => ⟨hnd, hfr, hcls⟩
  obtain ⟨hgood, -, hobj⟩ := hr
  -- one case per arm of `apply`; the two arms that are `none` (case6, case10: the class of a
  -- `ChildCertificatesUpdated` / `ChildKeyRevoked` is missing) go with `cases ha`
  revert ha hgood hobj
  fun_cases Ca.apply ca e <;> intro ha hgood hobj <;> (try cases ha)
  -- `ResourceClassAdded` / `ResourceClassRemoved`
  case case1 r p pr k =>
    cases (show r = ca.nextClass from hgood)
    exact ⟨o, rfl, hinv.addClass rfl rfl⟩
  case case2 r => exact ⟨del o r, rfl, hinv.delClass r⟩
  -- key events: `UnexpectedKeyFound` is not looked at; the others rewrite the key state of the class
  case case3 => exact ⟨o, rfl, hcore, hu⟩
  case case4 r ke _ =>
    obtain ⟨rc, _, hg, hf, rfl⟩ := Ca.withClass_some ha
    obtain ⟨ks', hk, rfl⟩ := Option.map_eq_some_iff.mp hf
    obtain ⟨o', ho, hframe, hc⟩ := keyEv_objStep hg (hcore.cls_some hg) hk hgood hobj
    exact ⟨o', ho, hcore.set hg _ _ hframe hc, hu.setClass hg (apply_current_isSome hk)⟩
  -- products and child certificates go to the current set, which the mirror does not look into
  case case5 r u =>  -- `RoasUpdated`, `AspaObjectsUpdated`, `BgpSecCertificatesUpdated`
    obtain ⟨rc, _, hg, hf, rfl⟩ := Ca.withClass_some ha
    cases hf
    obtain ⟨_, hg', hcur⟩ := hobj
    cases hg.symm.trans hg'
    obtain ⟨o', ho, hframe, hc⟩ := payload_objStep (rc' := rc.applyProducts u) (f := (·.updateProducts u))
      (hcore.cls_some hg) hcur rfl fun _ => ⟨rfl, rfl⟩
    exact ⟨o', ho, hcore.set hg _ _ hframe hc, hu.setClass hg id⟩
  case case7 r u _ hw =>  -- `ChildCertificatesUpdated`
    obtain ⟨rc, _, hg, hf, rfl⟩ := Ca.withClass_some hw
    cases hf
    obtain ⟨_, hg', hcur⟩ := hobj
    cases hg.symm.trans hg'
    obtain ⟨o', ho, hframe, hc⟩ := payload_objStep (rc' := { rc with certs := rc.certs.applyUpd u })
      (f := (·.updateCerts u)) (hcore.cls_some hg) hcur rfl fun _ => ⟨rfl, rfl⟩
    exact ⟨o', ho, hcore.set hg _ _ hframe hc,
      (hu.setClass (rc' := { rc with certs := rc.certs.applyUpd u }) hg id).children
        fun ch c' k r' => inUse_of_revokeAll _ _ ch c' k r'⟩
  -- `ChildKeyRevoked` writes `revoked`, never `inUse`
  case case11 ch r k _ hw =>
    obtain ⟨c, hc, rfl⟩ := Ca.withChild_some ha
    obtain ⟨rc, _, hg, hf, rfl⟩ := Ca.withClass_some hw
    cases hf
    refine ⟨o, rfl, hcore.set hg _ _ (fun _ _ => rfl) (hcore.cls_some hg : ClsInv (some rc) _),
      (hu.setClass (rc' := { rc with certs := rc.certs.removeRevoked k }) hg id).setChild ch
        fun k' r' h => .inl ⟨c, hc, ?_⟩⟩
    rw [get_set] at h
    split at h <;> first | cases h | exact h
  -- `ChildAdded`: no keys in use yet
  case case8 ch res => exact ⟨o, rfl, hcore' _ _ _, hu.setChild ch fun _ _ h => nomatch h⟩
  -- `ChildCertificateIssued`: the class has a current key by `Good`
  case case9 ch r k =>
    obtain ⟨c, hc, rfl⟩ := Ca.withChild_some ha
    obtain ⟨rc, hg, hcur⟩ := hgood
    refine ⟨o, rfl, hcore' _ _ _, hu.setChild ch fun k' r' h => ?_⟩
    rw [get_set] at h
    split at h
    · cases h
      exact .inr ⟨hfr r (Option.isSome_of_eq_some hg), fun rc' h' => by cases hg.symm.trans h'; exact hcur⟩
    · exact .inl ⟨c, hc, h⟩
  -- the other child events (`ChildUpdatedResources`, `ChildUpdatedIdCert`, `ChildUpdatedResourceClassNameMapping`,
  -- `ChildSuspended`, `ChildUnsuspended`) leave the keys in use as they are, `ChildRemoved` drops some
  case case12 | case13 | case14 | case16 | case17 =>
    obtain ⟨c, hc, rfl⟩ := Ca.withChild_some ha
    exact ⟨o, rfl, hcore' _ _ _, hu.setChild _ fun _ _ h => .inl ⟨c, hc, h⟩⟩
  case case15 ch =>  -- `ChildRemoved`
    refine ⟨o, rfl, hcore' _ _ _, hu.children fun ch1 c' k r' h hk => ⟨c', ?_, hk⟩⟩
    rw [get_del] at h; split at h <;> first | cases h | exact h
  -- `ParentRemoved`: no class of the parent is left
  case case19 p =>
    have hfil : ca.classes.filter (fun q => decide (q.2.parent ≠ p)) = ca.classes :=
      List.filter_eq_self.mpr fun q hq => decide_eq_true (hgood q.1 q.2 (get_of_mem_nodup hnd hq))
    exact ⟨o, rfl, by rw [hfil]; exact hcore' _ _ _, by rw [hfil]; exact hu⟩
  -- `ParentAdded`, `RepoUpdated`, the kinds in `Ev.other` (case18, case20, case21)
  all_goals exact ⟨o, rfl, hcore' _ _ _, hu⟩

theorem readySeq_run {s : Sys} {evs : List Ev} (hinv : Inv s) (hr : ReadySeq s.ca evs) :
    ∃ s', s.runEvs evs = some s' ∧ Inv s' := by
  induction evs generalizing s with
  | nil => exact ⟨s, rfl, hinv⟩
  | cons e es ih =>
    obtain ⟨ca', ha⟩ := Option.isSome_iff_exists.mp hr.1.app
    obtain ⟨o', ho, hinv1⟩ := ready_step (ca := s.ca) (o := s.objs) hinv hr.1 ha
    obtain ⟨s', hrun, hinv'⟩ := ih hinv1 (hr.2 ca' ha)
    exact ⟨s', by simp only [Sys.runEvs, Sys.stepEv, ha, ho, Option.bind_some, hrun], hinv'⟩

end KM.CaK
