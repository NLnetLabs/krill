/-
The request branch of `Pair.sync` over all classes: every class under the parent makes `KeyState.syncStep` or is
untouched.  Without a key roll `Answered`, `ReqRun` (`syncR_spec`); in any key states `Answered2`, `ReqRun2`
(`syncR2_spec`), which also follows the in-use marks of the keys.  Throughout the exchange files the suffix `2`
marks the notion for classes in any key state, a key roll in progress included.  In front, also for the
files that import this one, which branch `Pair.sync` takes (`sync_of_pending`; `sync_of_quiet` is the entitlement
branch).
-/
import KrillModel.Ca.ExchangeRoll
namespace KM.CaK
open KM.Res KM.AMap

theorem hasPending_of_quiet {s : Ca} {p : Handle} (h : s.hasPendingRequests p = false) {r : Rcn} {rc : Rc}
    (hg : get s.classes r = some rc) (hp : rc.parent = p) : rc.keys.hasPending = false := by
  have := List.any_eq_false.mp h (r, rc) (mem_of_get hg)
  simp only [hp, decide_true, Bool.true_and, Bool.not_eq_true] at this
  exact this

theorem hasPendingRequests_false_iff {s : Ca} (hnd : (keys s.classes).Nodup) (p : Handle) :
    s.hasPendingRequests p = false ↔
      ∀ r rc, get s.classes r = some rc → rc.parent = p → rc.keys.hasPending = false := by
  refine ⟨fun h r rc => hasPending_of_quiet h, fun h => List.any_eq_false.mpr fun q hq => ?_⟩
  by_cases hp : q.2.parent = p
  · simp [hp, h q.1 q.2 (get_of_mem_nodup hnd hq) hp]
  · simp [hp]

theorem sync_of_pending {x : Pair} (h : x.child.ca.hasPendingRequests x.ph = true) (now na : Int)
    (fresh : List KeyId) :
    x.sync now na fresh = (keys x.child.ca.classes).foldl (fun y r => y.classRequests r na) x :=
  if_pos h

theorem sync_of_quiet {x : Pair} (h : x.child.ca.hasPendingRequests x.ph = false) (now na : Int)
    (fresh : List KeyId) :
    x.sync now na fresh =
      { x with child := x.child.next (.updateEntitlements x.ph (x.parent.ca.entitlementsFor x.ch na) now fresh) } :=
  if_neg (Bool.eq_false_iff.mp h)

/-- Certificates on file at the parent after some answers: untouched or exact. -/
def BookRel (p p' : Ca) (ch : Handle) : Prop :=
  ∀ q k, p'.issuedIn q k = p.issuedIn q k ∨ p'.bookedExact ch q k

theorem BookRel.refl (p : Ca) (ch : Handle) : BookRel p p ch := fun _ _ => Or.inl rfl

theorem BookRel.trans {a b c : Ca} {ch : Handle} (h1 : BookRel a b ch) (h2 : BookRel b c ch)
    (hs : ParentSame b c ch) : BookRel a c ch := by
  intro q k
  rcases h2 q k with h | h
  · rcases h1 q k with h' | h'
    · exact Or.inl (h.trans h')
    · exact Or.inr (hs.bookedExact h' h)
  · exact Or.inr h

theorem BookRel.exact {a b : Ca} {ch : Handle} (h : BookRel a b ch) (hs : ParentSame a b ch) {q : Rcn} {k : KeyId}
    (he : a.bookedExact ch q k) : b.bookedExact ch q k := by
  rcases h q k with h' | h'
  · exact hs.bookedExact he h'
  · exact h'

/-- The class as it is after its open requests were sent, relative to the pair `x` in which the
answers are computed: untouched without an open request (or under another parent), dropped when
the parent refuses, else `active` with the answer's certificate, which is then on file. -/
structure Answered (x y : Pair) (na : Int) (r : Rcn) : Prop where
  absent : get x.child.ca.classes r = none → get y.child.ca.classes r = none
  quiet : ∀ rc, get x.child.ca.classes r = some rc → ¬ (rc.parent = x.ph ∧ rc.keys.hasPending = true) →
    get y.child.ca.classes r = some rc
  refused : ∀ rc, get x.child.ca.classes r = some rc → rc.parent = x.ph → rc.keys.hasPending = true →
    x.parent.ca.answer x.ch rc.parentRcn = none → get y.child.ca.classes r = none
  answered : ∀ rc R, get x.child.ca.classes r = some rc → rc.parent = x.ph → rc.keys.hasPending = true →
    x.parent.ca.answer x.ch rc.parentRcn = some R →
    ∃ rc' ki, get y.child.ca.classes r = some rc' ∧ rc'.parent = rc.parent ∧ rc'.parentRcn = rc.parentRcn ∧
      rc'.keys = .active ⟨ki, answerCert R na, false⟩ ∧
      ∃ c, get y.parent.ca.children x.ch = some c ∧ y.parent.ca.bookedExact x.ch (c.nameInParent rc.parentRcn) ki

theorem Answered.of_same {x y : Pair} {na : Int} {r : Rcn}
    (hg : get y.child.ca.classes r = get x.child.ca.classes r)
    (hq : ∀ rc, get x.child.ca.classes r = some rc → ¬ (rc.parent = x.ph ∧ rc.keys.hasPending = true)) :
    Answered x y na r :=
  ⟨fun h => hg.trans h, fun _ h _ => hg.trans h, fun rc h hp hpend => absurd ⟨hp, hpend⟩ (hq rc h),
    fun rc _ h hp hpend => absurd ⟨hp, hpend⟩ (hq rc h)⟩

theorem ReqStep2.bookRel {y y' : Pair} {r n : Rcn} {K : List KeyId} (h : ReqStep2 y y' r n [] K) :
    BookRel y.parent.ca y'.parent.ca y.ch :=
  fun q k => (h.book q k).imp_right fun h' => h'.resolve_right fun hk => nomatch hk

theorem Answered.step {x y y' : Pair} {na : Int} {r r' n : Rcn} {K : List KeyId} (h : Answered x y na r)
    (hch : y.ch = x.ch) (hst : ReqStep2 y y' r' n [] K) (hne : r ≠ r') : Answered x y' na r := by
  have hfr := hst.frame r hne
  refine ⟨fun h0 => hfr.trans (h.absent h0), fun rc h0 h1 => hfr.trans (h.quiet rc h0 h1),
    fun rc h0 h1 h2 h3 => hfr.trans (h.refused rc h0 h1 h2 h3), ?_⟩
  intro rc R h0 h1 h2 h3
  obtain ⟨rc', ki, a1, a2, a3, a4, c, a5, a6⟩ := h.answered rc R h0 h1 h2 h3
  have hsame := hch ▸ hst.same
  obtain ⟨c', e2, _, e4⟩ := hsame.child_some a5
  exact ⟨rc', ki, hfr.trans a1, a2, a3, a4, c', e2, nameInParent_congr e4 _ ▸ (hch ▸ hst.bookRel).exact hsame a6⟩

/-- Every class of the child under the parent that has a certificate request open is one the
parent answers.  A krill parent refuses a request it cannot answer with an error and the child
keeps it (`Pair.certRequest`): without this the request branch never ends
(`C02.sync_stuck_with_request_for_lost_class`). -/
def Answerable (x : Pair) : Prop :=
  ∀ r rc, get x.child.ca.classes r = some rc → rc.parent = x.ph → rc.keys.certRequests ≠ [] →
    ∃ R, x.parent.ca.answer x.ch rc.parentRcn = some R

/-- The requests of a class without a key roll: `classRequests_gen` for a key state that is `pending` or `active`.
The fold over the classes needs the step only up to its class name and keys, hence the `∃`. -/
theorem classRequests_spec {y : Pair} (hinv : PairInv y) (r : Rcn) (na : Int)
    (hplain : ∀ rc, get y.child.ca.classes r = some rc → rc.parent = y.ph → rc.keys.plain)
    (hansw : ∀ rc, get y.child.ca.classes r = some rc → rc.parent = y.ph → rc.keys.certRequests ≠ [] →
      ∃ R, y.parent.ca.answer y.ch rc.parentRcn = some R) :
    (∃ n K, ReqStep2 y (y.classRequests r na) r n [] K) ∧ Answered y (y.classRequests r na) na r := by
  by_cases hunder : ∃ rc, get y.child.ca.classes r = some rc ∧ rc.parent = y.ph
  · obtain ⟨rc, hg, hp⟩ := hunder
    have hpl := hplain rc hg hp
    obtain ⟨hwf, hnil, hfin⟩ := plain_facts hpl
    obtain ⟨b1, b2, _, b4⟩ := classRequests_gen hinv r na 0 hg hp hwf (by rw [hnil]; exact fun _ h => nomatch h)
      (hansw rc hg hp)
    rw [hnil] at b1
    refine ⟨⟨_, _, b1⟩, fun h => (nomatch hg.symm.trans h), fun rc0 h0 hq => ?_, fun rc0 h0 _ hpend hnone => ?_,
      fun rc0 R h0 _ hpend hsome => ?_⟩
    · cases hg.symm.trans h0
      rw [b2 (Bool.eq_false_iff.mpr fun hpend => hq ⟨hp, hpend⟩)]; exact hg
    · cases hg.symm.trans h0
      obtain ⟨R, hR⟩ := hansw rc hg hp (certRequests_ne_nil_of_plain_pending hpl hpend)
      exact nomatch hnone.symm.trans hR
    · cases hg.symm.trans h0
      obtain ⟨rc', g1, g2, g3, g4, g5⟩ := b4 R hpend hsome
      obtain ⟨ki, hL, hstep⟩ := plain_pending hpl hpend
      exact ⟨rc', ki, g1, g2, g3, g4.trans (hstep _ _), g5 ki (by rw [hfin, hL]; exact List.mem_singleton.mpr rfl)⟩
  · rw [classRequests_of_not_under na fun rc hg hp => hunder ⟨rc, hg, hp⟩]
    exact ⟨⟨r, [], .refl hinv r r [] []⟩, .of_same rfl fun rc h hq => hunder ⟨rc, h, hq.1⟩⟩

/-- The pair after the request branch of a sync. -/
structure ReqRun (x z : Pair) (na : Int) : Prop where
  ch : z.ch = x.ch
  ph : z.ph = x.ph
  inv : PairInv z
  same : ParentSame x.parent.ca z.parent.ca x.ch
  book : BookRel x.parent.ca z.parent.ca x.ch
  cls : ∀ r, Answered x z na r

/-- No class under the parent is in a key roll. -/
def NoRoll (s : Ca) (p : Handle) : Prop := ∀ r rc, get s.classes r = some rc → rc.parent = p → rc.keys.plain

/-- The classes `rs` are still to be handled (and untouched), all others are done. -/
theorem requests_fold {x : Pair} (na : Int) (hnr : NoRoll x.child.ca x.ph) (hansw : Answerable x) :
    ∀ (rs : List Rcn) (y : Pair), rs.Nodup → y.ch = x.ch → y.ph = x.ph → PairInv y →
      ParentSame x.parent.ca y.parent.ca x.ch → BookRel x.parent.ca y.parent.ca x.ch →
      (∀ r ∈ rs, get y.child.ca.classes r = get x.child.ca.classes r) →
      (∀ r, r ∉ rs → Answered x y na r) →
      ReqRun x (rs.foldl (fun y r => y.classRequests r na) y) na := by
  intro rs
  induction rs with
  | nil => intro y _ hch hph hinv hsame hbook _ hdone; exact ⟨hch, hph, hinv, hsame, hbook, fun r => hdone r (by simp)⟩
  | cons r t ih =>
    intro y hnd hch hph hinv hsame hbook htodo hdone
    have hnd' := List.nodup_cons.mp hnd
    have hgr := htodo r (List.mem_cons_self ..)
    -- in `y` the class is as in `x`, and `y`'s parent answers as `x`'s
    have hans' : ∀ n, y.parent.ca.answer y.ch n = x.parent.ca.answer x.ch n := fun n => hch ▸ hsame.answer n
    obtain ⟨⟨n, K, hst⟩, hans⟩ := classRequests_spec hinv r na
      (fun rc hg hp => hnr r rc (hgr ▸ hg) (hp.trans hph))
      (fun rc hg hp hreq => hans' _ ▸ hansw r rc (hgr ▸ hg) (hp.trans hph) hreq)
    have hst_same := hch ▸ hst.same
    refine ih (y.classRequests r na) hnd'.2 (hst.ch.trans hch) (hst.ph.trans hph) hst.inv (hsame.trans hst_same)
      (hbook.trans (hch ▸ hst.bookRel) hst_same) ?_ ?_
    · intro r' hr'
      exact (hst.frame r' fun h => hnd'.1 (h ▸ hr')).trans (htodo r' (List.mem_cons_of_mem _ hr'))
    · intro r' hr'
      by_cases hrr : r' = r
      · subst hrr
        refine ⟨fun h => hans.absent (hgr.trans h), fun rc h hq => hans.quiet rc (hgr.trans h) (hph ▸ hq),
          fun rc h h1 h2 h3 => hans.refused rc (hgr.trans h) (h1.trans hph.symm) h2 ((hans' _).trans h3), ?_⟩
        intro rc R h h1 h2 h3
        exact hch ▸ hans.answered rc R (hgr.trans h) (h1.trans hph.symm) h2 ((hans' _).trans h3)
      · exact (hdone r' fun h => (List.mem_cons.mp h).elim hrr hr').step hch hst hrr

theorem syncR_spec {x : Pair} (hinv : PairInv x) (hnr : NoRoll x.child.ca x.ph) (hansw : Answerable x)
    (now na : Int)
    (fresh : List KeyId) (hpend : x.child.ca.hasPendingRequests x.ph = true) :
    ReqRun x (x.sync now na fresh) na := by
  rewrite [sync_of_pending hpend]
  refine requests_fold na hnr hansw _ x (reachable_inv hinv.rc).core.nodup rfl rfl hinv (ParentSame.refl _ _)
    (BookRel.refl _ _) (fun _ _ => rfl) fun r hr => .of_same rfl fun rc h => ?_
  exact absurd (mem_keys_of_get h) hr

/-- Where a class after the request branch comes from. -/
theorem Answered.origin {x z : Pair} {na : Int} {r : Rcn} (h : Answered x z na r) {rc' : Rc}
    (hg : get z.child.ca.classes r = some rc') :
    ∃ rc, get x.child.ca.classes r = some rc ∧ rc'.parent = rc.parent ∧ rc'.parentRcn = rc.parentRcn ∧
      ((rc' = rc ∧ ¬ (rc.parent = x.ph ∧ rc.keys.hasPending = true)) ∨
       (rc.parent = x.ph ∧ rc.keys.hasPending = true ∧ ∃ R ki c, x.parent.ca.answer x.ch rc.parentRcn = some R ∧
          rc'.keys = .active ⟨ki, answerCert R na, false⟩ ∧ get z.parent.ca.children x.ch = some c ∧
          z.parent.ca.bookedExact x.ch (c.nameInParent rc.parentRcn) ki)) := by
  cases hx : get x.child.ca.classes r with
  | none => rewrite [h.absent hx] at hg; cases hg
  | some rc =>
    refine ⟨rc, rfl, ?_⟩
    by_cases hq : rc.parent = x.ph ∧ rc.keys.hasPending = true
    · cases ha : x.parent.ca.answer x.ch rc.parentRcn with
      | none => rewrite [h.refused rc hx hq.1 hq.2 ha] at hg; cases hg
      | some R =>
        obtain ⟨rc'', ki, a1, a2, a3, a4, c, a5, a6⟩ := h.answered rc R hx hq.1 hq.2 ha
        rewrite [a1] at hg; cases hg
        exact ⟨a2, a3, Or.inr ⟨hq.1, hq.2, R, ki, c, rfl, a4, a5, a6⟩⟩
    · rewrite [h.quiet rc hx hq] at hg; cases hg
      exact ⟨rfl, rfl, Or.inl ⟨rfl, hq⟩⟩

theorem Answered.survives {x z : Pair} {na : Int} {r : Rcn} (h : Answered x z na r) {rc : Rc}
    (hg : get x.child.ca.classes r = some rc)
    (hans : rc.parent = x.ph → rc.keys.hasPending = true → ∃ R, x.parent.ca.answer x.ch rc.parentRcn = some R) :
    ∃ rc', get z.child.ca.classes r = some rc' ∧ rc'.parent = rc.parent ∧ rc'.parentRcn = rc.parentRcn := by
  by_cases hq : rc.parent = x.ph ∧ rc.keys.hasPending = true
  · obtain ⟨R, hR⟩ := hans hq.1 hq.2
    obtain ⟨rc', ki, a1, a2, a3, _⟩ := h.answered rc R hg hq.1 hq.2 hR
    exact ⟨rc', a1, a2, a3⟩
  · exact ⟨rc, h.quiet rc hg hq, rfl, rfl⟩

theorem ReqRun.quiet {x z : Pair} {na : Int} (h : ReqRun x z na) :
    z.child.ca.hasPendingRequests z.ph = false := by
  rewrite [hasPendingRequests_false_iff (reachable_inv h.inv.rc).core.nodup]
  intro r rc' hg hp
  obtain ⟨rc, hx, a1, _, ⟨heq, hnot⟩ | ⟨_, _, R, ki, c, _, hk, _⟩⟩ := (h.cls r).origin hg
  · subst heq
    exact Bool.eq_false_iff.mpr fun hpend => hnot ⟨hp.trans h.ph, hpend⟩
  · rewrite [hk]; rfl

/-- Key identifiers of different classes under the parent are different. -/
def KeysDistinct (s : Ca) (p : Handle) : Prop :=
  ∀ r1 r2 rc1 rc2 k, get s.classes r1 = some rc1 → get s.classes r2 = some rc2 →
    rc1.parent = p → rc2.parent = p → k ∈ rc1.keys.keyIds → k ∈ rc2.keys.keyIds → r1 = r2

/-- The class as it is after its open requests were sent (any key state), relative to the pair
`x` in which the answers are computed. -/
structure Answered2 (x y : Pair) (na now : Int) (r : Rcn) : Prop where
  absent : get x.child.ca.classes r = none → get y.child.ca.classes r = none
  quiet : ∀ rc, get x.child.ca.classes r = some rc → ¬ (rc.parent = x.ph ∧ rc.keys.hasPending = true) →
    get y.child.ca.classes r = some rc
  refused : ∀ rc, get x.child.ca.classes r = some rc → rc.parent = x.ph → rc.keys.hasPending = true →
    x.parent.ca.answer x.ch rc.parentRcn = none →
    get y.child.ca.classes r = none ∨
    ∃ rc', get y.child.ca.classes r = some rc' ∧ rc'.parent = rc.parent ∧ rc'.parentRcn = rc.parentRcn ∧
      rc'.keys = rc.keys.finished ∧ rc.keys.finished.certRequests = []
  answered : ∀ rc R, get x.child.ca.classes r = some rc → rc.parent = x.ph → rc.keys.hasPending = true →
    x.parent.ca.answer x.ch rc.parentRcn = some R →
    ∃ rc', get y.child.ca.classes r = some rc' ∧ rc'.parent = rc.parent ∧ rc'.parentRcn = rc.parentRcn ∧
      rc'.keys = rc.keys.syncStep ⟨R, na⟩ now ∧
      ∀ ki ∈ rc.keys.finished.certRequests, ∃ c, get y.parent.ca.children x.ch = some c ∧
        y.parent.ca.bookedExact x.ch (c.nameInParent rc.parentRcn) ki
  inuse : ∀ rc k, get x.child.ca.classes r = some rc → rc.parent = x.ph → k ∈ rc.keys.keyIds →
    InUse x.parent.ca x.ch rc.parentRcn k → k ∉ rc.keys.revoked → InUse y.parent.ca x.ch rc.parentRcn k

theorem Answered2.of_not_under {x y : Pair} {r : Rcn} (na now : Int)
    (hg : get y.child.ca.classes r = get x.child.ca.classes r)
    (h : ∀ rc, get x.child.ca.classes r = some rc → rc.parent ≠ x.ph) : Answered2 x y na now r :=
  ⟨fun h0 => hg.trans h0, fun _ h0 _ => hg.trans h0, fun rc h0 hp => absurd hp (h rc h0),
    fun rc _ h0 hp => absurd hp (h rc h0), fun rc _ h0 hp => absurd hp (h rc h0)⟩

/-- A later step on another class (with other keys) keeps `Answered2`. -/
theorem Answered2.step {x y y' : Pair} {na now : Int} {r r' n : Rcn} {Kb K : List KeyId}
    (h : Answered2 x y na now r) (hch : y.ch = x.ch) (hst : ReqStep2 y y' r' n Kb K) (hne : r ≠ r')
    (hKb : ∀ k ∈ Kb, k ∈ K)
    (hK : ∀ rc, get x.child.ca.classes r = some rc → rc.parent = x.ph → ∀ k ∈ rc.keys.keyIds, k ∉ K) :
    Answered2 x y' na now r := by
  have hfr := hst.frame r hne
  have hsame := hst.same
  rw [hch] at hsame
  refine ⟨fun h0 => (by rw [hfr]; exact h.absent h0), fun rc h0 h1 => (by rw [hfr]; exact h.quiet rc h0 h1),
    fun rc h0 h1 h2 h3 => (by rw [hfr]; exact h.refused rc h0 h1 h2 h3), ?_, ?_⟩
  · intro rc R h0 h1 h2 h3
    obtain ⟨rc', a1, a2, a3, a4, a5⟩ := h.answered rc R h0 h1 h2 h3
    refine ⟨rc', (by rw [hfr]; exact a1), a2, a3, a4, ?_⟩
    intro ki hki
    obtain ⟨c, c1, c2⟩ := a5 ki hki
    obtain ⟨c', e2, _, e4⟩ := hsame.child_some c1
    refine ⟨c', e2, ?_⟩
    rw [nameInParent_congr e4]
    have hkK : ki ∉ K := hK rc h0 h1 ki (keyIds_finished_sub _ ki (certRequests_sub_keyIds _ ki hki))
    have hb := hst.book (c.nameInParent rc.parentRcn) ki
    rw [hch] at hb
    rcases hb with hb | hb | hb
    · exact hsame.bookedExact c2 hb
    · exact hb
    · exact absurd (hKb ki hb) hkK
  · intro rc k h0 h1 hk hu hnr
    have hother := @hst.inUse_other
    rw [hch] at hother
    exact hother hKb (h.inuse rc k h0 h1 hk hu hnr) (hK rc h0 h1 k hk)

/-- Certificates on file at the parent after the request branch: untouched, exact, or of a key
some class had revoked. -/
def BookRel2 (x : Pair) (p' : Ca) : Prop :=
  ∀ q k, p'.issuedIn q k = x.parent.ca.issuedIn q k ∨ p'.bookedExact x.ch q k ∨
    ∃ r rc, get x.child.ca.classes r = some rc ∧ rc.parent = x.ph ∧ k ∈ rc.keys.revoked

/-- The pair after the request branch of a sync (any key states). -/
structure ReqRun2 (x z : Pair) (na now : Int) : Prop where
  ch : z.ch = x.ch
  ph : z.ph = x.ph
  inv : PairInv2 z
  same : ParentSame x.parent.ca z.parent.ca x.ch
  book : BookRel2 x z.parent.ca
  cls : ∀ r, Answered2 x z na now r

/-- Every class under the parent has a well-formed key state and the key it is about to revoke
is in use at the parent. -/
structure RollOk (x : Pair) : Prop where
  wf : ∀ r rc, get x.child.ca.classes r = some rc → rc.parent = x.ph → rc.keys.wf = true
  distinct : KeysDistinct x.child.ca x.ph
  leaving : ∀ r rc, get x.child.ca.classes r = some rc → rc.parent = x.ph →
    ∀ k ∈ rc.keys.leaving, InUse x.parent.ca x.ch rc.parentRcn k

/-- As `requests_fold`; in addition the keys of the classes still to be handled are in use at the parent as they were in
`x` (a step on another class touches other keys only: `KeysDistinct`), so that the key a class is about to revoke is
still in use when its turn comes. -/
theorem requests_fold2 {x : Pair} (na now : Int) (hok : RollOk x) (hansw : Answerable x) :
    ∀ (rs : List Rcn) (y : Pair), rs.Nodup → y.ch = x.ch → y.ph = x.ph → PairInv2 y →
      ParentSame x.parent.ca y.parent.ca x.ch → BookRel2 x y.parent.ca →
      (∀ r ∈ rs, get y.child.ca.classes r = get x.child.ca.classes r) →
      (∀ r ∈ rs, ∀ rc k, get x.child.ca.classes r = some rc → rc.parent = x.ph → k ∈ rc.keys.keyIds →
        InUse x.parent.ca x.ch rc.parentRcn k → InUse y.parent.ca x.ch rc.parentRcn k) →
      (∀ r, r ∉ rs → Answered2 x y na now r) →
      ReqRun2 x (rs.foldl (fun y r => y.classRequests r na) y) na now := by
  intro rs
  induction rs with
  | nil =>
    intro y _ hch hph hinv hsame hbook _ _ hdone
    exact ⟨hch, hph, hinv, hsame, hbook, fun r => hdone r (by simp)⟩
  | cons r t ih =>
    intro y hnd hch hph hinv hsame hbook htodo huse hdone
    have hnd' := List.nodup_cons.mp hnd
    simp only [List.foldl_cons]
    have hgr := htodo r (List.mem_cons_self ..)
    have hdone' : ∀ r', r' ≠ r → r' ∉ t → Answered2 x y na now r' := fun r' hrr hr' =>
      hdone r' fun h => (List.mem_cons.mp h).elim hrr hr'
    by_cases hunder : ∃ rc, get x.child.ca.classes r = some rc ∧ rc.parent = x.ph
    · obtain ⟨rc, hg, hp⟩ := hunder
      have hgy : get y.child.ca.classes r = some rc := hgr.trans hg
      have hwf := hok.wf r rc hg hp
      have hans : ∀ n, y.parent.ca.answer x.ch n = x.parent.ca.answer x.ch n := hsame.answer
      -- the step on class `r` may revoke `rc.keys.revoked` and certify keys of `rc.keys.keyIds`: no key of another class
      obtain ⟨hst, b2, b4, b5⟩ := classRequests_gen hinv.base r na now hgy (hp.trans hph.symm) hwf (by
        intro k hk
        rw [hch]
        exact huse r (List.mem_cons_self ..) rc k hg hp (revoked_sub_keyIds rc.keys k hk)
          (hok.leaving r rc hg hp k (revoked_sub_leaving rc.keys k hk))) (by
        intro hreq
        obtain ⟨R, hR⟩ := hansw r rc hg hp hreq
        exact ⟨R, by rw [hch]; exact (hans _).trans hR⟩)
      have b3 := @hst.inUse
      rw [hch] at b3 b4 b5
      have hKb := revoked_sub_keyIds rc.keys
      have hKother : ∀ r' rc', r' ≠ r → get x.child.ca.classes r' = some rc' → rc'.parent = x.ph →
          ∀ k ∈ rc'.keys.keyIds, k ∉ rc.keys.keyIds :=
        fun r' rc' hne hg' hp' k hk hk2 => hne (hok.distinct r' r rc' rc k hg' hg hp' hp hk hk2)
      have hs1 := hst.same
      rw [hch] at hs1
      refine ih (y.classRequests r na) hnd'.2 (hst.ch.trans hch) (hst.ph.trans hph) ⟨hst.inv, hst.nosusp hinv.nosusp⟩
        (hsame.trans hs1) ?_ ?_ ?_ ?_
      · -- certificates on file
        intro q k
        have hb := hst.book q k
        rw [hch] at hb
        rcases hb with hb | hb | hb
        · rcases hbook q k with h1 | h1 | h1
          · exact Or.inl (hb.trans h1)
          · exact Or.inr (Or.inl (hs1.bookedExact h1 hb))
          · exact Or.inr (Or.inr h1)
        · exact Or.inr (Or.inl hb)
        · exact Or.inr (Or.inr ⟨r, rc, hg, hp, hb⟩)
      · intro r' hr'
        have hne : r' ≠ r := fun h => hnd'.1 (h ▸ hr')
        rw [hst.frame r' hne]
        exact htodo r' (List.mem_cons_of_mem _ hr')
      · intro r' hr' rc' k hg' hp' hk hu
        have hne : r' ≠ r := fun h => hnd'.1 (h ▸ hr')
        have hother := @hst.inUse_other
        rw [hch] at hother
        exact hother hKb (huse r' (List.mem_cons_of_mem _ hr') rc' k hg' hp' hk hu) (hKother r' rc' hne hg' hp' k hk)
      · intro r' hr'
        by_cases hrr : r' = r
        · subst hrr
          refine ⟨fun h => (nomatch hg.symm.trans h), fun rc0 h0 hq => ?_, fun rc0 h0 _ hpend hnone => ?_,
            fun rc0 R h0 _ hpend hsome => ?_, fun rc0 k h0 _ hk hu hnr => ?_⟩
          · cases hg.symm.trans h0
            rw [b2 (Bool.eq_false_iff.mpr fun hpend => hq ⟨hp, hpend⟩)]; exact hgy
          · cases hg.symm.trans h0
            exact Or.inr (b4 hpend ((hans _).trans hnone))
          · cases hg.symm.trans h0
            exact b5 R hpend ((hans _).trans hsome)
          · cases hg.symm.trans h0
            exact b3 (huse r' (List.mem_cons_self ..) rc k hg hp hk hu) hnr
        · exact (hdone' r' hrr hr').step hch hst hrr hKb (fun rc' hg' hp' => hKother r' rc' hrr hg' hp')
    · -- not a class under the parent: nothing is sent
      have hnot : ∀ rc, get x.child.ca.classes r = some rc → rc.parent ≠ x.ph := fun rc hg hp => hunder ⟨rc, hg, hp⟩
      rw [classRequests_of_not_under na (fun rc hg => by rw [hph]; exact hnot rc (hgr ▸ hg))]
      refine ih y hnd'.2 hch hph hinv hsame hbook (fun r' hr' => htodo r' (List.mem_cons_of_mem _ hr'))
        (fun r' hr' => huse r' (List.mem_cons_of_mem _ hr')) fun r' hr' => ?_
      by_cases hrr : r' = r
      · subst hrr; exact .of_not_under na now hgr hnot
      · exact hdone' r' hrr hr'

theorem syncR2_spec {x : Pair} (hinv : PairInv2 x) (hok : RollOk x) (hansw : Answerable x) (now na : Int)
    (fresh : List KeyId) (hpend : x.child.ca.hasPendingRequests x.ph = true) :
    ReqRun2 x (x.sync now na fresh) na now := by
  rewrite [sync_of_pending hpend]
  refine requests_fold2 na now hok hansw _ x (reachable_inv hinv.base.rc).core.nodup rfl rfl hinv (ParentSame.refl _ _)
    (fun _ _ => Or.inl rfl) (fun _ _ => rfl) (fun _ _ _ _ _ _ _ h => h) ?_
  exact fun r hr => .of_not_under na now rfl fun rc hg => absurd (mem_keys_of_get hg) hr

/-- Where a class after the request branch comes from. -/
theorem Answered2.origin {x z : Pair} {na now : Int} {r : Rcn} (h : Answered2 x z na now r) {rc' : Rc}
    (hg : get z.child.ca.classes r = some rc') :
    ∃ rc, get x.child.ca.classes r = some rc ∧ rc'.parent = rc.parent ∧ rc'.parentRcn = rc.parentRcn ∧
      ((rc' = rc ∧ ¬ (rc.parent = x.ph ∧ rc.keys.hasPending = true)) ∨
       (rc.parent = x.ph ∧ rc.keys.hasPending = true ∧ x.parent.ca.answer x.ch rc.parentRcn = none ∧
          rc'.keys = rc.keys.finished ∧ rc.keys.finished.certRequests = []) ∨
       (rc.parent = x.ph ∧ rc.keys.hasPending = true ∧ ∃ R, x.parent.ca.answer x.ch rc.parentRcn = some R ∧
          rc'.keys = rc.keys.syncStep ⟨R, na⟩ now ∧
          ∀ ki ∈ rc.keys.finished.certRequests, ∃ c, get z.parent.ca.children x.ch = some c ∧
            z.parent.ca.bookedExact x.ch (c.nameInParent rc.parentRcn) ki)) := by
  cases hx : get x.child.ca.classes r with
  | none => rw [h.absent hx] at hg; cases hg
  | some rc =>
    refine ⟨rc, rfl, ?_⟩
    by_cases hq : rc.parent = x.ph ∧ rc.keys.hasPending = true
    · cases ha : x.parent.ca.answer x.ch rc.parentRcn with
      | none =>
        rcases h.refused rc hx hq.1 hq.2 ha with h1 | ⟨rc'', a1, a2, a3, a4, a5⟩
        · rw [h1] at hg; cases hg
        · rw [a1] at hg; cases hg
          exact ⟨a2, a3, Or.inr (Or.inl ⟨hq.1, hq.2, rfl, a4, a5⟩)⟩
      | some R =>
        obtain ⟨rc'', a1, a2, a3, a4, a5⟩ := h.answered rc R hx hq.1 hq.2 ha
        rw [a1] at hg; cases hg
        exact ⟨a2, a3, Or.inr (Or.inr ⟨hq.1, hq.2, R, rfl, a4, a5⟩)⟩
    · rw [h.quiet rc hx hq] at hg; cases hg
      exact ⟨rfl, rfl, Or.inl ⟨rfl, hq⟩⟩

/-- A class of `x` that the parent answers is still there, under its names. -/
theorem Answered2.survives {x z : Pair} {na now : Int} {r : Rcn} (h : Answered2 x z na now r) {rc : Rc}
    (hg : get x.child.ca.classes r = some rc)
    (hans : rc.parent = x.ph → rc.keys.hasPending = true → ∃ R, x.parent.ca.answer x.ch rc.parentRcn = some R) :
    ∃ rc', get z.child.ca.classes r = some rc' ∧ rc'.parent = rc.parent ∧ rc'.parentRcn = rc.parentRcn := by
  by_cases hq : rc.parent = x.ph ∧ rc.keys.hasPending = true
  · obtain ⟨R, hR⟩ := hans hq.1 hq.2
    obtain ⟨rc', a1, a2, a3, _⟩ := h.answered rc R hg hq.1 hq.2 hR
    exact ⟨rc', a1, a2, a3⟩
  · exact ⟨rc, h.quiet rc hg hq, rfl, rfl⟩

theorem ReqRun2.quiet {x z : Pair} {na now : Int} (hok : RollOk x) (h : ReqRun2 x z na now) :
    z.child.ca.hasPendingRequests z.ph = false := by
  rw [hasPendingRequests_false_iff (reachable_inv h.inv.base.rc).core.nodup]
  intro r rc' hg hp
  obtain ⟨rc, hx, a1, _, a3⟩ := (h.cls r).origin hg
  rw [h.ph] at hp
  have hpx : rc.parent = x.ph := a1.symm.trans hp
  rcases a3 with ⟨heq, hnot⟩ | ⟨_, _, _, hk, hnil⟩ | ⟨_, hpend, R, _, hk, _⟩
  · subst heq; exact Bool.eq_false_iff.mpr fun hpend => hnot ⟨hp, hpend⟩
  · rw [hk]; exact hasPending_finished_nil hnil
  · rw [hk]; exact syncStep_clears (hok.wf r rc hx hpx) hpend _ _

theorem ReqRun2.other {x z : Pair} {na now : Int} (h : ReqRun2 x z na now) {r : Rcn} {rc' : Rc}
    (hg : get z.child.ca.classes r = some rc') (hp : rc'.parent ≠ z.ph) : get x.child.ca.classes r = some rc' := by
  obtain ⟨rc, hx, a1, _, a3⟩ := (h.cls r).origin hg
  rw [h.ph, a1] at hp
  rcases a3 with ⟨rfl, _⟩ | ⟨hp', _⟩ | ⟨hp', _⟩
  · exact hx
  · exact absurd hp' hp
  · exact absurd hp' hp

/-- The class `rc'` under the parent after the request branch and `rc`, the class it was in `x`: no other keys than
before, and no key is left to leave that was not. -/
structure ClassKept (x : Pair) (r : Rcn) (rc rc' : Rc) : Prop where
  was : get x.child.ca.classes r = some rc
  parent : rc.parent = x.ph
  name : rc'.parentRcn = rc.parentRcn
  wf : rc'.keys.wf = true
  keyIds : ∀ k ∈ rc'.keys.keyIds, k ∈ rc.keys.keyIds
  leaving : ∀ k ∈ rc'.keys.leaving, k ∈ rc.keys.leaving ∧ k ∉ rc.keys.revoked

theorem ReqRun2.classKept {x z : Pair} {na now : Int} (hok : RollOk x) (h : ReqRun2 x z na now) {r : Rcn} {rc' : Rc}
    (hg : get z.child.ca.classes r = some rc') (hp : rc'.parent = z.ph) : ∃ rc, ClassKept x r rc rc' := by
  obtain ⟨rc, hx, a1, a2, a3⟩ := (h.cls r).origin hg
  rw [h.ph, a1] at hp
  have hwf := hok.wf r rc hx hp
  rcases a3 with ⟨rfl, hnot⟩ | ⟨_, _, _, hk, _⟩ | ⟨_, _, R, _, hk, _⟩
  · have hnp : rc'.keys.hasPending = false := Bool.eq_false_iff.mpr fun hpend => hnot ⟨hp, hpend⟩
    exact ⟨_, hx, hp, rfl, hwf, fun _ h => h, fun k hk => ⟨hk, by rw [not_pending_revoked hnp]; exact List.not_mem_nil⟩⟩
  · exact ⟨rc, hx, hp, a2, hk ▸ wf_finished hwf, hk ▸ keyIds_finished_sub _, hk ▸ leaving_finished _⟩
  · exact ⟨rc, hx, hp, a2, hk ▸ wf_syncStep hwf _ _, hk ▸ keyIds_syncStep hwf _ _, hk ▸ leaving_syncStep hwf _ _⟩

/-- After the request branch a class under the parent that the parent lists has made `AState.rstep`. -/
theorem ReqRun2.abs_rstep {x z : Pair} {na now : Int} (hr : ReqRun2 x z na now) (hok : RollOk x)
    (hnames : x.parent.ca.namesOk x.ch = true) {r : Rcn} {rc' : Rc} (hg : get z.child.ca.classes r = some rc')
    (hp : rc'.parent = x.ph) :
    ∃ rc, get x.child.ca.classes r = some rc ∧ rc.parent = x.ph ∧ rc'.parentRcn = rc.parentRcn ∧
      ∀ R, x.parent.ca.offers x.ch rc.parentRcn R → rc'.keys.abs ⟨R, na⟩ now = (rc.keys.abs ⟨R, na⟩ now).rstep := by
  obtain ⟨rc, hx, a1, a2, a3⟩ := (hr.cls r).origin hg
  have hpx : rc.parent = x.ph := a1.symm.trans hp
  refine ⟨rc, hx, hpx, a2, fun R ho => KM.CaK.abs_rstep (hok.wf r rc hx hpx) _ _ ?_⟩
  rcases a3 with ⟨heq, hnot⟩ | ⟨_, _, hnone, _, _⟩ | ⟨_, hpend, R', hR', hk', _⟩
  · exact Or.inr ⟨Bool.eq_false_iff.mpr fun hpend => hnot ⟨hpx, hpend⟩, by rw [heq]⟩
  · rw [offers_answer hnames ho] at hnone; cases hnone
  · rw [offers_answer hnames ho] at hR'; cases hR'
    exact Or.inl ⟨hpend, hk'⟩

/-- Every class the parent lists is still there after the request branch. -/
theorem ReqRun2.listed {x z : Pair} {na now : Int} (hr : ReqRun2 x z na now) (hnames : x.parent.ca.namesOk x.ch = true)
    (hall : ∀ n R, x.parent.ca.offers x.ch n R →
      ∃ r rc, get x.child.ca.classes r = some rc ∧ rc.parent = x.ph ∧ rc.parentRcn = n) :
    ∀ n R, z.parent.ca.offers z.ch n R →
      ∃ r rc, get z.child.ca.classes r = some rc ∧ rc.parent = z.ph ∧ rc.parentRcn = n := by
  intro n R ho
  rw [hr.ch] at ho
  have hox := hr.same.symm.offers ho
  obtain ⟨r, rc, hg, hp, hn⟩ := hall n R hox
  obtain ⟨rc', g1, g2, g3⟩ := (hr.cls r).survives hg (fun _ _ => ⟨R, by rw [hn]; exact offers_answer hnames hox⟩)
  exact ⟨r, rc', g1, by rw [g2, hp, hr.ph], g3.trans hn⟩

end KM.CaK
