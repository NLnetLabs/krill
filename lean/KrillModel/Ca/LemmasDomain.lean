/-
The model's partial `apply` against the panic domains generated from the source
(`Generated/ApplyDomain.lean`): events and key states in the table's terms, the table's test
`applicable`, and `apply_isSome_eq_applicable`: `apply` is defined exactly where the test holds.
-/
import KrillModel.Ca.LemmasInv
import KrillModel.Generated.ApplyDomain
namespace KM.CaK
open KM.Generated.ApplyDomain KM.AMap

/-- Model variant → source variant. -/
def KVar.gen : KVar → KsVariant
  | .pending => .Pending
  | .active => .Active
  | .rollPending => .RollPending
  | .rollNew => .RollNew
  | .rollOld => .RollOld

/-- Source event kind of a key event. -/
def KeyEv.kind : KeyEv → ApplyEvent
  | .requested _ => .CertificateRequested
  | .received .. => .CertificateReceived
  | .pendingAdded _ => .KeyRollPendingKeyAdded
  | .pendingToNew _ => .KeyPendingToNew
  | .pendingToActive _ => .KeyPendingToActive
  | .activated => .KeyRollActivated
  | .finished => .KeyRollFinished
  | .unexpected _ => .UnexpectedKeyFound

def PKind.event : PKind → ApplyEvent
  | .roa => .RoasUpdated
  | .aspa => .AspaObjectsUpdated
  | .bgpsec => .BgpSecCertificatesUpdated

/-- Source event kind of a model event (`other` stands for the kinds listed in `otherKinds`). -/
def Ev.kind : Ev → ApplyEvent
  | .rcAdded .. => .ResourceClassAdded
  | .rcRemoved _ => .ResourceClassRemoved
  | .key _ e => e.kind
  | .products _ u => u.kind.event
  | .childCerts .. => .ChildCertificatesUpdated
  | .childAdded .. => .ChildAdded
  | .childCertIssued .. => .ChildCertificateIssued
  | .childKeyRevoked .. => .ChildKeyRevoked
  | .childUpdatedResources .. => .ChildUpdatedResources
  | .childUpdatedId _ => .ChildUpdatedIdCert
  | .childMapping .. => .ChildUpdatedResourceClassNameMapping
  | .childRemoved _ => .ChildRemoved
  | .childSuspended _ => .ChildSuspended
  | .childUnsuspended _ => .ChildUnsuspended
  | .parentAdded _ => .ParentAdded
  | .parentRemoved _ => .ParentRemoved
  | .repoUpdated => .RepoUpdated
  | .other => .IdUpdated

/-- The event kinds the model lumps into `Ev.other`. -/
def otherKinds : List ApplyEvent :=
  [.IdUpdated, .ParentUpdated, .RouteAuthorizationAdded, .RouteAuthorizationComment,
   .RouteAuthorizationRemoved, .AspaConfigAdded, .AspaConfigUpdated, .AspaConfigRemoved,
   .BgpSecDefinitionAdded, .BgpSecDefinitionUpdated, .BgpSecDefinitionRemoved, .RtaSigned, .RtaPrepared]

def allVariants : List KsVariant := [.Pending, .Active, .RollPending, .RollNew, .RollOld]

/-- The child an event needs. -/
def Ev.child? : Ev → Option Handle
  | .childCertIssued ch .. => some ch
  | .childKeyRevoked ch .. => some ch
  | .childUpdatedResources ch _ => some ch
  | .childUpdatedId ch => some ch
  | .childMapping ch .. => some ch
  | .childSuspended ch => some ch
  | .childUnsuspended ch => some ch
  | _ => none

/-- Applicability of an event in a state **according to the generated table**: the class is
there if the arm unwraps a class look-up, its key state is one of the variants whose `apply_*`
arm does not panic, the child is there if the arm unwraps a child look-up. -/
def applicable (s : Ca) (e : Ev) : Bool :=
  let d := dom e.kind
  !d.otherPanic &&
  (!d.needsClass ||
    match e.rcn? with
    | none => false
    | some r =>
      match get s.classes r with
      | none => false
      | some rc => d.okVariants.contains rc.keys.variant.gen) &&
  (!d.needsChild ||
    match e.child? with
    | none => false
    | some ch => (get s.children ch).isSome)

theorem keyApply_isSome (ks : KeyState) (e : KeyEv) :
    (ks.apply e).isSome = (dom e.kind).okVariants.contains ks.variant.gen := by
  cases e <;> cases ks <;> first | rfl | (simp only [KeyState.apply, KeyState.applyReceived]; split <;> rfl)

/-- The model's `apply` is defined exactly where the table says the code does not panic.  For an
event on a constructor, `applicable` evaluates (through the generated table) to the look-ups the
arm of `apply` makes; what is left is that `withClass` / `withChild` succeed exactly when the
look-up does. -/
theorem apply_isSome_eq_applicable (s : Ca) (e : Ev) : (s.apply e).isSome = applicable s e := by
  have all (v : KVar) : allVariants.contains v.gen = true := by cases v <;> rfl
  -- `vs`: the variants of the key state on which `f` succeeds
  have cls (r : Rcn) (f : Rc → Option Rc) (vs : List KsVariant)
      (hf : ∀ rc, (f rc).isSome = vs.contains rc.keys.variant.gen) :
      (s.withClass r f).isSome =
        match get s.classes r with
        | none => false
        | some rc => vs.contains rc.keys.variant.gen := by
    rw [withClass_isSome]
    cases get s.classes r with
    | none => rfl
    | some rc => exact hf rc
  have cls' (r : Rcn) (f : Rc → Rc) := cls r (fun rc => some (f rc)) allVariants fun _ => (all _).symm
  cases e with
  | key r ke =>
    have h := (cls r (fun rc => (rc.keys.apply ke).map fun ks => { rc with keys := ks }) (dom ke.kind).okVariants
      fun rc => Option.isSome_map.trans (keyApply_isSome rc.keys ke)).trans (Bool.and_true _).symm
    cases ke with
    | unexpected k => rfl
    | _ => exact h
  | products r u => cases u with | mk k a d => cases k <;> exact (cls' r _).trans (Bool.and_true _).symm
  | childCerts r u =>
    refine Eq.trans ?_ ((cls' r fun rc => { rc with certs := rc.certs.applyUpd u }).trans (Bool.and_true _).symm)
    simp only [Ca.apply]
    cases s.withClass r _ <;> rfl
  | childKeyRevoked ch r k =>
    refine Eq.trans ?_ (congrArg (· && (get s.children ch).isSome)
      (cls' r fun rc => { rc with certs := rc.certs.removeRevoked k }))
    simp only [Ca.apply]
    cases hw : s.withClass r fun rc => some { rc with certs := rc.certs.removeRevoked k } with
    | none => rfl
    | some s' =>
      obtain ⟨_, _, _, _, rfl⟩ := Ca.withClass_some hw
      exact withChild_isSome _ ch _
  | childCertIssued ch _ _ | childUpdatedResources ch _ | childUpdatedId ch | childMapping ch _ _
  | childSuspended ch | childUnsuspended ch => exact withChild_isSome s ch _
  | _ => rfl
end KM.CaK
