/- The repository synchronisation model of `Ca/Objects.lean` (`syncDelta`, `applyDelta`): after a synchronisation the
server holds exactly the element map, whatever it held before. -/
import KrillModel.Ca.Objects
import KrillModel.Ca.PubBaseLemmas
namespace KM.Ca.Pub

theorem elementMap_nodup (elements : List (Uri × Nat)) : (keys (elementMap elements)).Nodup :=
  nodup_foldl_put elements [] List.nodup_nil

/-- One step of the update list of `syncDelta`: uri, new hash, old hash of an object whose hash has changed. -/
def updStep (all : List (Uri × Nat)) (e : Uri × Nat) : Option (Uri × Nat × Nat) :=
  match get? all e.1 with
  | some h => if h = e.2 then none else some (e.1, h, e.2)
  | none => none

theorem updStep_key {all : List (Uri × Nat)} {e : Uri × Nat} {p : Uri × Nat × Nat} (h : updStep all e = some p) :
    p.1 = e.1 := by
  unfold updStep at h
  split at h
  · split at h
    · cases h
    · cases h; rfl
  · cases h

theorem update_keys_sublist (all listReply : List (Uri × Nat)) :
    (keys (listReply.filterMap (updStep all))).Sublist (keys listReply) := by
  induction listReply with
  | nil => exact List.Sublist.slnil
  | cons e l ih =>
    rw [List.filterMap_cons]
    cases hs : updStep all e with
    | none => exact List.Sublist.cons _ ih
    | some p =>
      simp only [keys, List.map_cons, updStep_key hs]
      exact List.Sublist.cons_cons _ ih

theorem get?_update (all listReply : List (Uri × Nat)) (hn : (keys listReply).Nodup) (u : Uri) :
    get? (listReply.filterMap (updStep all)) u =
      match get? listReply u, get? all u with
      | some h0, some h => if h = h0 then none else some (h, h0)
      | _, _ => none := by
  rw [get?_filterMap _ (fun _ _ h => updStep_key h) _ hn]
  cases get? listReply u with
  | none => rfl
  | some h0 =>
    simp only [Option.bind_some, updStep]
    cases get? all u with
    | none => rfl
    | some h => by_cases heq : h = h0 <;> simp [heq]

/-- What is left of the server's content once the withdrawals are done. -/
theorem get?_withdrawn (server elements : List (Uri × Nat)) (u : Uri) :
    get? ((syncDelta server elements).withdraw.foldl (fun m w => erase m w.1) server) u =
      if has (elementMap elements) u then get? server u else none := by
  -- the URIs withdrawn are the server's own that the element map lacks
  have hw : (syncDelta server elements).withdraw.map (·.1) =
      (keys server).filter fun k => !has (elementMap elements) k :=
    keys_filter server fun k => !has (elementMap elements) k
  rw [get?_foldl_erase, hw]
  cases hh : has (elementMap elements) u
  · by_cases hk : u ∈ keys server
    · exact if_pos (List.mem_filter.mpr ⟨hk, by rw [hh]; rfl⟩)
    · exact (if_neg fun h => hk (List.mem_filter.mp h).1).trans (get?_none_iff.mpr hk)
  · exact if_neg fun h => by have := (List.mem_filter.mp h).2; rw [hh] at this; cases this

/-- After applying the delta computed from the server's own content, the content is the element map. -/
theorem syncRepo_exact (server elements : List (Uri × Nat)) (hn : (keys server).Nodup) :
    (keys (applyDelta server (syncDelta server elements))).Nodup ∧
    ∀ u, get? (applyDelta server (syncDelta server elements)) u = get? (elementMap elements) u := by
  have hu : (syncDelta server elements).update = server.filterMap (updStep (elementMap elements)) := rfl
  have hupd : (keys (syncDelta server elements).update).Nodup :=
    List.Nodup.sublist (update_keys_sublist _ _) hn
  have hpubN : (keys ((elementMap elements).filter fun e => !has server e.1)).Nodup := by
    rw [keys_filter (elementMap elements) (fun k => !has server k)]
    exact (elementMap_nodup elements).filter _
  constructor
  · simp only [applyDelta]
    exact nodup_foldl_put _ _ (List.foldlRecOn (motive := fun m : List (Uri × Nat) => (keys m).Nodup) _ _
      (nodup_foldl_erase _ _ _ hn) fun _ h _ _ => keys_put_nodup h _ _)
  · intro u
    simp only [applyDelta]
    rw [show (syncDelta server elements).publish = (elementMap elements).filter (fun e => !has server e.1) from rfl,
      get?_foldl_put _ hpubN, get?_foldl_put_map (·.1) _ hupd, get?_withdrawn, hu,
      get?_filter_key (elementMap elements) (fun k => !has server k), get?_update _ _ hn,
      has_eq_isSome, has_eq_isSome]
    -- published if new, updated if changed, kept if unchanged, withdrawn if gone
    cases get? server u with
    | none => cases get? (elementMap elements) u <;> rfl
    | some h0 =>
      cases get? (elementMap elements) u with
      | none => rfl
      | some h => by_cases heq : h = h0 <;> simp [heq]

/-- If the URIs to publish are distinct, the server holds exactly those elements afterwards. -/
theorem mem_sync_iff (server elements : List (Uri × Nat)) (hn : (keys server).Nodup)
    (he : (keys elements).Nodup) (e : Uri × Nat) :
    e ∈ applyDelta server (syncDelta server elements) ↔ e ∈ elements := by
  obtain ⟨sn, sg⟩ := syncRepo_exact server elements hn
  rw [← Prod.eta e, mem_iff_get? sn, mem_iff_get? he, sg, elementMap, get?_foldl_put _ he, get?_nil]
  cases get? elements e.1 <;> rfl

end KM.Ca.Pub
