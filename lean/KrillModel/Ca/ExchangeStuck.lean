/-
Pairs on which the exchange never converges: a sync whose request branch changes nothing, and a
cycle of two syncs.  Used by the counter-models of `Props/C02.lean`.
-/
import KrillModel.Ca.ExchangeConv
import KrillModel.Ca.ExchangePinned
namespace KM.CaK
open KM.Res KM.AMap

theorem Pair.reachable_of_runs (ps cs : List Cmd) (ch ph : Handle) :
    Reachable (Pair.mk (Sys.run {} ps) (Sys.run {} cs) ch ph).parent ∧
    Reachable (Pair.mk (Sys.run {} ps) (Sys.run {} cs) ch ph).child :=
  ⟨reachable_run .init _, reachable_run .init _⟩

/-- A sync with requests to send that the request branch leaves where they are changes nothing. -/
theorem syncWith_of_requests_refused {E : Sys → Cmd → Outcome} {x : Pair} {na : Int}
    (hpend : x.child.ca.hasPendingRequests x.ph = true)
    (hfix : (keys x.child.ca.classes).foldl (fun y r => y.classRequestsWith E r na) x = x) (now : Int)
    (f : List KeyId) : x.syncWith E now na f = x := by
  unfold Pair.syncWith
  rw [if_pos hpend, hfix]

/-- … and the pair never converges: its requests stay open. -/
theorem never_converges_of_requests_refused {x : Pair} {na : Int}
    (h : x.child.ca.hasPendingRequests x.ph = true ∧
      (keys x.child.ca.classes).foldl (fun y r => y.classRequests r na) x = x) (now : Int)
    (fs : List (List KeyId)) : (x.syncs now na fs).converged na = false := by
  rw [syncs_of_fixed (syncWith_of_requests_refused (E := Sys.exec) h.1 h.2 now) fs]
  simp only [Pair.converged, h.1, Bool.not_true, Bool.false_and]

/-- A pair that is back where it was after two syncs without new keys, converged at neither stop, never converges. -/
theorem never_converges_of_two_cycle {z : Pair} {now na : Int} (h2 : z.pinnedSyncs now na [[], []] = z)
    (c0 : z.converged na = false) (c1 : (z.pinnedSyncs now na [[]]).converged na = false) :
    ∀ n, (z.pinnedSyncs now na (List.replicate n [])).converged na = false
  | 0 => c0
  | 1 => c1
  | n + 2 => by
    show ((z.pinnedSyncs now na [[], []]).pinnedSyncs now na (List.replicate n [])).converged na = false
    rw [h2]
    exact never_converges_of_two_cycle h2 c0 c1 n

end KM.CaK
