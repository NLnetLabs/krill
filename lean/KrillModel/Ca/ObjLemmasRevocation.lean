/- Revocation in `Ca/Objects.lean`.  A predicate closed under the set operations (`Closed`) holds along every history of
a key set and of a CA's object store; `RevInv` - the published objects form a map and nothing superseded is forgotten
(`Superseded`) - is such a predicate.  Last, the decision on a child's revocation request (`processChildRevokeKey`)
branch by branch. -/
import KrillModel.Ca.ObjLemmas
namespace KM.Ca.Pub

/-- `I` holds of a fresh set and survives every set operation the 0.16 code produces. -/
structure Closed (t : Timing) (I : KeyObjectSet → Prop) : Prop where
  update : ∀ s u, I s → I (s.update u)
  certs : ∀ s c, c.unsuspended = [] → I s → I (s.updateCerts c)
  reissue : ∀ s i, I s → I (s.reissue t i)
  retire : ∀ s now, I s → I (s.retire now)
  create : ∀ k : NewKey, I (k.create t)

section
variable {t : Timing} {I : KeyObjectSet → Prop} (hI : Closed t I)
include hI

theorem Closed.step {s : KeyObjectSet} {op : SetOp} (hop : op.ok) (h : I s) : I (s.step t op) := by
  cases op with
  | update u => exact hI.update s u h
  | updateCerts c => exact hI.certs s c hop h
  | reissue i => exact hI.reissue s i h
  | retire now => exact hI.retire s now h

theorem Closed.run (ops : List SetOp) (s : KeyObjectSet) (hop : ∀ op ∈ ops, op.ok) (h : I s) : I (s.run t ops) :=
  List.foldlRecOn ops _ h fun _ h op hm => hI.step (hop op hm) h

theorem reIssue_preserves (o : CaObjects) (force : Bool) (now : Nat) (ins : IssueInputs)
    (ho : ∀ s ∈ allSets o, I s) : ∀ s ∈ allSets (reIssue o force now t ins).1, I s := by
  intro s hs
  rcases reIssue_sets o force now t ins s hs with ⟨h1, _⟩ | ⟨s₀, hs₀, i, rfl⟩
  · exact ho s h1
  · exact hI.reissue s₀ i (ho s₀ hs₀)

theorem caStep_preserves {o : CaObjects} {op : CaOp} (hop : op.ok) (ho : ∀ s ∈ allSets o, I s) :
    ∀ s ∈ allSets (caStep t o op), I s := by
  cases op with
  | republish force now ins => exact reIssue_preserves hI o force now ins ho
  | command evs now ins =>
    simp only [caStep, preSave]
    cases hev : applyEvents t o evs with
    | none => exact ho
    | some r =>
      exact reIssue_preserves hI r.1 r.2 now ins
        (applyEvents_forall hI.create (fun _ _ _ hk => hI.step (hk hop)) hev ho)

theorem caRun_preserves (ops : List CaOp) (o : CaObjects) (hop : ∀ op ∈ ops, op.ok) (ho : ∀ s ∈ allSets o, I s) :
    ∀ s ∈ allSets (caRun t o ops), I s :=
  List.foldlRecOn (motive := fun o => ∀ s ∈ allSets o, I s) ops _ ho
    fun _ ho op hm => caStep_preserves hI (hop op hm) ho

end

/-- Every `(serial, notAfter)` ever published is currently published, or on the revocation list,
or had expired when expired revocations were dropped. -/
def Superseded (s : KeyObjectSet) : Prop :=
  ∀ x ∈ s.ever, (∃ e ∈ s.published, (e.2.serial, e.2.expires) = x) ∨
    (⟨x.1, x.2⟩ : Revocation) ∈ s.revocations ∨ x.2 ≤ s.maxNow

/-- The invariant: the published objects form a map and nothing superseded is forgotten. -/
def RevInv (s : KeyObjectSet) : Prop := (keys s.published).Nodup ∧ Superseded s

/-- Nothing superseded is forgotten by a step that records what it publishes, revokes what it drops, and only
forgets revocations that have expired by an instant it records. -/
theorem Superseded.step {s s' : KeyObjectSet} (h : Superseded s)
    (hever : ∀ x ∈ s'.ever, x ∈ s.ever ∨ ∃ e ∈ s'.published, (e.2.serial, e.2.expires) = x)
    (hpub : ∀ e ∈ s.published, e ∈ s'.published ∨ e.2.revoke ∈ s'.revocations ∨ e.2.expires ≤ s'.maxNow)
    (hrev : ∀ r ∈ s.revocations, r ∈ s'.revocations ∨ r.expires ≤ s'.maxNow)
    (hmax : s.maxNow ≤ s'.maxNow) : Superseded s' := by
  intro x hx
  rcases hever x hx with hx | hnew
  · rcases h x hx with ⟨e, he, rfl⟩ | h2 | h3
    · exact (hpub e he).imp_left fun h => ⟨e, h, rfl⟩
    · exact Or.inr (hrev _ h2)
    · exact Or.inr (Or.inr (Nat.le_trans h3 hmax))
  · exact Or.inl hnew

theorem revInv_insert (s : KeyObjectSet) (n : Nat) (o : PubObj) (h : RevInv s) : RevInv (s.insert n o) := by
  obtain ⟨hk, hs⟩ := h
  have hrev : ∀ r ∈ s.revocations, r ∈ (s.insert n o).revocations := by
    intro r hr
    simp only [KeyObjectSet.insert]
    cases get? s.published n
    · exact hr
    · exact List.mem_append_left _ hr
  refine ⟨keys_put_nodup hk n o, hs.step (fun x hx => ?_) (fun e he => ?_) (fun r hr => Or.inl (hrev r hr))
    (Nat.le_refl _)⟩
  · rcases List.mem_append.mp hx with hx | hx
    · exact Or.inl hx
    · exact Or.inr ⟨(n, o), (mem_put ..).mpr (Or.inr rfl), (List.mem_singleton.mp hx).symm⟩
  · by_cases hn : e.1 = n
    · -- the replaced entry is revoked
      have hg : get? s.published n = some e.2 := get?_of_mem hk (hn ▸ he)
      simp only [KeyObjectSet.insert, hg]
      exact Or.inr (Or.inl (List.mem_append_right _ (List.mem_singleton_self _)))
    · exact Or.inl ((mem_put ..).mpr (Or.inl ⟨he, hn⟩))

theorem revInv_remove (s : KeyObjectSet) (n : Nat) (h : RevInv s) : RevInv (s.remove n) := by
  obtain ⟨hk, hs⟩ := h
  unfold KeyObjectSet.remove
  cases hg : get? s.published n with
  | none => exact ⟨hk, hs⟩
  | some old =>
    refine ⟨keys_erase_nodup hk n, hs.step (fun x hx => Or.inl hx) (fun e he => ?_)
      (fun r hr => Or.inl (List.mem_append_left _ hr)) (Nat.le_refl _)⟩
    by_cases hn : e.1 = n
    · have : some e.2 = some old := (get?_of_mem hk (hn ▸ he)).symm.trans hg
      cases this
      exact Or.inr (Or.inl (List.mem_append_right _ (List.mem_singleton_self _)))
    · exact Or.inl (mem_erase.mpr ⟨he, hn⟩)

theorem revInv_update (s : KeyObjectSet) (u : ObjUpdates) (h : RevInv s) : RevInv (s.update u) := by
  unfold KeyObjectSet.update
  exact List.foldlRecOn (motive := RevInv) _ _
    (List.foldlRecOn (motive := RevInv) _ _ h fun s h e _ => revInv_insert s e.1 e.2 h)
    fun s h n _ => revInv_remove s n h

theorem revInv_updateCerts (s : KeyObjectSet) (c : CertUpdates) (hc : c.unsuspended = []) (h : RevInv s) :
    RevInv (s.updateCerts c) := by
  unfold KeyObjectSet.updateCerts
  rw [hc]
  simp only [List.foldl_nil]
  exact List.foldlRecOn (motive := RevInv) _ _
    (List.foldlRecOn (motive := RevInv) _ _
      (List.foldlRecOn (motive := RevInv) _ _ h fun s h n _ => revInv_remove s n h)
      fun s h e _ => revInv_insert s e.1 e.2 h)
    fun s h n _ => revInv_remove s n h

theorem mem_removeExpired_iff {now : Nat} {revs : List Revocation} {r : Revocation} :
    r ∈ removeExpired now revs ↔ r ∈ revs ∧ now < r.expires := by
  simp only [removeExpired, List.mem_filter, decide_eq_true_eq, gt_iff_lt]

theorem mem_removeExpired {now : Nat} {revs : List Revocation} {r : Revocation} (h : r ∈ revs) :
    r ∈ removeExpired now revs ∨ r.expires ≤ now :=
  (Nat.lt_or_ge now r.expires).imp_left fun hlt => mem_removeExpired_iff.mpr ⟨h, hlt⟩

theorem revInv_reissue (s : KeyObjectSet) (t : Timing) (i : IssueIn) (h : RevInv s) : RevInv (s.reissue t i) :=
  ⟨h.1, h.2.step (fun _ hx => Or.inl hx) (fun _ he => Or.inl he)
    (fun _ hr => (mem_removeExpired hr).imp_right fun h => Nat.le_trans h (Nat.le_max_right ..))
    (Nat.le_max_left ..)⟩

theorem revInv_retire (s : KeyObjectSet) (now : Nat) (h : RevInv s) : RevInv (s.retire now) := by
  have key : ∀ r ∈ s.revocations ++ s.published.map (·.2.revoke),
      r ∈ (s.retire now).revocations ∨ r.expires ≤ (s.retire now).maxNow :=
    fun r hr => (mem_removeExpired hr).imp_right fun h => Nat.le_trans h (Nat.le_max_right ..)
  exact ⟨List.nodup_nil, h.2.step (fun _ hx => Or.inl hx)
    (fun e he => Or.inr (key _ (List.mem_append_right _ (List.mem_map.mpr ⟨e, he, rfl⟩))))
    (fun r hr => key r (List.mem_append_left _ hr)) (Nat.le_max_left ..)⟩

/-- A fresh set has published nothing yet. -/
theorem revInv_create (k : NewKey) (t : Timing) : RevInv (k.create t) :=
  ⟨List.nodup_nil, fun _ hx => nomatch hx⟩

theorem revInv_closed (t : Timing) : Closed t RevInv :=
  { update := revInv_update
    certs := revInv_updateCerts
    reissue := fun s => revInv_reissue s t
    retire := revInv_retire
    create := fun k => revInv_create k t }

theorem processChildRevokeKey_unknown_class {res : List Nat} {c : ChildM} {rcn : Nat} (key : Nat)
    (h : c.parentNameForRcn rcn ∉ res) : processChildRevokeKey res c rcn key = .ignored :=
  if_pos h

/-- In a class the parent has, the outcome is read off the child's `used_keys` entry for the key. -/
theorem processChildRevokeKey_known_class {res : List Nat} {c : ChildM} {rcn : Nat} (key : Nat)
    (h : c.parentNameForRcn rcn ∈ res) :
    processChildRevokeKey res c rcn key =
      match get? c.usedKeys key with
      | some (some r) => if r = c.parentNameForRcn rcn then .revoked r key else .error
      | some none => .alreadyRevoked
      | none => .error :=
  if_neg (not_not_intro h)

theorem isRevoked_iff {c : ChildM} {key : Nat} : c.isRevoked key = true ↔ get? c.usedKeys key = some none := by
  unfold ChildM.isRevoked
  rcases get? c.usedKeys key with _ | _ | r <;> simp

theorem isIssued_iff {c : ChildM} {key : Nat} :
    c.isIssued key = true ↔ ∃ r, get? c.usedKeys key = some (some r) := by
  unfold ChildM.isIssued
  rcases get? c.usedKeys key with _ | _ | r <;> simp

end KM.Ca.Pub
