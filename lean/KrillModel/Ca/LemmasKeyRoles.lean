/-
The keys of one class by what the exchange does with them (`routed`, `revoked`, `staying`, `leaving`; `plain` key
states) followed through `receive`, the answers to all open requests (`KeyState.answered`), the requests of
`append_entitlement_events` (`KeyState.requestedFor`), `KeyRollFinish`, `syncStep` and `activateStep`.  Nothing here
mentions an aggregate.
-/
import KrillModel.Ca.LemmasKeySync
import KrillModel.Base.Fold
namespace KM.CaK
open KM.Res

/-- The keys `process_received_cert` accepts a certificate for. -/
def KeyState.routed : KeyState → List KeyId
  | .pending p => [p.id]
  | .active c => [c.id]
  | .rollPending p c => [p.id, c.id]
  | .rollNew n c => [n.id, c.id]
  | .rollOld c _ => [c.id]

/-- The key the revocation request of the class is for: the model's `revokeRequest` as a list. -/
def KeyState.revoked : KeyState → List KeyId
  | .rollOld _ o => [o.id]
  | _ => []

/-- The certified keys that stay: the current key, or the new key of a roll. -/
def KeyState.staying : KeyState → List CertKey
  | .active c => [c]
  | .rollNew n _ => [n]
  | .rollOld c _ => [c]
  | _ => []

/-- The key a roll in progress will revoke. -/
def KeyState.leaving : KeyState → List KeyId
  | .rollPending _ c => [c.id]
  | .rollNew _ c => [c.id]
  | .rollOld _ o => [o.id]
  | _ => []

theorem route_ok_iff (ks : KeyState) (ki : KeyId) : (∃ rt, ks.route ki = .ok rt) ↔ ki ∈ ks.routed := by
  fun_cases KeyState.route ks ki <;> simp_all [KeyState.routed]

/-- The keys of a class: those it accepts a certificate for, and the one it asks to revoke. -/
theorem keyIds_eq_routed_append_revoked (ks : KeyState) : ks.keyIds = ks.routed ++ ks.revoked := by
  cases ks <;> rfl

theorem routed_sub_keyIds (ks : KeyState) : ∀ k ∈ ks.routed, k ∈ ks.keyIds := fun _ h => by
  rw [keyIds_eq_routed_append_revoked]; exact List.mem_append_left _ h

theorem revoked_sub_keyIds (ks : KeyState) : ∀ k ∈ ks.revoked, k ∈ ks.keyIds := fun _ h => by
  rw [keyIds_eq_routed_append_revoked]; exact List.mem_append_right _ h

theorem revoked_sub_leaving : (ks : KeyState) → ∀ k ∈ ks.revoked, k ∈ ks.leaving
  | .rollOld .., _, h => h
  | .pending _, _, h | .active _, _, h | .rollPending .., _, h | .rollNew .., _, h => nomatch h

theorem leaving_sub_keyIds : (ks : KeyState) → ∀ k ∈ ks.leaving, k ∈ ks.keyIds
  | .rollPending .., _, h | .rollNew .., _, h | .rollOld .., _, h => List.mem_cons_of_mem _ h
  | .pending _, _, h | .active _, _, h => nomatch h

theorem staying_sub_keyIds : (ks : KeyState) → ∀ k ∈ ks.staying, k.id ∈ ks.keyIds
  | .active _, _, h | .rollNew .., _, h | .rollOld .., _, h => by
    rw [List.mem_singleton.mp h]; exact List.mem_cons_self ..
  | .pending _, _, h | .rollPending .., _, h => nomatch h

theorem staying_not_revoked {ks : KeyState} (hwf : ks.wf = true) : ∀ k ∈ ks.staying, k.id ∉ ks.revoked := by
  cases ks with
  | rollOld c o =>
    simp only [KeyState.wf, Bool.and_eq_true, Bool.not_eq_true', decide_eq_true_eq] at hwf
    simp [KeyState.staying, KeyState.revoked, hwf.2]
  | _ => simp [KeyState.revoked]

theorem certRequests_sublist (ks : KeyState) : ks.certRequests.Sublist ks.keyIds := by
  have one : ∀ (b : Bool) (x : KeyId), (if b then [x] else []).Sublist [x] := fun b x => by cases b <;> simp
  cases ks <;> first | exact one _ _ | exact (one _ _).append (one _ _)

theorem certRequests_sub_keyIds (ks : KeyState) : ∀ ki ∈ ks.certRequests, ki ∈ ks.keyIds :=
  fun _ h => (certRequests_sublist ks).subset h

theorem keyIds_nodup {ks : KeyState} (hwf : ks.wf = true) : ks.keyIds.Nodup := by
  cases ks <;> simp_all [KeyState.keyIds, KeyState.wf]

theorem certRequests_nodup {ks : KeyState} (hwf : ks.wf = true) : ks.certRequests.Nodup :=
  (certRequests_sublist ks).nodup (keyIds_nodup hwf)

theorem revokeRequest_cases (ks : KeyState) :
    (ks.revokeRequest = none ∧ ks.finished = ks) ∨ ∃ c o, ks = .rollOld c o := by
  cases ks <;> first | exact Or.inl ⟨rfl, rfl⟩ | exact Or.inr ⟨_, _, rfl⟩

theorem hasPending_false_iff {ks : KeyState} :
    ks.hasPending = false ↔ ks.certRequests = [] ∧ ks.revokeRequest = none := by
  simp only [KeyState.hasPending, Bool.or_eq_false_iff, Bool.not_eq_false', List.isEmpty_iff,
    Option.isSome_eq_false_iff, Option.isNone_iff_eq_none]

theorem not_pending_revoked {ks : KeyState} (h : ks.hasPending = false) : ks.revoked = [] := by
  cases ks <;> simp_all [KeyState.hasPending, KeyState.revokeRequest, KeyState.revoked]

theorem routed_receive (ks : KeyState) (ki : KeyId) (cert : Cert) : (ks.receive ki cert).routed = ks.routed := by
  cases ks <;> simp only [receive_pending, receive_active, receive_rollPending, receive_rollNew, receive_rollOld,
    apply_ite KeyState.routed] <;> simp only [KeyState.routed, create_id, setIncoming_id, ite_self, ite_eq_right_iff]
  -- the key that received the certificate keeps its identifier; a pending key becomes the key `ki`, which it was
  all_goals intro h; rw [h]

theorem wf_receive {ks : KeyState} (hwf : ks.wf = true) (ki : KeyId) (cert : Cert) :
    (ks.receive ki cert).wf = true := by
  -- `pending`, `active`: `wf` is `true`; in a roll `wf` reads the identifiers and the old key's request flag, which
  -- `receive` leaves as they are: the test is `hwf` itself
  cases ks <;> simp only [receive_pending, receive_active, receive_rollPending, receive_rollNew, receive_rollOld] <;>
    (repeat' split) <;> (try subst_vars) <;> first | rfl | exact hwf

theorem certRequests_answered {ks : KeyState} (hwf : ks.wf = true) (cert : Cert) :
    (ks.answered cert).certRequests = [] := by
  -- every answered or created key has no request open; `hwf` is for `rollOld`, whose old key is not answered and has none
  cases ks <;> simp only [KeyState.answered] <;> (try split) <;>
    simp_all [KeyState.certRequests, answer_req, CertKey.create, KeyState.wf]

theorem answered_keeps (ks : KeyState) (cert : Cert) :
    (ks.answered cert).keyIds = ks.keyIds ∧ (ks.answered cert).leaving = ks.leaving := by
  cases ks <;> simp only [KeyState.answered] <;> (try split) <;>
    simp only [KeyState.keyIds, KeyState.leaving, answer_id, create_id, and_self]

/-- A staying key after the answers either had a request open or is a staying key as it was. -/
theorem staying_answered (ks : KeyState) (cert : Cert) :
    ∀ k' ∈ (ks.answered cert).staying, k'.id ∈ ks.certRequests ∨ k' ∈ ks.staying := by
  have key : ∀ (b : Bool) (x : KeyId), b = true → x ∈ (if b then [x] else []) := fun b x h => by
    rw [if_pos h]; exact List.mem_singleton.mpr rfl
  have stay : ∀ (k k' : CertKey) (L : List KeyId), k' ∈ [k.answer cert] → (k.req = true → k.id ∈ L) →
      k'.id ∈ L ∨ k' ∈ [k] := by
    intro k k' L hk' hL
    rw [List.mem_singleton.mp hk']
    rcases answer_cases k cert with ⟨h, _⟩ | e
    · exact Or.inl (by rw [answer_id]; exact hL h)
    · exact Or.inr (List.mem_singleton.mpr e)
  -- a pending key after the answers: certified if its request was open
  have pend : ∀ (p : PendKey) (k' : CertKey) (L : List KeyId) (a b : KeyState), a.staying = [.create p.id cert] →
      b.staying = [] → k' ∈ (if p.req then a else b).staying → (p.req = true → p.id ∈ L) → k'.id ∈ L := by
    intro p k' L a b ha hb hk' hL
    split at hk'
    · rename_i h
      rw [ha] at hk'
      rw [List.mem_singleton.mp hk']; exact hL h
    · rw [hb] at hk'; cases hk'
  intro k' hk'
  cases ks with
  | pending p => exact Or.inl (pend p k' _ _ _ rfl rfl hk' (key _ _))
  | active c => exact stay c k' _ hk' (key _ _)
  | rollPending p c => exact Or.inl (pend p k' _ _ _ rfl rfl hk' fun h => List.mem_append_left _ (key _ _ h))
  | rollNew n c => exact stay n k' _ hk' fun h => List.mem_append_left _ (key _ _ h)
  | rollOld c o => exact stay c k' _ hk' fun h => List.mem_append_left _ (key _ _ h)

theorem certRequests_finished {ks : KeyState} (hwf : ks.wf = true) : ks.finished.certRequests = ks.certRequests := by
  cases ks with
  | rollOld c o =>
    simp only [KeyState.wf, Bool.and_eq_true, Bool.not_eq_true', decide_eq_true_eq] at hwf
    simp [KeyState.finished, KeyState.certRequests, hwf.1]
  | _ => rfl

theorem routed_finished_eq (ks : KeyState) : ks.finished.routed = ks.finished.keyIds := by
  cases ks <;> rfl

theorem keyIds_finished (ks : KeyState) : ks.finished.keyIds = ks.routed := by
  cases ks <;> rfl

theorem keyIds_finished_sub (ks : KeyState) : ∀ k ∈ ks.finished.keyIds, k ∈ ks.keyIds := fun k h =>
  routed_sub_keyIds ks k (keyIds_finished ks ▸ h)

theorem leaving_finished : (ks : KeyState) → ∀ k ∈ ks.finished.leaving, k ∈ ks.leaving ∧ k ∉ ks.revoked
  | .rollOld .., _, h => nomatch h
  | .pending _, _, h | .active _, _, h | .rollPending .., _, h | .rollNew .., _, h => ⟨h, List.not_mem_nil⟩

theorem staying_finished (ks : KeyState) : ks.finished.staying = ks.staying := by
  cases ks <;> rfl

theorem hasPending_finished_nil {ks : KeyState} (h : ks.finished.certRequests = []) : ks.finished.hasPending = false :=
  hasPending_false_iff.mpr ⟨h, by cases ks <;> rfl⟩

/-- Making requests changes request flags only: the identifiers of the keys, the key about to be revoked, and the
identifiers and certificates of the keys that stay are as they were. -/
theorem requestedFor_keeps (ks : KeyState) (ent : Entitlement) (now : Int) :
    (ks.requestedFor ent now).keyIds = ks.keyIds ∧ (ks.requestedFor ent now).leaving = ks.leaving ∧
    (ks.requestedFor ent now).staying.map (fun k => (k.id, k.cert)) = ks.staying.map fun k => (k.id, k.cert) := by
  have h := Fold.foldl_keeps (step := fun k ki => k.applyRequested ki)
    (fun ks : KeyState => (ks.keyIds, ks.leaving, ks.staying.map fun k => (k.id, k.cert)))
    (l := ks.requestKeys ent now)
    (fun ki _ ks => by cases ks <;> simp only [KeyState.applyRequested] <;> (try split) <;> rfl) ks
  exact ⟨congrArg (·.1) h, congrArg (·.2.1) h, congrArg (·.2.2) h⟩

theorem keyIds_requestedFor (ks : KeyState) (ent : Entitlement) (now : Int) :
    (ks.requestedFor ent now).keyIds = ks.keyIds :=
  (requestedFor_keeps ks ent now).1

theorem leaving_requestedFor (ks : KeyState) (ent : Entitlement) (now : Int) :
    (ks.requestedFor ent now).leaving = ks.leaving :=
  (requestedFor_keeps ks ent now).2.1

theorem staying_requestedFor (ks : KeyState) (ent : Entitlement) (now : Int) :
    ∀ k' ∈ (ks.requestedFor ent now).staying, ∃ k ∈ ks.staying, k.id = k'.id ∧ k.cert = k'.cert := by
  intro k' hk'
  have hm := List.mem_map_of_mem (f := fun k : CertKey => (k.id, k.cert)) hk'
  rw [(requestedFor_keeps ks ent now).2.2] at hm
  obtain ⟨k, hk, e⟩ := List.mem_map.mp hm
  exact ⟨k, hk, congrArg Prod.fst e, congrArg Prod.snd e⟩

theorem keyIds_syncStep {ks : KeyState} (hwf : ks.wf = true) (o : Offer) (now : Int) :
    ∀ k ∈ (ks.syncStep o now).keyIds, k ∈ ks.keyIds := by
  cases hp : ks.hasPending with
  | true => rw [syncStep_of_pending hwf hp, (answered_keeps _ _).1]; exact keyIds_finished_sub ks
  | false => rw [syncStep_of_not_pending hp, keyIds_requestedFor]; exact fun _ h => h

theorem staying_syncStep {ks : KeyState} (hwf : ks.wf = true) (hp : ks.hasPending = true) (o : Offer) (now : Int) :
    ∀ k' ∈ (ks.syncStep o now).staying, k'.id ∈ ks.finished.certRequests ∨ k' ∈ ks.staying := by
  rw [syncStep_of_pending hwf hp, ← staying_finished ks]
  exact staying_answered _ _

theorem leaving_syncStep {ks : KeyState} (hwf : ks.wf = true) (o : Offer) (now : Int) :
    ∀ k ∈ (ks.syncStep o now).leaving, k ∈ ks.leaving ∧ k ∉ ks.revoked := by
  cases hp : ks.hasPending with
  | true => rw [syncStep_of_pending hwf hp, (answered_keeps _ _).2]; exact leaving_finished ks
  | false =>
    rw [syncStep_of_not_pending hp, leaving_requestedFor, not_pending_revoked hp]
    exact fun k hk => ⟨hk, List.not_mem_nil⟩

theorem syncStep_clears {ks : KeyState} (hwf : ks.wf = true) (hp : ks.hasPending = true) (o : Offer) (now : Int) :
    (ks.syncStep o now).hasPending = false := by
  have hrev : ∀ cert, (ks.finished.answered cert).revokeRequest = none := fun cert => by
    cases ks <;> simp only [KeyState.finished, KeyState.answered] <;> (try split) <;> rfl
  rw [syncStep_of_pending hwf hp, KeyState.hasPending, certRequests_answered (wf_finished hwf), hrev]
  rfl

theorem keyIds_activateStep (ks : KeyState) : ∀ k ∈ ks.activateStep.keyIds, k ∈ ks.keyIds := fun k hk => by
  rcases activateStep_cases ks with h | ⟨n, c, rfl, h⟩ <;> rw [h] at hk <;> exact hk

theorem leaving_activateStep (ks : KeyState) : ∀ k ∈ ks.activateStep.leaving, k ∈ ks.leaving := fun k hk => by
  rcases activateStep_cases ks with h | ⟨n, c, rfl, h⟩ <;> rw [h] at hk <;> exact hk

theorem staying_activateStep (ks : KeyState) : ∀ k ∈ ks.activateStep.staying, k ∈ ks.staying := fun k hk => by
  rcases activateStep_cases ks with h | ⟨n, c, rfl, h⟩ <;> rw [h] at hk <;> exact hk

/-- The key state is `pending` or `active`: the model's `rolling = false`, in the form that `cases` decides. -/
def KeyState.plain : KeyState → Prop
  | .pending _ => True
  | .active _ => True
  | _ => False

theorem plain_of_not_rolling {ks : KeyState} (h : ks.rolling = false) : ks.plain := by
  cases ks with
  | pending _ => trivial
  | active _ => trivial
  | rollPending _ _ => cases h
  | rollNew _ _ => cases h
  | rollOld _ _ => cases h

theorem hasPending_pending (ki : KeyId) (b : Bool) : (KeyState.pending ⟨ki, b⟩).hasPending = b := by
  cases b <;> rfl

theorem hasPending_active (ki : KeyId) (cert : Cert) (b : Bool) : (KeyState.active ⟨ki, cert, b⟩).hasPending = b := by
  cases b <;> rfl

theorem plain_facts {ks : KeyState} (h : ks.plain) : ks.wf = true ∧ ks.revoked = [] ∧ ks.finished = ks := by
  cases ks <;> first | exact ⟨rfl, rfl, rfl⟩ | cases h

/-- A key state without a roll that has something to send: one certificate request, and its answer makes the
class `active` with the answer's certificate. -/
theorem plain_pending {ks : KeyState} (hpl : ks.plain) (hp : ks.hasPending = true) :
    ∃ ki, ks.certRequests = [ki] ∧ ∀ o now, ks.syncStep o now = .active ⟨ki, o.cert, false⟩ := by
  cases ks with
  | pending p =>
    obtain ⟨ki, b⟩ := p
    cases (hasPending_pending ki b).symm.trans hp
    exact ⟨ki, rfl, syncStep_pending ⟨ki, true⟩⟩
  | active c =>
    obtain ⟨ki, cert, b⟩ := c
    cases (hasPending_active ki cert b).symm.trans hp
    exact ⟨ki, rfl, syncStep_active ⟨ki, cert, true⟩⟩
  | rollPending _ _ => cases hpl
  | rollNew _ _ => cases hpl
  | rollOld _ _ => cases hpl

theorem certRequests_ne_nil_of_plain_pending {ks : KeyState} (hpl : ks.plain) (h : ks.hasPending = true) :
    ks.certRequests ≠ [] := by
  obtain ⟨ki, h1, _⟩ := plain_pending hpl h
  rewrite [h1]; exact List.cons_ne_nil _ _

/-- What the entitlement loop makes of a key state without a roll and without an open request:
the request is made where the key wants an update, and an `active` key keeps its certificate. -/
theorem requestedFor_quiet {ks : KeyState} (hpl : ks.plain) (hq : ks.hasPending = false) (ent : Entitlement)
    (now : Int) :
    (ks.requestedFor ent now).plain ∧
    ((ks.requestedFor ent now).hasPending = true ∨
      ∃ k, ks.requestedFor ent now = .active k ∧ k.req = false ∧ k.wantsUpdate ent.res ent.na now = false) ∧
    ∀ k, ks.requestedFor ent now = .active k → ∃ k0, ks = .active k0 ∧ k0.id = k.id ∧ k0.cert = k.cert := by
  cases ks with
  | pending p =>
    obtain ⟨ki, b⟩ := p
    cases (hasPending_pending ki b).symm.trans hq
    exact ⟨trivial, Or.inl rfl, fun k hk => nomatch hk⟩
  | active c =>
    obtain ⟨ki, cert, b⟩ := c
    cases (hasPending_active ki cert b).symm.trans hq
    have hsame : ∀ b' k, KeyState.active ⟨ki, cert, b'⟩ = .active k →
        ∃ k0, KeyState.active ⟨ki, cert, false⟩ = .active k0 ∧ k0.id = k.id ∧ k0.cert = k.cert :=
      fun b' k hk => ⟨_, rfl, by cases hk; exact ⟨rfl, rfl⟩⟩
    cases hw : (CertKey.mk ki cert false).wantsUpdate ent.res ent.na now with
    | true =>
      have hreq : (KeyState.active ⟨ki, cert, false⟩).requestedFor ent now = .active ⟨ki, cert, true⟩ := by
        simp only [KeyState.requestedFor, KeyState.requestKeys, hw, if_true]; rfl
      rewrite [hreq]
      exact ⟨trivial, Or.inl rfl, hsame true⟩
    | false =>
      have hreq : (KeyState.active ⟨ki, cert, false⟩).requestedFor ent now = .active ⟨ki, cert, false⟩ := by
        simp only [KeyState.requestedFor, KeyState.requestKeys, hw, Bool.false_eq_true, if_false]; rfl
      rewrite [hreq]
      exact ⟨trivial, Or.inr ⟨_, rfl, rfl, hw⟩, hsame false⟩
  | rollPending _ _ => cases hpl
  | rollNew _ _ => cases hpl
  | rollOld _ _ => cases hpl

end KM.CaK
