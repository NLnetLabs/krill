/- The object derivations of `Ca/RoaObjects.lean` (ROAs simple and aggregated, ASPA objects) applied to a state.
Every `create_updates` amounts to `eraseAll (putAll old fresh) unwanted`: the result has an object for exactly the
wanted keys (`mem_keys_reconcile`; this is all there is to say of simple ROAs, and of router certificates, for which
see `C01.bgpsec_exact`), and each carries what the configuration says for its key (`Carries`, `carries_reconcile`:
aggregated ROAs, ASPA objects); the representation invariant is rebuilt from what the entries of the result are.  Renewal keeps keys and authorisations
entry by entry (`SameAuths`: the new objects carry the old ones). -/
import KrillModel.Ca.RoaObjects
import KrillModel.Ca.PubBaseLemmas
namespace KM.Ca.Pub

theorem wf_empty : (({} : Roas)).WF :=
  { simpleKeys := List.nodup_nil, aggKeys := List.nodup_nil, simpleAuth := List.forall_mem_nil _,
    aggGroup := List.forall_mem_nil _, aggAsn := List.forall_mem_nil _, aggNodup := List.forall_mem_nil _,
    aggNonempty := List.forall_mem_nil _, exclusive := Or.inl rfl }

theorem flatMap_auths_eq_keys (m : List (Payload × RoaInfo)) (h : ∀ e ∈ m, e.2.auths = [e.1]) :
    m.flatMap (·.2.auths) = keys m := by
  rw [keys, List.map_eq_flatMap, List.flatMap_def, List.flatMap_def, List.map_congr_left h]

theorem not_aggregating_nil (r : Roas) (hg : ∀ e ∈ r.agg, e.1.group = none) (h : r.isAggregating = false) :
    r.agg = [] := by
  refine List.eq_nil_iff_forall_not_mem.mpr fun e he => List.any_eq_false.mp h e he ?_
  rw [hg e he]; rfl

theorem aggregating_simple_nil (r : Roas) (hr : r.WF) (h : r.isAggregating = true) : r.simple = [] := by
  rcases hr.exclusive with h1 | h1
  · exact h1
  · simp [Roas.isAggregating, h1] at h

section Carries
variable {κ ν δ : Type}

/-- The object map `m` has an entry for exactly the keys of the configuration `d`, and the entry of a key
carries (`R`) what the configuration says for it. -/
structure Carries (R : κ → ν → δ → Prop) (m : List (κ × ν)) (d : List (κ × δ)) : Prop where
  ofObject : ∀ e ∈ m, ∃ c, (e.1, c) ∈ d ∧ R e.1 e.2 c
  ofEntry : ∀ c ∈ d, ∃ v, (c.1, v) ∈ m ∧ R c.1 v c.2

/-- What is read off the objects is what is read off the configuration. -/
theorem Carries.mem_flatMap {α : Type} {R : κ → ν → δ → Prop} {m : List (κ × ν)} {d : List (κ × δ)}
    (h : Carries R m d) {f : ν → List α} {g : δ → List α} (hR : ∀ k v c, R k v c → ∀ x, x ∈ f v ↔ x ∈ g c) (x : α) :
    x ∈ m.flatMap (fun e => f e.2) ↔ x ∈ d.flatMap (fun c => g c.2) := by
  simp only [List.mem_flatMap]
  constructor
  · rintro ⟨e, he, hx⟩
    obtain ⟨c, hc, hr⟩ := h.ofObject e he
    exact ⟨_, hc, (hR _ _ _ hr x).mp hx⟩
  · rintro ⟨c, hc, hx⟩
    obtain ⟨v, hv, hr⟩ := h.ofEntry c hc
    exact ⟨_, hv, (hR _ _ _ hr x).mpr hx⟩

/-- `create_updates`, applied: objects are issued (`fresh`) for the wanted keys that need one, the objects of
unwanted keys go.  When every wanted key without a fresh object has an old one that carries its configuration,
the result carries the configuration. -/
theorem carries_reconcile [DecidableEq κ] {R : κ → ν → δ → Prop} {old fresh : List (κ × ν)} {want : List (κ × δ)}
    {unwanted : List κ} (hold : (keys old).Nodup) (hwant : (keys want).Nodup)
    (hfresh : ∀ e ∈ fresh, ∃ c, (e.1, c) ∈ want ∧ R e.1 e.2 c)
    (hkept : ∀ c ∈ want, c.1 ∉ keys fresh → ∃ v, (c.1, v) ∈ old ∧ R c.1 v c.2)
    (hunw : ∀ k, k ∈ unwanted ↔ k ∈ keys old ∧ k ∉ keys want) :
    Carries R (eraseAll (putAll old fresh) unwanted) want := by
  constructor
  · intro e he
    rw [mem_eraseAll, mem_putAll] at he
    obtain ⟨⟨hin, hnf⟩ | hnew, hnu⟩ := he
    · -- an old object that stays: its key is wanted and has no fresh object, so it is the one that carries
      have hkw : e.1 ∈ keys want := Decidable.by_contra fun h => hnu ((hunw _).mpr ⟨mem_keys_of_mem hin, h⟩)
      obtain ⟨c, hc⟩ := mem_keys.mp hkw
      obtain ⟨v, hv, hr⟩ := hkept _ hc hnf
      exact ⟨c, hc, nodup_keys_unique hold hv hin ▸ hr⟩
    · exact hfresh e hnew
  · intro c hc
    have hnu : c.1 ∉ unwanted := fun h => ((hunw _).mp h).2 (mem_keys_of_mem hc)
    by_cases hf : c.1 ∈ keys fresh
    · obtain ⟨v, hv⟩ := mem_keys.mp hf
      obtain ⟨c', hc', hr⟩ := hfresh _ hv
      exact ⟨v, mem_eraseAll.mpr ⟨mem_putAll.mpr (Or.inr hv), hnu⟩, nodup_keys_unique hwant hc' hc ▸ hr⟩
    · obtain ⟨v, hv, hr⟩ := hkept c hc hf
      exact ⟨v, mem_eraseAll.mpr ⟨mem_putAll.mpr (Or.inl ⟨hv, hf⟩), hnu⟩, hr⟩

end Carries

/-- Simple ROAs after `update_simple` applied. -/
def simpleAfter (simple : List (Payload × RoaInfo)) (rel : List Payload) (mintS : Payload → ObjMeta) :
    List (Payload × RoaInfo) :=
  eraseAll (putAll simple ((rel.filter fun p => !has simple p).map fun a => (a, ⟨[a], mintS a⟩)))
    ((keys simple).filter fun p => decide (p ∉ rel))

theorem simpleAfter_spec (simple : List (Payload × RoaInfo)) (rel : List Payload) (mintS : Payload → ObjMeta)
    (hk : (keys simple).Nodup) (ha : ∀ e ∈ simple, e.2.auths = [e.1]) (hrel : rel.Nodup) :
    (keys (simpleAfter simple rel mintS)).Nodup ∧
    (∀ e ∈ simpleAfter simple rel mintS, e.2.auths = [e.1]) ∧
    (∀ p, p ∈ keys (simpleAfter simple rel mintS) ↔ p ∈ rel) := by
  have hU : (keys ((rel.filter fun p => !has simple p).map fun a => (a, (⟨[a], mintS a⟩ : RoaInfo)))).Nodup := by
    rw [keys_map_mk]; exact hrel.filter _
  refine ⟨nodup_keys_eraseAll (nodup_keys_putAll hk hU) _, ?_, ?_⟩
  · intro e he
    simp only [simpleAfter] at he
    rw [mem_eraseAll, mem_putAll] at he
    rcases he.1 with ⟨h1, _⟩ | h1
    · exact ha e h1
    · rw [List.mem_map] at h1
      obtain ⟨a, _, rfl⟩ := h1
      rfl
  · refine mem_keys_reconcile (fun p => ?_) (fun p => ?_)
    · rw [keys_map_mk, List.mem_filter, Bool.not_eq_true', ← Bool.not_eq_true, has_iff]
    · rw [List.mem_filter, decide_eq_true_eq]

theorem toAggregates_mem {rel : List Payload} {d : AggKey × List Payload} (h : d ∈ toAggregates rel) :
    d.1.group = none ∧ d.2 = rel.filter (fun p => p.asn = d.1.asn) ∧ ∃ p ∈ rel, p.asn = d.1.asn := by
  simp only [toAggregates, List.mem_map] at h
  obtain ⟨a, ha, rfl⟩ := h
  rw [mem_dedup, List.mem_map] at ha
  exact ⟨rfl, rfl, ha⟩

theorem mem_toAggregates {rel : List Payload} {p : Payload} (h : p ∈ rel) :
    ((⟨p.asn, none⟩ : AggKey), rel.filter (fun q => q.asn = p.asn)) ∈ toAggregates rel := by
  simp only [toAggregates, List.mem_map]
  exact ⟨p.asn, mem_dedup.mpr (List.mem_map.mpr ⟨p, h, rfl⟩), rfl⟩

theorem keys_toAggregates_nodup (rel : List Payload) : (keys (toAggregates rel)).Nodup := by
  simp only [toAggregates, keys, List.map_map, Function.comp_def]
  have h := nodup_dedup (rel.map (·.asn))
  exact List.Pairwise.map _ (fun a b hab h' => hab (by injection h')) h

/-- Aggregated ROAs after `update_aggregate` applied. -/
def aggAfter (r : Roas) (rel : List Payload) (mintA : AggKey → ObjMeta) : List (AggKey × RoaInfo) :=
  eraseAll (putAll r.agg (((toAggregates rel).filter (needsAgg r)).map fun d => (d.1, ⟨d.2, mintA d.1⟩)))
    ((keys r.agg).filter fun k => decide (k ∉ keys (toAggregates rel)))

theorem mem_flatMap_toAggregates (rel : List Payload) (p : Payload) :
    p ∈ (toAggregates rel).flatMap (fun c => c.2) ↔ p ∈ rel := by
  rw [List.mem_flatMap]
  constructor
  · rintro ⟨d, hd, hp⟩
    rw [(toAggregates_mem hd).2.1] at hp
    exact (List.mem_filter.mp hp).1
  · exact fun hp => ⟨_, mem_toAggregates hp, List.mem_filter.mpr ⟨hp, by simp⟩⟩

/-- An aggregated ROA carries the authorisations wanted for its key when it has the same members. -/
theorem aggAfter_carries (r : Roas) (rel : List Payload) (mintA : AggKey → ObjMeta) (hk : (keys r.agg).Nodup) :
    Carries (fun _ (v : RoaInfo) c => ∀ x, x ∈ c ↔ x ∈ v.auths) (aggAfter r rel mintA) (toAggregates rel) := by
  refine carries_reconcile hk (keys_toAggregates_nodup rel) (fun e he => ?_) (fun c hc hnf => ?_)
    (fun k => by rw [List.mem_filter, decide_eq_true_eq])
  · obtain ⟨d, hd, rfl⟩ := List.mem_map.mp he
    exact ⟨d.2, (List.mem_filter.mp hd).1, fun _ => Iff.rfl⟩
  · -- not re-issued: the aggregate exists with the same members
    rw [keys_map_snd] at hnf
    have hn : needsAgg r c = false := Bool.eq_false_iff.mpr fun hn => hnf (mem_keys_of_mem (List.mem_filter.mpr ⟨hc, hn⟩))
    unfold needsAgg at hn
    split at hn
    · next ex hg => exact ⟨ex, get?_some_mem hg, sameMembers_iff.mp ((Bool.not_eq_false' ..).mp hn)⟩
    · cases hn

/-- What holds of the old aggregates and of the wanted ones holds of the aggregates after the update. -/
theorem aggAfter_forall (r : Roas) (rel : List Payload) (mintA : AggKey → ObjMeta)
    {Q : AggKey → List Payload → Prop} (hold : ∀ e ∈ r.agg, Q e.1 e.2.auths)
    (hnew : ∀ d ∈ toAggregates rel, Q d.1 d.2) : ∀ e ∈ aggAfter r rel mintA, Q e.1 e.2.auths := by
  intro e he
  simp only [aggAfter] at he
  rw [mem_eraseAll, mem_putAll] at he
  rcases he.1 with ⟨h, _⟩ | h
  · exact hold e h
  · obtain ⟨d, hd, rfl⟩ := List.mem_map.mp h
    exact hnew d (List.mem_filter.mp hd).1

theorem flatMap_auths_nodup (m : List (AggKey × RoaInfo)) (hk : (keys m).Nodup)
    (hg : ∀ e ∈ m, e.1.group = none) (ha : ∀ e ∈ m, ∀ p ∈ e.2.auths, p.asn = e.1.asn)
    (hn : ∀ e ∈ m, e.2.auths.Nodup) : (m.flatMap (·.2.auths)).Nodup := by
  -- entries with different keys have different origins, hence no payload in common
  refine List.pairwise_flatMap.mpr ⟨hn, (List.pairwise_map.mp hk).imp_of_mem fun {a b} ha' hb' hne x hx y hy hxy => hne ?_⟩
  subst hxy
  have hasn : a.1.asn = b.1.asn := (ha a ha' x hx).symm.trans (ha b hb' x hy)
  have hgrp : a.1.group = b.1.group := (hg a ha').trans (hg b hb').symm
  cases hk1 : a.1; cases hk2 : b.1
  rw [hk1, hk2] at hasn hgrp
  exact congr (congrArg AggKey.mk hasn) hgrp

theorem aggAfter_spec (r : Roas) (hr : r.WF) (rel : List Payload) (hrel : rel.Nodup) (mintA : AggKey → ObjMeta) :
    (keys (aggAfter r rel mintA)).Nodup ∧
    (∀ e ∈ aggAfter r rel mintA, e.1.group = none) ∧
    (∀ e ∈ aggAfter r rel mintA, ∀ p ∈ e.2.auths, p.asn = e.1.asn) ∧
    (∀ e ∈ aggAfter r rel mintA, e.2.auths.Nodup) ∧
    (∀ e ∈ aggAfter r rel mintA, e.2.auths ≠ []) ∧
    (∀ p, p ∈ (aggAfter r rel mintA).flatMap (·.2.auths) ↔ p ∈ rel) := by
  have hkn : (keys (aggAfter r rel mintA)).Nodup := by
    simp only [aggAfter]
    refine nodup_keys_eraseAll (nodup_keys_putAll hr.aggKeys ?_) _
    rw [keys_map_snd]
    exact Assoc.nodup_map_filter (keys_toAggregates_nodup rel) _
  have all := @aggAfter_forall r rel mintA
  refine ⟨hkn, ?_, ?_, ?_, ?_, fun p => ?_⟩
  · exact all (Q := fun k _ => k.group = none) hr.aggGroup fun d hd => (toAggregates_mem hd).1
  · refine all (Q := fun k a => ∀ p ∈ a, p.asn = k.asn) hr.aggAsn fun d hd p hp => ?_
    rw [(toAggregates_mem hd).2.1, List.mem_filter] at hp
    simpa using hp.2
  · refine all (Q := fun _ a => a.Nodup) hr.aggNodup fun d hd => ?_
    rw [(toAggregates_mem hd).2.1]; exact hrel.filter _
  · refine all (Q := fun _ a => a ≠ []) hr.aggNonempty fun d hd hnil => ?_
    obtain ⟨_, h2, p, hp, hpa⟩ := toAggregates_mem hd
    have : p ∈ d.2 := h2 ▸ List.mem_filter.mpr ⟨hp, by simpa using hpa⟩
    rw [hnil] at this; cases this
  · exact ((aggAfter_carries r rel mintA hr.aggKeys).mem_flatMap (fun _ _ _ h x => (h x).symm) p).trans
      (mem_flatMap_toAggregates rel p)

/-- The mode decision: both thresholds, hysteresis, and `total = 0` never switches. -/
theorem mode_eq (r : Roas) (total deagg agg : Nat) :
    r.mode total deagg agg =
      if r.isAggregating then (if 0 < total ∧ total < deagg then .stopAggregating else .aggregate)
      else (if total > agg ∧ 0 < total then .startAggregating else .simple) := by
  unfold Roas.mode
  by_cases h0 : total = 0
  · subst h0; cases r.isAggregating <;> simp
  · have : 0 < total := Nat.pos_of_ne_zero h0
    cases r.isAggregating <;> simp [h0, this]

/-- In every mode the state after `create_updates` is all simple or all aggregated. -/
theorem apply_createUpdates (r : Roas) (cov : Payload → Bool) (routes : List Payload) (deagg agg : Nat)
    (mintS : Payload → ObjMeta) (mintA : AggKey → ObjMeta) (hr : r.WF) :
    let rel := relevant cov routes
    let r' := r.apply (r.createUpdates cov routes deagg agg mintS mintA)
    r' = ⟨simpleAfter r.simple rel mintS, []⟩ ∨ r' = ⟨[], aggAfter r rel mintA⟩ := by
  intro rel r'
  have hm := mode_eq r rel.length deagg agg
  cases hagg : r.isAggregating with
  | false =>
    have hnil := not_aggregating_nil r hr.aggGroup hagg
    rw [hagg, if_neg Bool.false_ne_true] at hm
    split at hm
    · right
      simp only [r', Roas.createUpdates, Roas.plan, rel, hm, Roas.apply, RoaPlan.sign, Roas.planStart,
        Roas.planAggregate, List.map_nil, putAll_nil, eraseAll_keys_self, aggAfter]
    · left
      simp only [r', Roas.createUpdates, Roas.plan, rel, hm, Roas.apply, RoaPlan.sign, Roas.planSimple, hnil,
        List.map_nil, putAll_nil, eraseAll_nil_left, simpleAfter]
  | true =>
    have hs := aggregating_simple_nil r hr hagg
    rw [hagg, if_pos rfl] at hm
    split at hm
    · left
      simp only [r', Roas.createUpdates, Roas.plan, rel, hm, Roas.apply, RoaPlan.sign, Roas.planStop,
        Roas.planSimple, List.map_nil, putAll_nil, eraseAll_keys_self, simpleAfter]
    · right
      simp only [r', Roas.createUpdates, Roas.plan, rel, hm, Roas.apply, RoaPlan.sign, Roas.planAggregate, hs,
        List.map_nil, putAll_nil, eraseAll_nil_left, aggAfter]

theorem createUpdates_exact (r : Roas) (hr : r.WF) (cov : Payload → Bool) (routes : List Payload)
    (hroutes : routes.Nodup) (deagg agg : Nat) (mintS : Payload → ObjMeta) (mintA : AggKey → ObjMeta) :
    let r' := r.apply (r.createUpdates cov routes deagg agg mintS mintA)
    (∀ p, p ∈ r'.payloads ↔ (p ∈ routes ∧ cov p = true)) ∧ r'.payloads.Nodup ∧ r'.WF := by
  intro r'
  have hrel : (relevant cov routes).Nodup := hroutes.filter _
  have hmem : ∀ p, p ∈ relevant cov routes ↔ (p ∈ routes ∧ cov p = true) := fun p => List.mem_filter
  have hcases : r' = _ ∨ r' = _ := apply_createUpdates r cov routes deagg agg mintS mintA hr
  rcases hcases with h | h
  · obtain ⟨s1, s2, s3⟩ := simpleAfter_spec r.simple (relevant cov routes) mintS hr.simpleKeys hr.simpleAuth hrel
    have hp : r'.payloads = keys (simpleAfter r.simple (relevant cov routes) mintS) := by
      rw [h, Roas.payloads, flatMap_auths_eq_keys _ s2]
      exact List.append_nil _
    refine ⟨fun p => by rw [hp, s3, hmem], hp ▸ s1, ?_⟩
    rw [h]
    exact { simpleKeys := s1, aggKeys := List.nodup_nil, simpleAuth := s2, aggGroup := List.forall_mem_nil _
            aggAsn := List.forall_mem_nil _, aggNodup := List.forall_mem_nil _
            aggNonempty := List.forall_mem_nil _, exclusive := Or.inr rfl }
  · obtain ⟨a1, a2, a3, a4, a5, a6⟩ := aggAfter_spec r hr (relevant cov routes) hrel mintA
    have hp : r'.payloads = (aggAfter r (relevant cov routes) mintA).flatMap (·.2.auths) := by
      rw [h, Roas.payloads]
      exact List.nil_append _
    refine ⟨fun p => by rw [hp, a6, hmem], hp ▸ flatMap_auths_nodup _ a1 a2 a3 a4, ?_⟩
    rw [h]
    exact { simpleKeys := List.nodup_nil, aggKeys := a1, simpleAuth := List.forall_mem_nil _, aggGroup := a2
            aggAsn := a3, aggNodup := a4, aggNonempty := a5, exclusive := Or.inl rfl }

section Renew
variable {κ : Type} {ν : Type} [DecidableEq κ]

/-- The entries that `P` selects get the value `g` gives, under their key. -/
def renewMap (m : List (κ × ν)) (P : κ × ν → Bool) (g : κ × ν → ν) : List (κ × ν) :=
  putAll m ((m.filter P).map fun e => (e.1, g e))

theorem nodup_keys_renewMap {m : List (κ × ν)} (hk : (keys m).Nodup) (P : κ × ν → Bool) (g : κ × ν → ν) :
    (keys (renewMap m P g)).Nodup :=
  nodup_keys_putAll hk (by rw [keys_map_snd]; exact Assoc.nodup_map_filter hk P)

theorem mem_renewMap {m : List (κ × ν)} (hk : (keys m).Nodup) (P : κ × ν → Bool) (g : κ × ν → ν) {e' : κ × ν} :
    e' ∈ renewMap m P g ↔ ∃ e ∈ m, e' = if P e = true then (e.1, g e) else e := by
  have hkey : ∀ e ∈ m, e.1 ∈ keys (m.filter P) → P e = true := by
    intro e he h
    obtain ⟨v, hv⟩ := mem_keys.mp h
    obtain ⟨hm, hp⟩ := List.mem_filter.mp hv
    rwa [nodup_keys_unique hk hm (show (e.1, e.2) ∈ m from he)] at hp
  rw [renewMap, mem_putAll, keys_map_snd, List.mem_map]
  constructor
  · rintro (⟨hin, hnot⟩ | ⟨e, he, rfl⟩)
    · exact ⟨e', hin, by rw [if_neg fun hp => hnot (mem_keys_of_mem (List.mem_filter.mpr ⟨hin, hp⟩))]⟩
    · obtain ⟨hm, hp⟩ := List.mem_filter.mp he
      exact ⟨e, hm, by rw [if_pos hp]⟩
  · rintro ⟨e, he, rfl⟩
    by_cases hp : P e = true
    · rw [if_pos hp]
      exact Or.inr ⟨e, List.mem_filter.mpr ⟨he, hp⟩, rfl⟩
    · rw [if_neg hp]
      exact Or.inl ⟨he, fun h => hp (hkey e he h)⟩

end Renew

/-- Entry by entry the same keys and authorisations (the objects may differ). -/
def SameAuths {κ : Type} (m' m : List (κ × RoaInfo)) : Prop :=
  Carries (fun _ v' v => v'.auths = v.auths) m' m

theorem SameAuths.mem_flatMap {κ : Type} {m' m : List (κ × RoaInfo)} (h : SameAuths m' m) (p : Payload) :
    p ∈ m'.flatMap (·.2.auths) ↔ p ∈ m.flatMap (·.2.auths) :=
  Carries.mem_flatMap h (f := (·.auths)) (g := (·.auths)) (fun _ _ _ hr _ => hr ▸ Iff.rfl) p

theorem SameAuths.forall {κ : Type} {m' m : List (κ × RoaInfo)} (h : SameAuths m' m)
    {Q : κ → List Payload → Prop} (hq : ∀ e ∈ m, Q e.1 e.2.auths) : ∀ e' ∈ m', Q e'.1 e'.2.auths := by
  intro e' he'
  obtain ⟨v, hv, hau⟩ := h.ofObject e' he'
  rw [hau]; exact hq _ hv

theorem SameAuths.eq_nil {κ : Type} {m' m : List (κ × RoaInfo)} (h : SameAuths m' m) (hm : m = []) : m' = [] := by
  refine List.eq_nil_iff_forall_not_mem.mpr fun e' he' => ?_
  obtain ⟨_, hv, _⟩ := h.ofObject e' he'
  rw [hm] at hv; cases hv

/-- Well-formedness only looks at keys and authorisations. -/
theorem Roas.WF.of_sameAuths {r r' : Roas} (hr : r.WF) (hs : SameAuths r'.simple r.simple)
    (ha : SameAuths r'.agg r.agg) (hks : (keys r'.simple).Nodup) (hka : (keys r'.agg).Nodup) : r'.WF :=
  { simpleKeys := hks
    aggKeys := hka
    simpleAuth := hs.forall (Q := fun k a => a = [k]) hr.simpleAuth
    aggGroup := ha.forall (Q := fun k _ => k.group = none) hr.aggGroup
    aggAsn := ha.forall (Q := fun k a => ∀ p ∈ a, p.asn = k.asn) hr.aggAsn
    aggNodup := ha.forall (Q := fun _ a => a.Nodup) hr.aggNodup
    aggNonempty := ha.forall (Q := fun _ a => a ≠ []) hr.aggNonempty
    exclusive := hr.exclusive.imp hs.eq_nil ha.eq_nil }

theorem renewMap_auths {κ : Type} [DecidableEq κ] {m : List (κ × RoaInfo)} (hk : (keys m).Nodup)
    (P : κ × RoaInfo → Bool) {g : κ × RoaInfo → RoaInfo} (hg : ∀ e ∈ m, (g e).auths = e.2.auths) :
    SameAuths (renewMap m P g) m := by
  constructor
  · intro e' he'
    obtain ⟨e, he, rfl⟩ := (mem_renewMap hk P g).mp he'
    by_cases hp : P e = true
    · rw [if_pos hp]; exact ⟨e.2, he, hg e he⟩
    · rw [if_neg hp]; exact ⟨e.2, he, rfl⟩
  · intro e he
    by_cases hp : P e = true
    · exact ⟨g e, (mem_renewMap hk P g).mpr ⟨e, he, by rw [if_pos hp]⟩, hg e he⟩
    · exact ⟨e.2, (mem_renewMap hk P g).mpr ⟨e, he, by rw [if_neg hp]⟩, rfl⟩

theorem apply_createRenewal (r : Roas) (force : Bool) (thr : Nat) (mintS : Payload → ObjMeta)
    (mintA : AggKey → ObjMeta) :
    r.apply (r.createRenewal force thr mintS mintA) =
      ⟨renewMap r.simple (fun e => force || decide (e.2.obj.expires < thr)) (fun e => ⟨[e.1], mintS e.1⟩),
       renewMap r.agg (fun e => force || decide (e.2.obj.expires < thr)) (fun e => ⟨e.2.auths, mintA e.1⟩)⟩ := by
  simp only [Roas.apply, Roas.createRenewal, Roas.planRenewal, RoaPlan.sign, eraseAll_nil, renewMap,
    List.map_map, Function.comp_def]

theorem renewal_exact (r : Roas) (hr : r.WF) (force : Bool) (thr : Nat)
    (mintS : Payload → ObjMeta) (mintA : AggKey → ObjMeta) :
    let r' := r.apply (r.createRenewal force thr mintS mintA)
    (∀ p info, (p, info) ∈ r.simple →
      ((force = true ∨ info.obj.expires < thr) → (p, ⟨[p], mintS p⟩) ∈ r'.simple) ∧
      (¬ (force = true ∨ info.obj.expires < thr) → (p, info) ∈ r'.simple)) ∧
    (∀ k info, (k, info) ∈ r.agg →
      ((force = true ∨ info.obj.expires < thr) → (k, ⟨info.auths, mintA k⟩) ∈ r'.agg) ∧
      (¬ (force = true ∨ info.obj.expires < thr) → (k, info) ∈ r'.agg)) ∧
    (∀ p, p ∈ r'.payloads ↔ p ∈ r.payloads) ∧ r'.WF := by
  intro r'
  have hr' : r' = _ := apply_createRenewal r force thr mintS mintA
  have hP : ∀ x : Nat, (force || decide (x < thr)) = true ↔ (force = true ∨ x < thr) := fun x => by
    rw [Bool.or_eq_true, decide_eq_true_eq]
  have hs := renewMap_auths hr.simpleKeys (fun e => force || decide (e.2.obj.expires < thr))
    (g := fun e => ⟨[e.1], mintS e.1⟩) (fun e he => (hr.simpleAuth e he).symm)
  have ha := renewMap_auths hr.aggKeys (fun e => force || decide (e.2.obj.expires < thr))
    (g := fun e => ⟨e.2.auths, mintA e.1⟩) (fun _ _ => rfl)
  rw [hr']
  refine ⟨fun p info hin => ?_, fun k info hin => ?_, fun p => ?_, ?_⟩
  · exact ⟨fun h => (mem_renewMap hr.simpleKeys _ _).mpr ⟨_, hin, by rw [if_pos ((hP _).mpr h)]⟩,
      fun h => (mem_renewMap hr.simpleKeys _ _).mpr ⟨_, hin, by rw [if_neg fun hp => h ((hP _).mp hp)]⟩⟩
  · exact ⟨fun h => (mem_renewMap hr.aggKeys _ _).mpr ⟨_, hin, by rw [if_pos ((hP _).mpr h)]⟩,
      fun h => (mem_renewMap hr.aggKeys _ _).mpr ⟨_, hin, by rw [if_neg fun hp => h ((hP _).mp hp)]⟩⟩
  · rw [Roas.payloads, Roas.payloads, List.mem_append, List.mem_append, hs.mem_flatMap, ha.mem_flatMap]
  · exact hr.of_sameAuths hs ha (nodup_keys_renewMap hr.simpleKeys _ _) (nodup_keys_renewMap hr.aggKeys _ _)

section
variable {objs : AspaObjects} {hasAsn : Nat → Bool} {defs : List AspaDefn} {mint : AspaDefn → ObjMeta}

theorem mem_aspaPlan_updated {d : AspaDefn} :
    d ∈ (aspaPlan objs hasAsn defs).updated ↔
      (d ∈ defs ∧ hasAsn d.customer = true) ∧ ∀ ex, get? objs d.customer = some ex → ex.defn ≠ d := by
  rw [aspaPlan, List.mem_filter, Bool.and_eq_true, and_assoc]
  refine and_congr_right fun _ => and_congr_right fun _ => ?_
  cases get? objs d.customer with
  | none => exact ⟨fun _ _ h => (nomatch h), fun _ => rfl⟩
  | some ex => exact ⟨fun h _ hex => Option.some.inj hex ▸ of_decide_eq_true h, fun h => decide_eq_true (h ex rfl)⟩

theorem mem_aspaPlan_removed {c : Nat} :
    c ∈ (aspaPlan objs hasAsn defs).removed ↔
      c ∈ keys objs ∧ ¬(c ∈ defs.map (·.customer) ∧ hasAsn c = true) := by
  rw [aspaPlan, List.mem_filter, ← Bool.not_and, Bool.not_eq_true', ← Bool.not_eq_true, Bool.and_eq_true,
    decide_eq_true_eq]

theorem keys_signedAspa (l : List AspaDefn) (mint : AspaDefn → ObjMeta) :
    keys (l.map fun d => (d.customer, (⟨d, mint d⟩ : AspaInfo))) = l.map (·.customer) := by
  rw [keys, List.map_map]; rfl

theorem aspaApply_createUpdates :
    aspaApply objs (aspaCreateUpdates objs hasAsn defs mint) =
      eraseAll (putAll objs ((aspaPlan objs hasAsn defs).updated.map fun d => (d.customer, ⟨d, mint d⟩)))
        (aspaPlan objs hasAsn defs).removed := by
  simp only [aspaApply, aspaCreateUpdates, AspaPlan.sign, List.map_map, Function.comp_def]

/-- The definitions an ASPA object is wanted for, under their customers. -/
def aspaWanted (hasAsn : Nat → Bool) (defs : List AspaDefn) : List (Nat × AspaDefn) :=
  (defs.filter fun d => hasAsn d.customer).map fun d => (d.customer, d)

theorem mem_aspaWanted {c : Nat × AspaDefn} :
    c ∈ aspaWanted hasAsn defs ↔ (c.2 ∈ defs ∧ hasAsn c.2.customer = true) ∧ c.2.customer = c.1 := by
  rw [aspaWanted, List.mem_map]
  constructor
  · rintro ⟨d, hd, rfl⟩; exact ⟨List.mem_filter.mp hd, rfl⟩
  · exact fun ⟨h, hk⟩ => ⟨c.2, List.mem_filter.mpr h, congrArg (·, c.2) hk⟩

theorem aspa_carries (hw : AspaWF objs) (hd : (defs.map (·.customer)).Nodup) :
    Carries (fun _ (v : AspaInfo) d => v.defn = d) (aspaApply objs (aspaCreateUpdates objs hasAsn defs mint))
      (aspaWanted hasAsn defs) := by
  rw [aspaApply_createUpdates]
  refine carries_reconcile hw.1 ?_ (fun e he => ?_) (fun c hc hnf => ?_) (fun k => ?_)
  · rw [aspaWanted, keys, List.map_map]; exact Assoc.nodup_map_filter hd _
  · obtain ⟨d, hd', rfl⟩ := List.mem_map.mp he
    exact ⟨d, mem_aspaWanted.mpr ⟨(mem_aspaPlan_updated.mp hd').1, rfl⟩, rfl⟩
  · -- not re-issued: an object with this very definition exists
    obtain ⟨hc1, hc2⟩ := mem_aspaWanted.mp hc
    rw [keys_signedAspa] at hnf
    refine Classical.byContradiction fun hno =>
      hnf (List.mem_map.mpr ⟨c.2, mem_aspaPlan_updated.mpr ⟨hc1, fun ex hex hdef => ?_⟩, hc2⟩)
    exact hno ⟨ex, hc2 ▸ get?_some_mem hex, hdef⟩
  · rw [mem_aspaPlan_removed]
    refine and_congr_right fun _ => not_congr ?_
    rw [mem_keys, List.mem_map]
    constructor
    · rintro ⟨⟨d, hd', rfl⟩, ha⟩; exact ⟨d, mem_aspaWanted.mpr ⟨⟨hd', ha⟩, rfl⟩⟩
    · rintro ⟨d, hd'⟩
      obtain ⟨⟨h1, h2⟩, h3⟩ := mem_aspaWanted.mp hd'
      exact ⟨⟨d, h1, h3⟩, (show d.customer = k from h3) ▸ h2⟩

theorem aspaWF_createUpdates (hw : AspaWF objs) (hd : (defs.map (·.customer)).Nodup) :
    AspaWF (aspaApply objs (aspaCreateUpdates objs hasAsn defs mint)) := by
  refine ⟨?_, fun e he => ?_⟩
  · rw [aspaApply_createUpdates]
    refine nodup_keys_eraseAll (nodup_keys_putAll hw.1 ?_) _
    rw [keys_signedAspa]
    exact Assoc.nodup_map_filter hd _
  · obtain ⟨d, hd', hr⟩ := (aspa_carries hw hd).ofObject e he
    exact hr ▸ (mem_aspaWanted.mp hd').2

theorem aspaDefs_createUpdates (hw : AspaWF objs) (hd : (defs.map (·.customer)).Nodup) (d : AspaDefn) :
    (∃ e ∈ aspaApply objs (aspaCreateUpdates objs hasAsn defs mint), e.2.defn = d) ↔
      (d ∈ defs ∧ hasAsn d.customer = true) := by
  constructor
  · rintro ⟨e, he, rfl⟩
    obtain ⟨d, hd', hr⟩ := (aspa_carries hw hd).ofObject e he
    exact hr ▸ (mem_aspaWanted.mp hd').1
  · intro h
    obtain ⟨v, hv, hr⟩ := (aspa_carries (mint := mint) hw hd).ofEntry (d.customer, d) (mem_aspaWanted.mpr ⟨h, rfl⟩)
    exact ⟨_, hv, hr⟩

end

end KM.Ca.Pub
