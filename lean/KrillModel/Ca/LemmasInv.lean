/-
The invariant of reachable systems (`Inv`; per class: the object side mirrors the key state, keys are
distinct, side sets are empty; per child: keys in use point at classes past `pending`) and what a
change of the classes or of the children does to it, stated for arbitrary maps.  Before it: when
`withClass` / `withChild` succeed, and what the mirror says for each key state; after it: the children
under the revocations of a `ChildCertificatesUpdated`.  Used for C04 and C02.
-/
import KrillModel.Ca.Preds
namespace KM.CaK
open KM.Res KM.AMap
/- `get` and `set` are the map operations throughout.  As aliases of this namespace they are not
overloaded with `MonadState.get`/`set`, which the elaborator would otherwise try at every use. -/
export KM.AMap (get set)

theorem Ca.withClass_some {s s' : Ca} {r : Rcn} {f : Rc → Option Rc} (h : s.withClass r f = some s') :
    ∃ rc rc', get s.classes r = some rc ∧ f rc = some rc' ∧
      s' = { s with classes := set s.classes r rc' } := by
  revert h
  fun_cases Ca.withClass s r f <;> intro h <;> cases h
  next rc hg rc' hf => exact ⟨rc, rc', hg, hf, rfl⟩

theorem Ca.withChild_some {s s' : Ca} {ch : Handle} {f : Child → Child} (h : s.withChild ch f = some s') :
    ∃ c, get s.children ch = some c ∧ s' = { s with children := set s.children ch (f c) } := by
  revert h
  fun_cases Ca.withChild s ch f <;> intro h <;> cases h
  next c hg => exact ⟨c, hg, rfl⟩

theorem withClass_isSome (s : Ca) (r : Rcn) (f : Rc → Option Rc) :
    (s.withClass r f).isSome = (match get s.classes r with | none => false | some rc => (f rc).isSome) := by
  unfold Ca.withClass
  cases get s.classes r with
  | none => rfl
  | some rc => simp only; cases f rc <;> rfl

theorem withChild_isSome (s : Ca) (ch : Handle) (f : Child → Child) :
    (s.withChild ch f).isSome = (get s.children ch).isSome := by
  unfold Ca.withChild
  cases get s.children ch <;> rfl

theorem apply_key {s : Ca} {r : Rcn} {ke : KeyEv} (hu : ∀ k, ke ≠ .unexpected k) :
    s.apply (.key r ke) = s.withClass r fun rc => (rc.keys.apply ke).map fun ks => { rc with keys := ks } := by
  cases ke <;> first | rfl | exact absurd rfl (hu _)

theorem Objs.withClass_ok {o o' : Objs} {r : Rcn} {f : ObjKeys → Except ObjErr ObjKeys}
    (h : o.withClass r f = .ok o') :
    ∃ ks ks', get o r = some ks ∧ f ks = .ok ks' ∧ o' = set o r ks' := by
  revert h
  fun_cases Objs.withClass o r f <;> intro h <;> cases h
  next ks hg ks' hf => exact ⟨ks, ks', hg, hf, rfl⟩

theorem ksMirror_pending {p : PendKey} {y : Option ObjKeys} :
    ksMirror (.pending p) y = true ↔ y = none := by
  rcases y with _ | ⟨_ | _ | _⟩ <;> simp [ksMirror]

theorem ksMirror_active {c : CertKey} {y : Option ObjKeys} :
    ksMirror (.active c) y = true ↔ ∃ cs, y = some (.current cs) ∧ cs.key = c.id ∧ cs.cert = c.cert := by
  rcases y with _ | ⟨_ | _ | _⟩ <;> simp [ksMirror]

theorem ksMirror_rollPending {p : PendKey} {c : CertKey} {y : Option ObjKeys} :
    ksMirror (.rollPending p c) y = true ↔
      ∃ cs, y = some (.current cs) ∧ cs.key = c.id ∧ cs.cert = c.cert := by
  rcases y with _ | ⟨_ | _ | _⟩ <;> simp [ksMirror]

theorem ksMirror_rollNew {n c : CertKey} {y : Option ObjKeys} :
    ksMirror (.rollNew n c) y = true ↔
      ∃ ss cs, y = some (.staging ss cs) ∧ ss.key = n.id ∧ ss.cert = n.cert ∧
        cs.key = c.id ∧ cs.cert = c.cert := by
  rcases y with _ | ⟨_ | _ | _⟩ <;> simp [ksMirror, and_assoc]

theorem ksMirror_rollOld {c o : CertKey} {y : Option ObjKeys} :
    ksMirror (.rollOld c o) y = true ↔
      ∃ cs os, y = some (.old cs os) ∧ cs.key = c.id ∧ cs.cert = c.cert ∧
        os.key = o.id ∧ os.cert = o.cert := by
  rcases y with _ | ⟨_ | _ | _⟩ <;> simp [ksMirror, and_assoc]

/-- The mirror and the distinctness of keys do not look at the request flags. -/
theorem ksMirror_applyRequested (ks : KeyState) (ki : KeyId) (y : Option ObjKeys) :
    ksMirror (ks.applyRequested ki) y = ksMirror ks y := by
  -- the three roll states split on which key is meant; in every arm only a `req` flag is set, and for each
  -- shape of `y` the mirror reads identifiers and certificates only
  cases ks <;> simp only [KeyState.applyRequested] <;> (try split) <;> rcases y with _ | ⟨_ | _ | _⟩ <;> rfl

theorem distinct_applyRequested (ks : KeyState) (ki : KeyId) :
    (ks.applyRequested ki).distinct = ks.distinct := by
  -- the same split
  cases ks <;> simp only [KeyState.applyRequested] <;> (try split) <;> rfl

theorem ksMirror_current {ks : KeyState} {y : Option ObjKeys} (h : ksMirror ks y = true)
    (hc : ks.current.isSome = true) : ∃ ok, y = some ok := by
  cases y with
  | some ok => exact ⟨ok, rfl⟩
  | none => cases ks <;> contradiction  -- `pending` has no current key (`hc`); no other state mirrors `none` (`h`)

theorem ksMirror_mapCurrent {ks : KeyState} {ok : ObjKeys} {f : ObjSet → ObjSet}
    (hf : ∀ x, (f x).key = x.key ∧ (f x).cert = x.cert) (h : ksMirror ks (some ok) = true) :
    ksMirror ks (some (ok.mapCurrent f)) = true := by
  -- of the 15 pairs, `active` / `rollPending` with `current`, `rollNew` with `staging` and `rollOld` with `old` mirror,
  -- and `f` keeps key and certificate; in the other 11 `h` is `false = true`
  cases ks <;> cases ok <;> first | cases h | (simp only [ksMirror, ObjKeys.mapCurrent, hf]; exact h)

theorem sideSetsEmpty_mapCurrent {ok : ObjKeys} {f : ObjSet → ObjSet} (h : ok.sideSetsEmpty = true) :
    (ok.mapCurrent f).sideSetsEmpty = true := by
  cases ok <;> exact h

theorem apply_current_isSome {ks ks' : KeyState} {e : KeyEv} (h : ks.apply e = some ks')
    (hc : ks.current.isSome = true) : ks'.current.isSome = true := by
  cases e with
  | requested ki =>
    cases h
    -- the roll states split on which key is meant; the current key keeps its place
    cases ks <;> simp only [KeyState.applyRequested] <;> (try split) <;> exact hc
  | unexpected k => cases h; exact hc
  -- every other event leads to a state with a current key, wherever it starts
  | received ki cert =>
    -- `pending` refuses (`h`); `rollNew` and `rollOld` split on which key is meant
    cases ks <;> simp only [KeyState.apply, KeyState.applyReceived] at h <;> (try split at h) <;> cases h <;> rfl
  | _ => cases ks <;> cases h <;> rfl

/-- Mirror, distinct keys, side sets empty for one class name. -/
def ClsInv (x : Option Rc) (y : Option ObjKeys) : Prop :=
  match x with
  | none => y = none
  | some rc =>
    ksMirror rc.keys y = true ∧ rc.keys.distinct = true ∧
    (∀ ok, y = some ok → ok.sideSetsEmpty = true)

/-- Class part of the system invariant behind `mirror`, `single_signer` and `process_emits_applicable`. -/
structure InvCore (s : Sys) : Prop where
  /-- class names are unique -/
  nodup : (keys s.ca.classes).Nodup
  /-- class names are below `next_class_name` -/
  fresh : ∀ r, (get s.ca.classes r).isSome = true → r < s.ca.nextClass
  cls : ∀ r, ClsInv (get s.ca.classes r) (get s.objs r)

theorem ClsInv.mirror {rc : Rc} {y : Option ObjKeys} (h : ClsInv (some rc) y) : ksMirror rc.keys y = true := h.1

theorem ClsInv.distinct {rc : Rc} {y : Option ObjKeys} (h : ClsInv (some rc) y) : rc.keys.distinct = true := h.2.1

theorem ClsInv.sideEmpty {rc : Rc} {y : Option ObjKeys} (h : ClsInv (some rc) y) {ok : ObjKeys} (hy : y = some ok) :
    ok.sideSetsEmpty = true := h.2.2 ok hy

theorem InvCore.cls_some {s : Sys} (h : InvCore s) {r : Rcn} {rc : Rc} (hg : get s.ca.classes r = some rc) :
    ClsInv (some rc) (get s.objs r) := hg ▸ h.cls r

theorem InvCore.cls_none {s : Sys} (h : InvCore s) {r : Rcn} (hg : get s.ca.classes r = none) : get s.objs r = none := by
  have := h.cls r
  rwa [hg] at this

/-- A key in use in class `r`: the name was handed out, and the class – if it still exists – is
past `pending`. -/
def UsedInv (ca : Ca) : Prop :=
  ∀ ch c k r, get ca.children ch = some c → get c.usedKeys k = some (.inUse r) →
    r < ca.nextClass ∧ ∀ rc, get ca.classes r = some rc → rc.keys.current.isSome = true

/-- The invariant of reachable systems. -/
structure Inv (s : Sys) : Prop where
  core : InvCore s
  used : UsedInv s.ca

theorem inv_init : Inv {} :=
  ⟨⟨List.nodup_nil, fun _ h => (nomatch h), fun _ => rfl⟩, fun _ _ _ _ h => nomatch h⟩

theorem InvCore.set {ca : Ca} {o o' : Objs} (h : InvCore ⟨ca, o⟩) {r : Rcn} {rc : Rc}
    (hg : get ca.classes r = some rc) (rc' : Rc) (ch : AMap Handle Child)
    (ho : ∀ r', r' ≠ r → get o' r' = get o r') (hc : ClsInv (some rc') (get o' r)) :
    InvCore ⟨{ ca with classes := AMap.set ca.classes r rc', children := ch }, o'⟩ := by
  refine ⟨nodup_set h.nodup _ _, fun r' hr' => h.fresh r' ?_, fun r' => ?_⟩
  · rwa [isSome_get_set rc' (Option.isSome_of_eq_some hg)] at hr'
  · show ClsInv (get (AMap.set ca.classes r rc') r') (get o' r')
    by_cases hr : r' = r
    · rw [hr, get_set_self]; exact hc
    · rw [get_set_ne _ _ (Ne.symm hr), ho r' hr]; exact h.cls r'

/-- The used-key invariant sees a class only through whether it has a current key. -/
theorem UsedInv.classes {ca : Ca} (hu : UsedInv ca) {cl : AMap Rcn Rc} {n : Nat} (hn : ca.nextClass ≤ n)
    (h : ∀ r rc', r < ca.nextClass → get cl r = some rc' →
      ∃ rc, get ca.classes r = some rc ∧ (rc.keys.current.isSome = true → rc'.keys.current.isSome = true)) :
    UsedInv { ca with classes := cl, nextClass := n } := by
  intro ch c k r hc hk
  obtain ⟨h1, h2⟩ := hu ch c k r hc hk
  refine ⟨Nat.lt_of_lt_of_le h1 hn, fun rc' hrc' => ?_⟩
  obtain ⟨rc, hrc, himp⟩ := h r rc' h1 hrc'
  exact himp (h2 rc hrc)

/-- A class with a pending key under the next free name: no object class and no key in use refers to it. -/
theorem Inv.addClass {ca : Ca} {o : Objs} (h : Inv ⟨ca, o⟩) {rc : Rc} (hm : ksMirror rc.keys none = true)
    (hd : rc.keys.distinct = true) :
    Inv ⟨{ ca with nextClass := ca.nextClass + 1, classes := AMap.set ca.classes ca.nextClass rc }, o⟩ := by
  obtain ⟨⟨hnd, hfr, hcls⟩, hu⟩ := h
  have hnone : get ca.classes ca.nextClass = none :=
    Option.not_isSome_iff_eq_none.mp fun h => Nat.lt_irrefl _ (hfr _ h)
  refine ⟨⟨nodup_set hnd _ _, fun r hr => ?_, fun r => ?_⟩, hu.classes (Nat.le_succ _) fun r rc' hlt hrc' => ?_⟩
  · rw [get_set] at hr
    split at hr
    · next he => exact he ▸ Nat.lt_succ_self _
    · exact Nat.lt_succ_of_lt (hfr r hr)
  · show ClsInv (get (AMap.set ca.classes ca.nextClass rc) r) (get o r)
    by_cases he : r = ca.nextClass
    · rw [he, get_set_self, InvCore.cls_none ⟨hnd, hfr, hcls⟩ hnone]
      exact ⟨hm, hd, fun _ h => nomatch h⟩
    · rw [get_set_ne _ _ (Ne.symm he)]; exact hcls r
  · rw [get_set_ne _ _ (Nat.ne_of_gt hlt)] at hrc'
    exact ⟨rc', hrc', id⟩

theorem Inv.delClass {ca : Ca} {o : Objs} (h : Inv ⟨ca, o⟩) (r : Rcn) :
    Inv ⟨{ ca with classes := del ca.classes r }, del o r⟩ := by
  obtain ⟨⟨hnd, hfr, hcls⟩, hu⟩ := h
  refine ⟨⟨nodup_del hnd _, fun r' hr' => hfr r' ?_, fun r' => ?_⟩,
    hu.classes (Nat.le_refl _) fun r' rc' _ hrc' => ?_⟩
  · rw [get_del] at hr'; split at hr' <;> first | cases hr' | exact hr'
  · show ClsInv (get (del ca.classes r) r') (get (del o r) r')
    rw [get_del, get_del]
    split
    · rfl
    · exact hcls r'
  · rw [get_del] at hrc'; split at hrc' <;> first | cases hrc' | exact ⟨rc', hrc', id⟩

theorem UsedInv.setClass {ca : Ca} (hu : UsedInv ca) {r : Rcn} {rc rc' : Rc} (hg : get ca.classes r = some rc)
    (hc : rc.keys.current.isSome = true → rc'.keys.current.isSome = true) :
    UsedInv { ca with classes := AMap.set ca.classes r rc' } := by
  refine hu.classes (Nat.le_refl _) fun r1 rc1 _ h1 => ?_
  rw [get_set] at h1
  split at h1
  · next he => cases h1; exact ⟨rc, he ▸ hg, hc⟩
  · exact ⟨rc1, h1, id⟩

/-- The used-key invariant sees a child only through its keys in use. -/
theorem UsedInv.children {ca : Ca} (hu : UsedInv ca) {ch' : AMap Handle Child}
    (h : ∀ ch c' k r, get ch' ch = some c' → get c'.usedKeys k = some (.inUse r) →
      ∃ c, get ca.children ch = some c ∧ get c.usedKeys k = some (.inUse r)) :
    UsedInv { ca with children := ch' } := by
  intro ch c' k r hc hk
  obtain ⟨c, hc0, hk0⟩ := h ch c' k r hc hk
  exact hu ch c k r hc0 hk0

theorem UsedInv.setChild {ca : Ca} (hu : UsedInv ca) (ch : Handle) {c' : Child}
    (h : ∀ k r, get c'.usedKeys k = some (.inUse r) →
      (∃ c, get ca.children ch = some c ∧ get c.usedKeys k = some (.inUse r)) ∨
      (r < ca.nextClass ∧ ∀ rc, get ca.classes r = some rc → rc.keys.current.isSome = true)) :
    UsedInv { ca with children := AMap.set ca.children ch c' } := by
  intro ch1 c1 k r hc1 hk
  rw [get_set] at hc1
  split at hc1
  · cases hc1
    rcases h k r hk with ⟨c, hc, hk'⟩ | h'
    · exact hu ch c k r hc hk'
    · exact h'
  · exact hu ch1 c1 k r hc1 hk

theorem get_revokeEverywhere (m : AMap Handle Child) (k : KeyId) (ch : Handle) :
    get (revokeEverywhere m k) ch =
      (get m ch).map fun c => if c.isIssued k then { c with usedKeys := set c.usedKeys k .revoked } else c := by
  have hm : revokeEverywhere m k = m.map fun p =>
      (p.1, if p.2.isIssued k then { p.2 with usedKeys := set p.2.usedKeys k .revoked } else p.2) :=
    List.map_congr_left fun p _ => by split <;> rfl
  rw [get_eq_lookup, get_eq_lookup, hm]
  exact Assoc.lookup_map_snd m
    (fun c : Child => if c.isIssued k then { c with usedKeys := set c.usedKeys k .revoked } else c) ch

theorem inUse_of_revokeAll (ks : List KeyId) (m : AMap Handle Child) (ch : Handle) (c' : Child) (k : KeyId)
    (r : Rcn) (hg : get (ks.foldl revokeEverywhere m) ch = some c')
    (hu : get c'.usedKeys k = some (.inUse r)) :
    ∃ c, get m ch = some c ∧ get c.usedKeys k = some (.inUse r) := by
  induction ks generalizing m with
  | nil => exact ⟨c', hg, hu⟩
  | cons k0 ks ih =>
    obtain ⟨c1, hc1, hu1⟩ := ih _ hg
    rw [get_revokeEverywhere] at hc1
    obtain ⟨c, hc, rfl⟩ := Option.map_eq_some_iff.mp hc1
    refine ⟨c, hc, ?_⟩
    -- what `revokeEverywhere` writes is `revoked`
    split at hu1
    · rw [get_set] at hu1
      split at hu1
      · cases hu1
      · exact hu1
    · exact hu1

end KM.CaK
