/- Lemmas about `Ca/Objects.lean`.  The predicates the properties of key object sets are stated with (`GoodSet` and its
parts; `ok`: what the 0.16 code produces), what the updates of a set leave alone (`signed`), and which key sets a CA's
object store holds after an event, a list of events, a re-issue, a command (`applyEvent_sets`, `applyEvents_forall`). -/
import KrillModel.Ca.Objects
import KrillModel.Ca.PubBaseLemmas
namespace KM.Ca.Pub

/-- Manifest and CRL carry the number and window of the stored revision. -/
def NumbersAgree (s : KeyObjectSet) : Prop :=
  s.manifest.number = s.revision.number ∧ s.crl.number = s.revision.number ∧
  s.manifest.thisUpdate = s.revision.thisUpdate ∧ s.manifest.nextUpdate = s.revision.nextUpdate ∧
  s.crl.thisUpdate = s.revision.thisUpdate ∧ s.crl.nextUpdate = s.revision.nextUpdate

/-- The CRL lists exactly the recorded revocations. -/
def CrlOk (s : KeyObjectSet) : Prop :=
  s.crl.revoked = s.revocations.map (·.serial) ∧ s.crl.name = s.crlName

/-- The manifest lists the CRL and exactly the published objects. -/
def ListsExactly (s : KeyObjectSet) : Prop := s.manifest.entries = mkEntries s.crl s.published

/-- CRL, manifest and numbers are as a signing run leaves them. -/
def GoodSet (s : KeyObjectSet) : Prop := CrlOk s ∧ ListsExactly s ∧ NumbersAgree s

theorem GoodSet.crlOk {s : KeyObjectSet} (h : GoodSet s) : CrlOk s := h.1
theorem GoodSet.listsExactly {s : KeyObjectSet} (h : GoodSet s) : ListsExactly s := h.2.1
theorem GoodSet.numbersAgree {s : KeyObjectSet} (h : GoodSet s) : NumbersAgree s := h.2.2

theorem numbersAgree_reissue (s : KeyObjectSet) (t : Timing) (i : IssueIn) : NumbersAgree (s.reissue t i) :=
  ⟨rfl, rfl, rfl, rfl, rfl, rfl⟩

theorem numbersAgree_create (b c m : Nat) (t : Timing) (i : IssueIn) :
    NumbersAgree (KeyObjectSet.create b c m t i) :=
  ⟨rfl, rfl, rfl, rfl, rfl, rfl⟩

theorem good_reissue (s : KeyObjectSet) (t : Timing) (i : IssueIn) : GoodSet (s.reissue t i) :=
  ⟨⟨rfl, rfl⟩, rfl, numbersAgree_reissue s t i⟩

theorem good_create (k : NewKey) (t : Timing) : GoodSet (k.create t) :=
  ⟨⟨rfl, rfl⟩, rfl, numbersAgree_create _ _ _ t _⟩

/-- `ChildCertificateUpdates.unsuspended` is only filled by pre-0.16 histories. -/
def ObjEvent.ok : ObjEvent → Prop
  | .certsUpdated _ c => c.unsuspended = []
  | _ => True

def CaOp.ok : CaOp → Prop
  | .command evs _ _ => ∀ e ∈ evs, e.ok
  | .republish .. => True

def SetOp.ok : SetOp → Prop
  | .updateCerts c => c.unsuspended = []
  | _ => True

/-- What a signing run writes. -/
def KeyObjectSet.signed (s : KeyObjectSet) : Revision × Manifest × Crl := (s.revision, s.manifest, s.crl)

theorem remove_published (s : KeyObjectSet) (n : Nat) : (s.remove n).published = erase s.published n := by
  unfold KeyObjectSet.remove
  cases hg : get? s.published n with
  | none => exact (erase_of_not_mem _ _ (get?_none_iff.mp hg)).symm
  | some old => rfl

theorem remove_signed (s : KeyObjectSet) (n : Nat) : (s.remove n).signed = s.signed := by
  unfold KeyObjectSet.remove
  cases get? s.published n <;> rfl

theorem foldl_insert_signed (l : List (Nat × PubObj)) (s : KeyObjectSet) :
    (l.foldl (fun s e => s.insert e.1 e.2) s).signed = s.signed :=
  Fold.foldl_keeps KeyObjectSet.signed (step := fun s (e : Nat × PubObj) => s.insert e.1 e.2) (fun _ _ _ => rfl) s

theorem update_signed (s : KeyObjectSet) (u : ObjUpdates) : (s.update u).signed = s.signed :=
  (Fold.foldl_keeps KeyObjectSet.signed (fun n _ s => remove_signed s n) _).trans (foldl_insert_signed _ _)

theorem updateCerts_signed (s : KeyObjectSet) (c : CertUpdates) : (s.updateCerts c).signed = s.signed :=
  (Fold.foldl_keeps KeyObjectSet.signed (fun n _ s => remove_signed s n) _).trans <|
    (Fold.foldl_keeps KeyObjectSet.signed (step := fun s (e : Nat × PubObj) => s.insertNoRevoke e.1 e.2) (fun _ _ _ => rfl) _).trans <|
      (foldl_insert_signed _ _).trans (Fold.foldl_keeps KeyObjectSet.signed (fun n _ s => remove_signed s n) _)

theorem step_number (t : Timing) (s : KeyObjectSet) (op : SetOp) :
    (s.step t op).revision.number = s.revision.number + (if op.isReissue then 1 else 0) := by
  cases op with
  | update u => exact congrArg (·.1.number) (update_signed s u)
  | updateCerts c => exact congrArg (·.1.number) (updateCerts_signed s c)
  | reissue i => rfl
  | retire now => rfl

theorem mem_allSets {o : CaObjects} {s : KeyObjectSet} :
    s ∈ allSets o ↔ ∃ e ∈ o, s ∈ e.2.sets :=
  List.mem_flatMap

theorem class_reissue_published (t : Timing) (i1 i2 : IssueIn) (c : ClassObjects) :
    (c.reissue t i1 i2).sets.map (·.published) = c.sets.map (·.published) := by
  cases c <;> rfl

theorem class_due_iff (now hours : Nat) (c : ClassObjects) :
    c.requiresReissuance now hours = true ↔ ∃ s ∈ c.sets, s.requiresReissuance now hours = true := by
  cases c <;> simp [ClassObjects.sets, ClassObjects.requiresReissuance]

theorem class_reissue_sets (t : Timing) (i1 i2 : IssueIn) :
    ∀ (c : ClassObjects), ∀ s' ∈ (c.reissue t i1 i2).sets, ∃ s₀ ∈ c.sets, ∃ i,
      s' = s₀.reissue t i ∧ s'.revision.number = s₀.revision.number + 1
  | .current c => List.forall_mem_singleton.mpr ⟨c, .head _, i1, rfl, rfl⟩
  | .staging sg c => List.forall_mem_cons.mpr
      ⟨⟨sg, .head _, i1, rfl, rfl⟩, List.forall_mem_singleton.mpr ⟨c, .tail _ (.head _), i2, rfl, rfl⟩⟩
  | .old c ol => List.forall_mem_cons.mpr
      ⟨⟨ol, .head _, i1, rfl, rfl⟩, List.forall_mem_singleton.mpr ⟨c, .tail _ (.head _), i2, rfl, rfl⟩⟩

/-- After `re_issue` every set is an old one re-issued, or - when nothing was forced - possibly an untouched one. -/
theorem reIssue_sets (o : CaObjects) (force : Bool) (now : Nat) (t : Timing) (ins : IssueInputs) :
    ∀ s' ∈ allSets (reIssue o force now t ins).1,
      (s' ∈ allSets o ∧ force = false) ∨ ∃ s ∈ allSets o, ∃ i, s' = KeyObjectSet.reissue s t i := by
  intro s' hs'
  obtain ⟨e', he', hse'⟩ := mem_allSets.mp hs'
  obtain ⟨e, he, rfl⟩ := List.mem_map.mp he'
  split at hse'
  · obtain ⟨s₀, hs₀, i, hi, _⟩ := class_reissue_sets t _ _ e.2 s' hse'
    exact Or.inr ⟨s₀, mem_allSets.mpr ⟨e, he, hs₀⟩, i, hi⟩
  · rename_i hc
    refine Or.inl ⟨mem_allSets.mpr ⟨e, he, hse'⟩, ?_⟩
    cases force
    · rfl
    · exact absurd rfl hc

theorem reIssue_false_id (o : CaObjects) (force : Bool) (now : Nat) (t : Timing) (ins : IssueInputs)
    (h : (reIssue o force now t ins).2 = false) : (reIssue o force now t ins).1 = o := by
  simp only [reIssue, List.any_eq_false] at h ⊢
  exact (List.map_congr_left fun e he => if_neg (h e he)).trans (List.map_id o)

/-- After a modification of one class every set is an old set of the store or satisfies what the
modification guarantees of the new sets of that class. -/
theorem modifyClass_sets {o o' : CaObjects} {rcn : Nat} {g : ClassObjects → Option ClassObjects}
    {P : KeyObjectSet → Prop} (h : modifyClass o rcn g = some o')
    (hg : ∀ c c', (rcn, c) ∈ o → g c = some c' → ∀ s' ∈ c'.sets, s' ∈ allSets o ∨ P s') :
    ∀ s' ∈ allSets o', s' ∈ allSets o ∨ P s' := by
  unfold modifyClass at h
  split at h
  · cases h
  · rename_i c hc
    obtain ⟨c', hc', rfl⟩ := Option.map_eq_some_iff.mp h
    intro s' hs'
    obtain ⟨e', he', hse'⟩ := mem_allSets.mp hs'
    obtain ⟨e, he, rfl⟩ := List.mem_map.mp he'
    split at hse'
    · exact hg c c' (get?_some_mem hc) hc' s' hse'
    · exact Or.inl (mem_allSets.mpr ⟨e, he, hse'⟩)

theorem cur_mem_sets : ∀ c : ClassObjects, c.cur ∈ c.sets
  | .current _ => .head _
  | .staging _ _ => .tail _ (.head _)
  | .old _ _ => .tail _ (.head _)

theorem mapCurrent_sets (f : KeyObjectSet → KeyObjectSet) :
    ∀ c : ClassObjects, ∀ s' ∈ (c.mapCurrent f).sets, s' ∈ c.sets ∨ s' = f c.cur
  | .current _ => List.forall_mem_singleton.mpr (Or.inr rfl)
  | .staging _ _ => List.forall_mem_cons.mpr ⟨Or.inl (.head _), List.forall_mem_singleton.mpr (Or.inr rfl)⟩
  | .old _ _ => List.forall_mem_cons.mpr ⟨Or.inl (.head _), List.forall_mem_singleton.mpr (Or.inr rfl)⟩

/-- One set operation applied to a set of the store (an operation the 0.16 code produces, if `ok`). -/
def Derived (t : Timing) (o : CaObjects) (ok : Prop) (s' : KeyObjectSet) : Prop :=
  ∃ s ∈ allSets o, ∃ op : SetOp, (ok → op.ok) ∧ s' = s.step t op

/-- **What an event does to the key sets.**  Every set afterwards was there before, or is freshly created, or -
only for an event that forces a re-issue - is a set that was there after one set operation. -/
theorem applyEvent_sets {t : Timing} {o o' : CaObjects} {e : ObjEvent} {f : Bool}
    (h : applyEvent t o e = some (o', f)) :
    ∀ s' ∈ allSets o', s' ∈ allSets o ∨ (∃ k : NewKey, s' = k.create t) ∨ (f = true ∧ Derived t o e.ok s') := by
  -- an operation on the current set of one class
  have upd : ∀ {rcn : Nat} (op : SetOp), (e.ok → op.ok) → f = true →
      modifyClass o rcn (fun c => some (c.mapCurrent (·.step t op))) = some o' →
      ∀ s' ∈ allSets o', s' ∈ allSets o ∨ (∃ k : NewKey, s' = k.create t) ∨ (f = true ∧ Derived t o e.ok s') := by
    intro rcn op hop hf hm
    refine modifyClass_sets hm fun c c' hc hc' s' hs' => ?_
    cases hc'
    have hcur := mem_allSets.mpr ⟨_, hc, cur_mem_sets c⟩
    exact (mapCurrent_sets _ c s' hs').imp (fun h => mem_allSets.mpr ⟨_, hc, h⟩)
      fun h => Or.inr ⟨hf, c.cur, hcur, op, hop, h⟩
  cases e with
  | roasUpdated rcn u | aspasUpdated rcn u | bgpsecUpdated rcn u =>
    obtain ⟨o1, hm, rfl, rfl⟩ := Option.map_eq_some_iff.mp h
    exact upd (.update u) (fun _ => trivial) rfl hm
  | certsUpdated rcn c =>
    obtain ⟨o1, hm, rfl, rfl⟩ := Option.map_eq_some_iff.mp h
    exact upd (.updateCerts c) id rfl hm
  | keyRollActivated rcn now =>
    obtain ⟨o1, hm, rfl, rfl⟩ := Option.map_eq_some_iff.mp h
    refine modifyClass_sets hm fun c c' hc hc' s' hs' => ?_
    cases c with
    | staging sg cu =>
      cases hc'
      rcases List.mem_cons.mp hs' with rfl | hs'
      · exact Or.inr (Or.inr ⟨rfl, cu, mem_allSets.mpr ⟨_, hc, .tail _ (.head _)⟩, .retire now, fun _ => trivial, rfl⟩)
      · cases List.mem_singleton.mp hs'
        exact Or.inl (mem_allSets.mpr ⟨_, hc, .head _⟩)
    | current _ | old _ _ => cases hc'
  | keyPendingToNew rcn key =>
    obtain ⟨o1, hm, rfl, rfl⟩ := Option.map_eq_some_iff.mp h
    refine modifyClass_sets hm fun c c' hc hc' s' hs' => ?_
    cases c with
    | current c0 =>
      cases hc'
      rcases List.mem_cons.mp hs' with rfl | hs'
      · exact Or.inr (Or.inl ⟨key, rfl⟩)
      · exact Or.inl (mem_allSets.mpr ⟨_, hc, hs'⟩)
    | staging _ _ | old _ _ => cases hc'
  | keyRollFinished rcn =>
    obtain ⟨o1, hm, rfl, rfl⟩ := Option.map_eq_some_iff.mp h
    refine modifyClass_sets hm fun c c' hc hc' s' hs' => ?_
    cases c with
    | old cu ol =>
      cases hc'
      cases List.mem_singleton.mp hs'
      exact Or.inl (mem_allSets.mpr ⟨_, hc, .tail _ (.head _)⟩)
    | current _ | staging _ _ => cases hc'
  | keyPendingToActive rcn key =>
    obtain ⟨_, h⟩ := Option.ite_none_left_eq_some.mp h
    cases h
    intro s' hs'
    obtain ⟨e, he, hse⟩ := mem_allSets.mp hs'
    rcases List.mem_append.mp he with he | he
    · exact Or.inl (mem_allSets.mpr ⟨e, he, hse⟩)
    · cases List.mem_singleton.mp he
      exact Or.inr (Or.inl ⟨key, List.mem_singleton.mp hse⟩)
  | certificateReceived rcn =>
    obtain ⟨_, h⟩ := Option.ite_none_right_eq_some.mp h
    cases h
    exact fun _ hs' => Or.inl hs'
  | resourceClassRemoved rcn =>
    cases h
    intro s' hs'
    obtain ⟨e, he, hse⟩ := mem_allSets.mp hs'
    exact Or.inl (mem_allSets.mpr ⟨e, (List.mem_filter.mp he).1, hse⟩)
  | repoUpdated | other => cases h; exact fun _ hs' => Or.inl hs'

/-- Induction along a list of events the listener accepts: a relation between the store before, the store after and
the re-issue flag that holds of the empty list and extends by one accepted event in front holds of the list. -/
theorem applyEvents_induction {t : Timing} {evs : List ObjEvent} {R : CaObjects → CaObjects → Bool → Prop}
    (refl : ∀ o, R o o false)
    (step : ∀ {o o1 o' f1 f2}, ∀ e ∈ evs, applyEvent t o e = some (o1, f1) → R o1 o' f2 → R o o' (f1 || f2))
    {o o' : CaObjects} {f : Bool} (h : applyEvents t o evs = some (o', f)) : R o o' f := by
  fun_induction applyEvents t o evs generalizing f with
  | case1 o => cases h; exact refl _
  | case2 o e es he => cases h
  | case3 o e es o1 f1 he ih =>
    obtain ⟨⟨o2, f2⟩, hes, hr⟩ := Option.map_eq_some_iff.mp h
    cases hr
    exact step e List.mem_cons_self he (ih (fun e he => step e (List.mem_cons_of_mem _ he)) hes)

/-- What holds of fresh sets and - as far as the events force a re-issue - survives each set operation, holds of every
set after the events if it held of every set before. -/
theorem applyEvents_forall {t : Timing} {I : KeyObjectSet → Prop} {evs : List ObjEvent} {o o' : CaObjects} {f : Bool}
    (hc : ∀ k : NewKey, I (k.create t))
    (hs : f = true → ∀ s (op : SetOp), ((∀ e ∈ evs, e.ok) → op.ok) → I s → I (s.step t op))
    (h : applyEvents t o evs = some (o', f)) (ho : ∀ s ∈ allSets o, I s) : ∀ s ∈ allSets o', I s :=
  applyEvents_induction
    (R := fun o o' f => (f = true → ∀ s (op : SetOp), ((∀ e ∈ evs, e.ok) → op.ok) → I s → I (s.step t op)) →
      (∀ s ∈ allSets o, I s) → ∀ s ∈ allSets o', I s)
    (fun _ _ h => h)
    (fun e hm he ih hs ho => ih (fun h2 => hs (Bool.or_eq_true_iff.mpr (Or.inr h2))) fun s' hs' => by
      rcases applyEvent_sets he s' hs' with h1 | ⟨k, rfl⟩ | ⟨h1, s, hs0, op, hop, rfl⟩
      · exact ho s' h1
      · exact hc k
      · exact hs (Bool.or_eq_true_iff.mpr (Or.inl h1)) s op (fun hok => hop (hok e hm)) (ho s hs0))
    h hs ho

theorem good_caStep (t : Timing) (o : CaObjects) (op : CaOp) (h : ∀ s ∈ allSets o, GoodSet s) :
    ∀ s ∈ allSets (caStep t o op), GoodSet s := by
  -- after `re_issue` of a store whose untouched sets are good
  have key : ∀ o1 force now ins, (force = false → ∀ s ∈ allSets o1, GoodSet s) →
      ∀ s ∈ allSets (reIssue o1 force now t ins).1, GoodSet s := by
    intro o1 force now ins h1 s hs
    rcases reIssue_sets o1 force now t ins s hs with ⟨hs1, hf⟩ | ⟨s₀, _, i, rfl⟩
    · exact h1 hf s hs1
    · exact good_reissue s₀ t i
  cases op with
  | republish force now ins => exact key o force now ins fun _ => h
  | command evs now ins =>
    simp only [caStep, preSave]
    cases hev : applyEvents t o evs with
    | none => exact h
    | some r =>
      -- nothing forced: no set operation happened, so every set is an old or a fresh one
      exact key r.1 r.2 now ins fun hf =>
        applyEvents_forall (fun k => good_create k t) (fun h' => absurd (hf.symm.trans h') Bool.noConfusion) hev h

theorem good_caRun (t : Timing) (ops : List CaOp) (o : CaObjects) (h : ∀ s ∈ allSets o, GoodSet s) :
    ∀ s ∈ allSets (caRun t o ops), GoodSet s :=
  List.foldlRecOn (motive := fun o => ∀ s ∈ allSets o, GoodSet s) ops _ h fun o h op _ => good_caStep t o op h

theorem applyEvent_nosync_id (t : Timing) (o o' : CaObjects) (e : ObjEvent) (f : Bool)
    (hs : schedulesSync e = false) (h : applyEvent t o e = some (o', f)) : o' = o := by
  cases e with
  | certificateReceived rcn =>
    obtain ⟨_, h⟩ := Option.ite_none_right_eq_some.mp h
    cases h
    rfl
  | repoUpdated | other => cases h; rfl
  | _ => cases hs

theorem applyEvents_nosync_id (t : Timing) (evs : List ObjEvent) (o o' : CaObjects) (f : Bool)
    (hs : evs.any schedulesSync = false) (h : applyEvents t o evs = some (o', f)) : o' = o :=
  applyEvents_induction (R := fun o o' _ => o' = o) (fun _ => rfl)
    (fun e hm he ih =>
      ih.trans (applyEvent_nosync_id t _ _ e _ (Bool.eq_false_iff.mpr (List.any_eq_false.mp hs e hm)) he)) h

end KM.Ca.Pub
