/-
The class-level sync machine (`Ca/KeySync.lean`): one round in closed form, its simulation by the finite
abstraction, and what is decided on the abstraction by going through its states.
-/
import KrillModel.Ca.KeySync
namespace KM.CaK
open KM.Res

theorem wantsUpdate_offer (id : KeyId) (req : Bool) (o : Offer) (now : Int) :
    (CertKey.mk id o.cert req).wantsUpdate o.res o.na now = false := by
  unfold CertKey.wantsUpdate
  have h1 : (!(CertKey.mk id o.cert req).cert.slash) = false := rfl
  have h2 : (!seteq o.res (CertKey.mk id o.cert req).cert.res) = false := by
    show (!seteq o.res o.res) = false
    rw [seteq_refl]; rfl
  rw [h1, h2, if_neg Bool.false_ne_true, if_neg Bool.false_ne_true]
  -- the certificate is the offered one: past the tests on `slash` and the resources, the two remaining times are equal
  show (if o.na - now ≤ 0 then false else if o.na - now = o.na - now then false else _) = false
  rw [if_pos rfl, ite_self]

theorem seteq_of_not_wantsUpdate {k : CertKey} {res : ResSet} {na now : Int}
    (h : k.wantsUpdate res na now = false) : seteq res k.cert.res = true := by
  unfold CertKey.wantsUpdate at h
  by_cases hs : k.cert.slash = true
  · simp only [hs, Bool.not_true, Bool.false_eq_true, if_false] at h
    by_cases he : seteq res k.cert.res = true
    · exact he
    · simp [he] at h
  · simp [hs] at h

theorem abs_create (ki : KeyId) (o : Offer) (now : Int) :
    (CertKey.create ki o.cert).abs o now = AKey.fresh := by
  simp only [CertKey.abs, CertKey.create, AKey.fresh, AKey.mk.injEq, true_and]
  exact wantsUpdate_offer ki false o now

theorem abs_setIncoming (k : CertKey) (o : Offer) (now : Int) :
    (k.setIncoming o.cert).abs o now = AKey.fresh :=
  abs_create k.id o now

theorem abs_req (k : CertKey) (b : Bool) (o : Offer) (now : Int) :
    ({ k with req := b } : CertKey).abs o now = ⟨b, (k.abs o now).want⟩ := rfl

theorem create_id (k : KeyId) (c : Cert) : (CertKey.create k c).id = k := rfl

theorem setIncoming_id (k : CertKey) (c : Cert) : (k.setIncoming c).id = k.id := rfl

theorem abs_req_proj (k : CertKey) (o : Offer) (now : Int) : (k.abs o now).req = k.req := rfl

/-- The key after its open request, if any, was answered with `cert`. -/
def CertKey.answer (c : CertKey) (cert : Cert) : CertKey := if c.req then c.setIncoming cert else c

/-- The key after `append_entitlement_events`: a request is open if it wants an update. -/
def CertKey.ask (c : CertKey) (ent : Entitlement) (now : Int) : CertKey :=
  if c.wantsUpdate ent.res ent.na now then { c with req := true } else c

theorem answer_id (c : CertKey) (cert : Cert) : (c.answer cert).id = c.id := by
  unfold CertKey.answer; split <;> rfl

theorem ask_id (c : CertKey) (ent : Entitlement) (now : Int) : (c.ask ent now).id = c.id := by
  unfold CertKey.ask; split <;> rfl

theorem answer_req (k : CertKey) (cert : Cert) : (k.answer cert).req = false := by
  unfold CertKey.answer; split
  · rfl
  · rename_i h; simpa using h

theorem answer_cases (k : CertKey) (cert : Cert) :
    (k.req = true ∧ k.answer cert = k.setIncoming cert) ∨ k.answer cert = k := by
  unfold CertKey.answer; split
  · rename_i h; exact Or.inl ⟨h, rfl⟩
  · exact Or.inr rfl

theorem abs_answer (c : CertKey) (o : Offer) (now : Int) :
    (c.answer o.cert).abs o now = if c.req then AKey.fresh else c.abs o now := by
  unfold CertKey.answer; split
  · exact abs_setIncoming c o now
  · rfl

theorem abs_ask {c : CertKey} (h : c.req = false) (o : Offer) (now : Int) :
    (c.ask o.ent now).abs o now = ⟨(c.abs o now).want, (c.abs o now).want⟩ := by
  show (if c.wantsUpdate o.res o.na now then _ else c).abs o now = AKey.mk (c.wantsUpdate o.res o.na now) _
  cases c.wantsUpdate o.res o.na now
  · exact congrArg (AKey.mk · _) h
  · rfl

theorem receive_pending (p : PendKey) (ki : KeyId) (cert : Cert) :
    (KeyState.pending p).receive ki cert = if ki = p.id then .active (.create ki cert) else .pending p := by
  by_cases h : ki = p.id <;> simp [KeyState.receive, KeyState.route, KeyState.applyPendingToActive, h]

theorem receive_active (c : CertKey) (ki : KeyId) (cert : Cert) :
    (KeyState.active c).receive ki cert = if ki = c.id then .active (c.setIncoming cert) else .active c := by
  by_cases h : ki = c.id <;> simp [KeyState.receive, KeyState.route, KeyState.applyReceived, h]

theorem receive_rollPending (p : PendKey) (c : CertKey) (ki : KeyId) (cert : Cert) :
    (KeyState.rollPending p c).receive ki cert =
      if ki = p.id then .rollNew (.create ki cert) c
      else if ki = c.id then .rollPending p (c.setIncoming cert) else .rollPending p c := by
  by_cases h : ki = p.id
  · simp [KeyState.receive, KeyState.route, KeyState.applyPendingToNew, h]
  · by_cases h2 : ki = c.id
    · subst h2; simp [KeyState.receive, KeyState.route, KeyState.applyReceived, h]
    · simp [KeyState.receive, KeyState.route, h, h2]

theorem receive_rollNew (n c : CertKey) (ki : KeyId) (cert : Cert) :
    (KeyState.rollNew n c).receive ki cert =
      if ki = n.id then .rollNew (n.setIncoming cert) c
      else if ki = c.id then .rollNew n (c.setIncoming cert) else .rollNew n c := by
  by_cases h : ki = n.id
  · simp [KeyState.receive, KeyState.route, KeyState.applyReceived, h]
  · by_cases h2 : ki = c.id
    · subst h2
      have h' : ¬ n.id = c.id := fun e => h e.symm
      simp [KeyState.receive, KeyState.route, KeyState.applyReceived, h, h']
    · simp [KeyState.receive, KeyState.route, h, h2]

theorem receive_rollOld (c o : CertKey) (ki : KeyId) (cert : Cert) :
    (KeyState.rollOld c o).receive ki cert = if ki = c.id then .rollOld (c.setIncoming cert) o else .rollOld c o := by
  by_cases h : ki = c.id <;> simp [KeyState.receive, KeyState.route, KeyState.applyReceived, h]

/-- The key state after the confirmed revocation (`KeyRollFinish`). -/
def KeyState.finished : KeyState → KeyState
  | .rollOld c _ => .active c
  | ks => ks

theorem wf_finished {ks : KeyState} (hwf : ks.wf = true) : ks.finished.wf = true := by
  cases ks <;> first | rfl | exact hwf

/-- The key state after every open certificate request was answered with `cert`, in closed form.  (The old key of
`rollOld` is never asked for: a request for it would be routed nowhere, and a well-formed state has none.) -/
def KeyState.answered (ks : KeyState) (cert : Cert) : KeyState :=
  match ks with
  | .pending p => if p.req then .active (.create p.id cert) else .pending p
  | .active c => .active (c.answer cert)
  | .rollPending p c =>
    if p.req then .rollNew (.create p.id cert) (c.answer cert) else .rollPending p (c.answer cert)
  | .rollNew n c => .rollNew (n.answer cert) (c.answer cert)
  | .rollOld c o => .rollOld (c.answer cert) o

theorem foldl_receive_certRequests {ks : KeyState} (hwf : ks.wf = true) (cert : Cert) :
    ks.certRequests.foldl (fun k ki => k.receive ki cert) ks = ks.answered cert := by
  cases ks with
  | pending p =>
    cases hp : p.req <;> simp only [KeyState.certRequests, KeyState.answered, receive_pending, hp, List.foldl_cons,
      List.foldl_nil, ↓reduceIte, Bool.false_eq_true]
  | active c =>
    cases hc : c.req <;> simp only [KeyState.certRequests, KeyState.answered, CertKey.answer, receive_active, hc,
      List.foldl_cons, List.foldl_nil, ↓reduceIte, Bool.false_eq_true]
  | rollPending p c =>
    have hne : ¬ c.id = p.id := Ne.symm (by simpa [KeyState.wf] using hwf)
    cases hp : p.req <;> cases hc : c.req <;>
      simp only [KeyState.certRequests, KeyState.answered, CertKey.answer, receive_rollPending, receive_rollNew, hp, hc,
        hne, create_id, List.foldl_cons, List.foldl_nil, List.nil_append, List.cons_append, ↓reduceIte,
        Bool.false_eq_true]
  | rollNew n c =>
    have hne : ¬ c.id = n.id := Ne.symm (by simpa [KeyState.wf] using hwf)
    cases hn : n.req <;> cases hc : c.req <;>
      simp only [KeyState.certRequests, KeyState.answered, CertKey.answer, receive_rollNew, hn, hc, hne, setIncoming_id,
        List.foldl_cons, List.foldl_nil, List.nil_append, List.cons_append, ↓reduceIte, Bool.false_eq_true]
  | rollOld c o =>
    have ho : o.req = false := by
      simp only [KeyState.wf, Bool.and_eq_true, Bool.not_eq_true'] at hwf
      exact hwf.1
    cases hc : c.req <;>
      simp only [KeyState.certRequests, KeyState.answered, CertKey.answer, receive_rollOld, hc, ho,
        List.foldl_cons, List.foldl_nil, List.append_nil, ↓reduceIte, Bool.false_eq_true]

/-- A sync with something to send, on the class: the revocation is confirmed, every certificate request answered. -/
theorem syncStep_of_pending {ks : KeyState} (hwf : ks.wf = true) (hp : ks.hasPending = true) (o : Offer) (now : Int) :
    ks.syncStep o now = ks.finished.answered o.cert := by
  rw [← foldl_receive_certRequests (wf_finished hwf)]
  unfold KeyState.syncStep
  simp only [hp, if_true]
  cases ks <;> rfl

/-- The key state after the requests `append_entitlement_events` creates. -/
def KeyState.requestedFor (ks : KeyState) (ent : Entitlement) (now : Int) : KeyState :=
  (ks.requestKeys ent now).foldl (fun k ki => k.applyRequested ki) ks

/-- A sync with nothing to send, on the class: the requests `append_entitlement_events` creates. -/
theorem syncStep_of_not_pending {ks : KeyState} (hp : ks.hasPending = false) (o : Offer) (now : Int) :
    ks.syncStep o now = ks.requestedFor o.ent now := by
  unfold KeyState.syncStep KeyState.requestedFor
  simp only [hp, Bool.false_eq_true, if_false]

theorem requestedFor_eq_syncStep {ks : KeyState} (hnp : ks.hasPending = false) (ent : Entitlement) (now : Int) :
    ks.requestedFor ent now = ks.syncStep ⟨ent.res, ent.na⟩ now := by
  rw [syncStep_of_not_pending hnp]
  unfold KeyState.requestedFor
  have : ks.requestKeys ent now = ks.requestKeys (Offer.ent ⟨ent.res, ent.na⟩) now := by
    cases ks <;> rfl
  rw [this]

/-- A request for a key of the class is flagged at that key (the keys of a class are different). -/
theorem requested_rollPending_new (p : PendKey) (c : CertKey) :
    (KeyState.rollPending p c).applyRequested p.id = .rollPending { p with req := true } c := if_pos rfl

theorem requested_rollPending_cur {p : PendKey} {c : CertKey} (h : p.id ≠ c.id) :
    (KeyState.rollPending p c).applyRequested c.id = .rollPending p { c with req := true } := if_neg h

theorem requested_rollNew_new (n c : CertKey) :
    (KeyState.rollNew n c).applyRequested n.id = .rollNew { n with req := true } c := if_pos rfl

theorem requested_rollNew_cur {n c : CertKey} (h : n.id ≠ c.id) :
    (KeyState.rollNew n c).applyRequested c.id = .rollNew n { c with req := true } := if_neg h

/-! The closed forms below are read off `syncStep` by evaluation once the request flags are
literals: which phase runs and the request lists are then computed.  With a request open the result is
`syncStep_of_pending`; with none, what is left are the look-ups by key identifier, settled by the
lemmas above. -/
theorem syncStep_pending (p : PendKey) (o : Offer) (now : Int) :
    (KeyState.pending p).syncStep o now =
      if p.req then .active (CertKey.create p.id o.cert) else .pending { p with req := true } := by
  obtain ⟨pid, _ | _⟩ := p
  · rfl
  · exact syncStep_of_pending rfl rfl o now

theorem syncStep_active (c : CertKey) (o : Offer) (now : Int) :
    (KeyState.active c).syncStep o now =
      .active (if c.req then c.setIncoming o.cert else c.ask o.ent now) := by
  obtain ⟨cid, ccert, _ | _⟩ := c
  · show List.foldl _ _ (if _ then [cid] else []) = KeyState.active (CertKey.ask _ _ _)
    unfold CertKey.ask
    split <;> rfl
  · exact syncStep_of_pending rfl rfl o now

theorem syncStep_rollPending {p : PendKey} {c : CertKey} (h : p.id ≠ c.id) (o : Offer) (now : Int) :
    (KeyState.rollPending p c).syncStep o now =
      if p.req then .rollNew (CertKey.create p.id o.cert) (c.answer o.cert)
      else if c.req then .rollPending p (c.setIncoming o.cert)
      else .rollPending { p with req := true } (c.ask o.ent now) := by
  obtain ⟨pid, preq⟩ := p
  obtain ⟨cid, ccert, creq⟩ := c
  cases preq <;> cases creq
  · show List.foldl _ _ ([pid] ++ if _ then [cid] else []) = KeyState.rollPending _ (if _ then _ else _)
    split
    · exact (congrArg (KeyState.applyRequested · cid) (requested_rollPending_new ..)).trans
        (requested_rollPending_cur (p := ⟨pid, true⟩) h)
    · exact requested_rollPending_new ..
  all_goals exact syncStep_of_pending (by exact decide_eq_true h) rfl o now

theorem syncStep_rollNew {n c : CertKey} (h : n.id ≠ c.id) (o : Offer) (now : Int) :
    (KeyState.rollNew n c).syncStep o now =
      if n.req || c.req then .rollNew (n.answer o.cert) (c.answer o.cert)
      else .rollNew (n.ask o.ent now) (c.ask o.ent now) := by
  obtain ⟨nid, ncert, nreq⟩ := n
  obtain ⟨cid, ccert, creq⟩ := c
  cases nreq <;> cases creq
  · show List.foldl _ _ ((if _ then [nid] else []) ++ if _ then [cid] else []) =
      KeyState.rollNew (if _ then _ else _) (if _ then _ else _)
    split <;> split
    · exact (congrArg (KeyState.applyRequested · cid) (requested_rollNew_new ..)).trans
        (requested_rollNew_cur (n := ⟨nid, ncert, true⟩) h)
    · exact requested_rollNew_new ..
    · exact requested_rollNew_cur h
    · rfl
  all_goals exact syncStep_of_pending (by exact decide_eq_true h) rfl o now

theorem syncStep_rollOld (c od : CertKey) (o : Offer) (now : Int) :
    (KeyState.rollOld c od).syncStep o now = .active (c.answer o.cert) := by
  obtain ⟨cid, ccert, _ | _⟩ := c
  · obtain ⟨oid, ocert, _ | _⟩ := od <;> rfl
  · exact (receive_active ⟨cid, ccert, true⟩ cid o.cert).trans (if_pos rfl)

def AState.hasPending : AState → Bool
  | .pending req => req
  | .active c => c.req
  | .rollPending preq c => preq || c.req
  | .rollNew n c => n.req || c.req
  | .rollOld _ _ _ => true

/-- Nothing to send, nothing wanted, no pending and no old key: `active`, or a new key waiting
for its activation. -/
def AState.calm : AState → Bool
  | .active c => !c.req && !c.want
  | .rollNew n c => !n.req && !n.want && !c.req && !c.want
  | _ => false

/-- A sync in which requests are sent, seen from one class: its requests are answered, or it has
none and nothing happens to it. -/
def AState.rstep (a : AState) : AState := if a.hasPending then a.syncStep else a

theorem abs_hasPending (ks : KeyState) (o : Offer) (now : Int) :
    (ks.abs o now).hasPending = ks.hasPending := by
  cases ks with
  | pending p => obtain ⟨pid, preq⟩ := p; cases preq <;> rfl
  | active c => obtain ⟨cid, cc, creq⟩ := c; cases creq <;> rfl
  | rollPending p c =>
    obtain ⟨pid, preq⟩ := p; obtain ⟨cid, cc, creq⟩ := c
    cases preq <;> cases creq <;> rfl
  | rollNew n c =>
    obtain ⟨nid, nc, nreq⟩ := n; obtain ⟨cid, cc, creq⟩ := c
    cases nreq <;> cases creq <;> rfl
  | rollOld c o' => simp [KeyState.abs, AState.hasPending, KeyState.hasPending, KeyState.revokeRequest]

theorem abs_syncStep {ks : KeyState} (hwf : ks.wf = true) (o : Offer) (now : Int) :
    (ks.syncStep o now).abs o now = (ks.abs o now).syncStep := by
  cases ks with
  | pending p =>
    rw [syncStep_pending]
    cases hp : p.req <;> simp [KeyState.abs, AState.syncStep, hp, abs_create]
  | active c =>
    rw [syncStep_active]
    cases hc : c.req <;> simp [KeyState.abs, AState.syncStep, abs_req_proj, hc, abs_setIncoming, abs_ask]
  | rollPending p c =>
    rw [syncStep_rollPending (by simpa [KeyState.wf] using hwf)]
    cases hp : p.req <;> cases hc : c.req <;>
      simp [KeyState.abs, AState.syncStep, abs_req_proj, hp, hc, abs_create, abs_answer, abs_setIncoming, abs_ask]
  | rollNew n c =>
    rw [syncStep_rollNew (by simpa [KeyState.wf] using hwf)]
    cases hn : n.req <;> cases hc : c.req <;>
      simp [KeyState.abs, AState.syncStep, abs_req_proj, hn, hc, abs_answer, abs_ask]
  | rollOld c od =>
    rw [syncStep_rollOld]
    cases hc : c.req <;> simp [KeyState.abs, AState.syncStep, abs_req_proj, hc, abs_answer]

theorem abs_rstep {ks ks' : KeyState} (hwf : ks.wf = true) (o : Offer) (now : Int)
    (h : (ks.hasPending = true ∧ ks' = ks.syncStep o now) ∨ (ks.hasPending = false ∧ ks' = ks)) :
    ks'.abs o now = (ks.abs o now).rstep := by
  unfold AState.rstep
  rw [abs_hasPending ks]
  rcases h with ⟨h1, h2⟩ | ⟨h1, h2⟩
  · rw [h1, h2, abs_syncStep hwf]; rfl
  · rw [h1, h2]; rfl

theorem wf_syncStep {ks : KeyState} (h : ks.wf = true) (o : Offer) (now : Int) :
    (ks.syncStep o now).wf = true := by
  cases ks with
  | pending p => rw [syncStep_pending]; split <;> rfl
  | active c => rw [syncStep_active]; rfl
  | rollPending p c =>
    have hne : p.id ≠ c.id := by simpa [KeyState.wf] using h
    rw [syncStep_rollPending hne]
    split
    · simp [KeyState.wf, answer_id, create_id, hne]
    · split <;> simp [KeyState.wf, ask_id, setIncoming_id, hne]
  | rollNew n c =>
    have hne : n.id ≠ c.id := by simpa [KeyState.wf] using h
    rw [syncStep_rollNew hne]
    split <;> simp [KeyState.wf, ask_id, answer_id, hne]
  | rollOld c od => rw [syncStep_rollOld]; rfl

theorem activateStep_rollNew (n c : CertKey) :
    (KeyState.rollNew n c).activateStep = if n.req || c.req then .rollNew n c else .rollOld n c := by
  cases h : (n.req || c.req) <;> simp only [KeyState.activateStep, KeyState.keyrollActivate, h] <;> rfl

theorem activateStep_cases (ks : KeyState) :
    ks.activateStep = ks ∨ ∃ n c, ks = .rollNew n c ∧ ks.activateStep = .rollOld n c := by
  cases ks with
  | rollNew n c =>
    rw [activateStep_rollNew]
    split
    · exact Or.inl rfl
    · exact Or.inr ⟨n, c, rfl, rfl⟩
  | _ => exact Or.inl rfl

theorem abs_activateStep (ks : KeyState) (o : Offer) (now : Int) :
    (ks.activateStep).abs o now = (ks.abs o now).activateStep := by
  cases ks with
  | rollNew n c =>
    rw [activateStep_rollNew]
    cases h : (n.req || c.req) <;> simp only [KeyState.abs, AState.activateStep, abs_req_proj, h] <;> rfl
  | _ => rfl

theorem wf_activateStep {ks : KeyState} (h : ks.wf = true) : ks.activateStep.wf = true := by
  cases ks with
  | rollNew n c =>
    rw [activateStep_rollNew]
    split
    · exact h
    · rename_i hr
      simp only [Bool.or_eq_true, not_or, Bool.not_eq_true] at hr
      simp only [KeyState.wf, hr.2, Bool.not_false, Bool.true_and]
      exact h
  | _ => exact h

theorem abs_wf {ks : KeyState} (h : ks.wf = true) (o : Offer) (now : Int) : (ks.abs o now).wf = true := by
  cases ks <;> simp_all [KeyState.wf, KeyState.abs, AState.wf]

theorem abs_isActive (ks : KeyState) (o : Offer) (now : Int) :
    (ks.abs o now).isActive = decide (ks.variant = .active) := by
  cases ks <;> simp [KeyState.abs, AState.isActive, KeyState.variant]

theorem abs_rolling (ks : KeyState) (o : Offer) (now : Int) : (ks.abs o now).rolling = ks.rolling := by
  cases ks <;> rfl

theorem abs_round {ks : KeyState} (h : ks.wf = true) (o : Offer) (now : Int) :
    (ks.round o now).abs o now = (ks.abs o now).round ∧ (ks.round o now).wf = true := by
  unfold KeyState.round AState.round
  have h1 := wf_syncStep h o now
  have h2 := wf_activateStep h1
  refine ⟨?_, wf_syncStep h2 o now⟩
  rw [abs_syncStep h2, abs_activateStep, abs_syncStep h]

instance (p : AKey → Prop) [DecidablePred p] : Decidable (∀ k, p k) :=
  decidable_of_iff (∀ r w, p ⟨r, w⟩) ⟨fun h ⟨r, w⟩ => h r w, fun h _ _ => h _⟩

/-- The abstract machine has finitely many states: a statement about all of them is decided by going through
them. -/
instance (p : AState → Prop) [DecidablePred p] : Decidable (∀ a, p a) :=
  decidable_of_iff ((∀ r, p (.pending r)) ∧ (∀ c, p (.active c)) ∧ (∀ r c, p (.rollPending r c)) ∧
      (∀ n c, p (.rollNew n c)) ∧ ∀ c r w, p (.rollOld c r w))
    ⟨fun h a => by cases a <;> simp only [h],
      fun h => ⟨fun _ => h _, fun _ => h _, fun _ _ => h _, fun _ _ => h _, fun _ _ _ => h _⟩⟩

/-- The finite machine: two rounds (sync, activate, sync) complete every roll; from an active state two
syncs reach a quiet one, which no step changes. -/
theorem aState_two_rounds (a : AState) (hwf : a.wf = true) (hr : a.rolling = true) :
    (a.round.round).isActive = true :=
  (by decide +kernel : ∀ a : AState, a.wf = true → a.rolling = true → a.round.round.isActive = true) a hwf hr

theorem aState_active_quiet (a : AState) (h : a.isActive = true) :
    (a.syncStep.syncStep).quiet = true ∧
    ∀ b : AState, b.quiet = true → b.syncStep = b ∧ b.activateStep = b :=
  ⟨(by decide +kernel : ∀ a : AState, a.isActive = true → a.syncStep.syncStep.quiet = true) a h, by decide +kernel⟩

/-- After the entitlement step and the answers every class is calm. -/
theorem aState_calm_after : ∀ a : AState, a.hasPending = false →
    a.syncStep.rstep.calm = true ∧ (a.syncStep.hasPending = false → a.syncStep.calm = true) := by
  decide +kernel

/-- From a calm class: the activation and the answers leave it quiet (`active`, nothing open). -/
theorem aState_quiet_after : ∀ a : AState, a.calm = true →
    a.activateStep.rstep.quiet = true ∧ (a.activateStep.hasPending = false → a.activateStep.quiet = true) ∧
    a.activateStep.wf = true := by
  decide +kernel

/-- The class has nothing to send, no key wants an update for the offer, there is no pending and
no old key. -/
def Calm (o : Offer) (now : Int) (ks : KeyState) : Prop := ks.wf = true ∧ (ks.abs o now).calm = true

theorem calm_cases {o : Offer} {now : Int} {ks : KeyState} (h : Calm o now ks) :
    (∃ c, ks = .active c ∧ c.req = false ∧ c.wantsUpdate o.res o.na now = false) ∨
    (∃ n c, ks = .rollNew n c ∧ n.req = false ∧ c.req = false ∧ n.wantsUpdate o.res o.na now = false ∧
      c.wantsUpdate o.res o.na now = false) := by
  obtain ⟨_, hc⟩ := h
  cases ks with
  | active c =>
    simp only [KeyState.abs, AState.calm, CertKey.abs, Bool.and_eq_true, Bool.not_eq_true'] at hc
    exact Or.inl ⟨c, rfl, hc.1, hc.2⟩
  | rollNew n c =>
    simp only [KeyState.abs, AState.calm, CertKey.abs, Bool.and_eq_true, Bool.not_eq_true'] at hc
    exact Or.inr ⟨n, c, rfl, hc.1.1.1, hc.1.2, hc.1.1.2, hc.2⟩
  | pending _ => simp [KeyState.abs, AState.calm] at hc
  | rollPending _ _ => simp [KeyState.abs, AState.calm] at hc
  | rollOld _ _ => simp [KeyState.abs, AState.calm] at hc

theorem calm_not_pending {o : Offer} {now : Int} {ks : KeyState} (h : Calm o now ks) : ks.hasPending = false := by
  rw [← abs_hasPending ks o now]
  exact (by decide +kernel : ∀ a : AState, a.calm = true → a.hasPending = false) _ h.2

theorem calm_requestKeys {o : Offer} {now : Int} {ks : KeyState} (h : Calm o now ks) (ent : Entitlement)
    (hr : ent.res = o.res) (hn : ent.na = o.na) : ks.requestKeys ent now = [] := by
  rcases calm_cases h with ⟨c, rfl, _, h2⟩ | ⟨n, c, rfl, _, _, h3, h4⟩
  · simp [KeyState.requestKeys, hr, hn, h2]
  · simp [KeyState.requestKeys, hr, hn, h3, h4]

theorem quiet_cases {o : Offer} {now : Int} {ks : KeyState} (h : (ks.abs o now).quiet = true) :
    ∃ c, ks = .active c ∧ c.req = false ∧ c.wantsUpdate o.res o.na now = false := by
  cases ks with
  | active c =>
    simp only [KeyState.abs, AState.quiet, CertKey.abs, Bool.and_eq_true, Bool.not_eq_true'] at h
    exact ⟨c, rfl, h.1, h.2⟩
  | pending _ => simp [KeyState.abs, AState.quiet] at h
  | rollPending _ _ => simp [KeyState.abs, AState.quiet] at h
  | rollNew _ _ => simp [KeyState.abs, AState.quiet] at h
  | rollOld _ _ => simp [KeyState.abs, AState.quiet] at h

end KM.CaK
