/-
The session cache never decides an answer.  `Change` lists what one operation can do to the session state; each of
these keeps `CacheSound`, so with a sound cache the config-file provider answers a bearer token with `sessionAnswer` of
the token alone.  The provider chain is `tokenArms` (legacy admin token, else primary provider), else the socket peer
(`authenticate_eq`); `Genuine` is what `tokenArms` accepts.  `login_cases` says what `login` returns.
-/
import KrillModel.Http.Auth
import KrillModel.Base.Assoc
namespace KM.Http
open KM.Generated

theorem AuthRes.isOk_iff (a : AuthRes) : a.isOk = true ↔ ∃ id role, a = .ok id role := by
  cases a <;> simp [AuthRes.isOk]

theorem decodeFresh_some_iff (key : Nat) (w : Wire) (s : Session) :
    decodeFresh key w = some s ↔ ∃ n, w = .sealed true key n (.session s.user s.role) := by
  unfold decodeFresh decrypt
  cases w with
  | text t => simp
  | sealed c k n pt =>
    cases c with
    | false => simp
    | true =>
      by_cases hk : k = key
      · subst hk
        cases pt with
        | garbage g => simp [Plain.parse]
        | session u r =>
          simp only [if_true, Option.bind_some, Plain.parse, Option.some.injEq, Wire.sealed.injEq,
            true_and, Plain.session.injEq]
          constructor
          · intro h; subst h; exact ⟨n, rfl, rfl, rfl⟩
          · intro ⟨_, _, hu, hr⟩; cases s; simp_all
      · simp [hk]

/-- All that one operation can do to the session state: nothing, one more cache entry (a token with what it decodes
to), cache entries dropped, a token issued to a configured user whose role allows `login`. -/
inductive Change (cfg : Config) (st : SessState) : SessState → Prop
  | same : Change cfg st st
  | cached (w : Wire) (s : Session) (h : decodeFresh cfg.key w = some s) :
      Change cfg st { st with cache := (w, s) :: st.cache }
  | dropped (keep : Wire × Session → Bool) : Change cfg st { st with cache := st.cache.filter keep }
  | issued (name : String) (u : UserEntry) (r : Role) (hu : cfg.users.lookup name = some u)
      (hr : cfg.roles.lookup u.role = some r) (hal : r.isAllowed .Login none = true) :
      Change cfg st (encode cfg.key st name u.role).2

theorem Change.sound {cfg : Config} {st st' : SessState} (h : Change cfg st st') (hs : CacheSound cfg.key st) :
    CacheSound cfg.key st' := by
  cases h with
  | same => exact hs
  | cached w s hd => exact fun e he => (List.mem_cons.mp he).elim (· ▸ hd) (hs e)
  | dropped keep => exact fun e he => hs e (List.mem_filter.mp he).1
  | issued name u r =>
    exact fun e he => (List.mem_cons.mp he).elim (· ▸ by simp [decodeFresh, decrypt, Plain.parse]) (hs e)

theorem decode_change (cfg : Config) (st : SessState) (w : Wire) : Change cfg st (decode cfg.key st w).2 := by
  unfold decode
  cases st.cache.lookup w with
  | some s => exact .same
  | none =>
    cases hd : decodeFresh cfg.key w with
    | none => exact .same
    | some s => exact .cached w s hd

theorem decode_fst (key : Nat) (st : SessState) (w : Wire) (hs : CacheSound key st) :
    (decode key st w).1 = decodeFresh key w := by
  unfold decode
  cases hl : st.cache.lookup w with
  | some s => exact (hs _ (Assoc.mem_of_lookup hl)).symm
  | none => cases decodeFresh key w <;> rfl

/-- What a bearer string is worth to the config-file provider when the cache is left out: the session it
decodes to, with the role configured under the session's role name. -/
def sessionAnswer (cfg : Config) (w : Wire) : AuthRes :=
  match decodeFresh cfg.key w with
  | some s => authFromSession cfg s
  | none => .err

theorem sessionAnswer_ok_iff (cfg : Config) (w : Wire) (id : String) (role : Role) :
    sessionAnswer cfg w = .ok id role ↔
      ∃ n r, w = .sealed true cfg.key n (.session id r) ∧ cfg.roles.lookup r = some role := by
  unfold sessionAnswer
  constructor
  · intro h
    split at h
    · rename_i s hd
      obtain ⟨n, hn⟩ := (decodeFresh_some_iff _ _ _).mp hd
      unfold authFromSession at h
      split at h
      · rename_i ro hr
        cases h
        exact ⟨n, s.role, hn, hr⟩
      · cases h
    · cases h
  · rintro ⟨n, r, rfl, hr⟩
    rw [(decodeFresh_some_iff cfg.key _ ⟨id, r⟩).mpr ⟨n, rfl⟩]
    simp only [authFromSession, hr]

theorem configFileProvider_bearer (cfg : Config) (st : SessState) (w : Wire) :
    configFileProvider cfg st (.bearer w) =
      ((match (decode cfg.key st w).1 with
        | some s => authFromSession cfg s
        | none => .err), (decode cfg.key st w).2) := by
  simp only [configFileProvider]
  generalize decode cfg.key st w = d
  obtain ⟨o, st'⟩ := d
  cases o <;> rfl

theorem configFileProvider_fst (cfg : Config) (st : SessState) (w : Wire) (hs : CacheSound cfg.key st) :
    (configFileProvider cfg st (.bearer w)).1 = sessionAnswer cfg w := by
  rw [configFileProvider_bearer, decode_fst cfg.key st w hs]
  rfl

theorem configFileProvider_change (cfg : Config) (st : SessState) (h : Header) :
    Change cfg st (configFileProvider cfg st h).2 := by
  cases h with
  | absent => exact .same
  | bearer w => rw [configFileProvider_bearer]; exact decode_change cfg st w

/-- The entry and the role `login` finds for a name and a password: the user is configured under the
normalised name, the stored hash is the hash of the password, the entry's role name is defined. -/
structure LoginMatch (norm : String → String) (cfg : Config) (raw pw : String) (u : UserEntry) (r : Role) :
    Prop where
  user : cfg.users.lookup (norm raw) = some u
  hash : u.hash = .term ⟨norm pw, norm raw, u.salt⟩
  role : cfg.roles.lookup u.role = some r

theorem login_of_match {norm : String → String} {cfg : Config} {raw pw : String} {u : UserEntry} {r : Role}
    (m : LoginMatch norm cfg raw pw u r) (st : SessState) :
    loginConfigFile norm cfg st (some (raw, pw)) =
      if r.isAllowed .Login none = true then
        (.ok (norm raw) u.role (encode cfg.key st (norm raw) u.role).1, (encode cfg.key st (norm raw) u.role).2)
      else (.denied, st) := by
  simp only [loginConfigFile, m.user, m.hash, m.role, ne_eq, not_true_eq_false, if_false]
  cases r.isAllowed .Login none <;> rfl

theorem login_of_no_match {norm : String → String} {cfg : Config} {raw pw : String}
    (h : ∀ u r, ¬ LoginMatch norm cfg raw pw u r) (st : SessState) :
    loginConfigFile norm cfg st (some (raw, pw)) = (.invalid, st) := by
  simp only [loginConfigFile]
  split
  · rfl
  · rename_i u hu
    split
    · rfl
    · rename_i hh
      split
      · rfl
      · rename_i r hr
        exact absurd ⟨hu, (Decidable.not_not.mp hh).symm, hr⟩ (h u r)

theorem login_invalid_of_entry {norm : String → String} {cfg : Config} {raw pw : String} {u : UserEntry}
    (hu : cfg.users.lookup (norm raw) = some u)
    (h : u.hash ≠ .term ⟨norm pw, norm raw, u.salt⟩ ∨ cfg.roles.lookup u.role = none) (st : SessState) :
    loginConfigFile norm cfg st (some (raw, pw)) = (.invalid, st) := by
  refine login_of_no_match (fun u' r m => ?_) st
  cases hu.symm.trans m.user
  exact h.elim (· m.hash) fun hn => nomatch hn.symm.trans m.role

theorem login_cases (norm : String → String) (cfg : Config) (st : SessState)
    (basic : Option (String × String)) :
    loginConfigFile norm cfg st basic = (.invalid, st) ∨
    ∃ raw pw u r, basic = some (raw, pw) ∧ LoginMatch norm cfg raw pw u r ∧
      (r.isAllowed .Login none = true ∧
          loginConfigFile norm cfg st basic =
            (.ok (norm raw) u.role (encode cfg.key st (norm raw) u.role).1,
              (encode cfg.key st (norm raw) u.role).2) ∨
        r.isAllowed .Login none = false ∧ loginConfigFile norm cfg st basic = (.denied, st)) := by
  cases basic with
  | none => exact Or.inl rfl
  | some b =>
    obtain ⟨raw, pw⟩ := b
    by_cases h : ∃ u r, LoginMatch norm cfg raw pw u r
    · obtain ⟨u, r, m⟩ := h
      refine Or.inr ⟨raw, pw, u, r, rfl, m, ?_⟩
      rw [login_of_match m st]
      cases r.isAllowed .Login none
      · exact Or.inr ⟨rfl, if_neg Bool.false_ne_true⟩
      · exact Or.inl ⟨rfl, if_pos rfl⟩
    · exact Or.inl (login_of_no_match (fun u r m => h ⟨u, r, m⟩) st)

theorem adminProvider_isOk_iff (cfg : Config) (h : Header) :
    (adminProvider cfg h).isOk = true ↔ h = .bearer (.text cfg.adminToken) := by
  cases h with
  | absent => simp [adminProvider, AuthRes.isOk]
  | bearer w => by_cases hw : w = .text cfg.adminToken <;> simp [adminProvider, hw, AuthRes.isOk]

theorem adminProvider_ok_iff (cfg : Config) (h : Header) (id : String) (role : Role) :
    adminProvider cfg h = .ok id role ↔
      h = .bearer (.text cfg.adminToken) ∧ id = adminTokenUser ∧ role = adminRole := by
  cases h with
  | absent => simp [adminProvider]
  | bearer w => by_cases hw : w = .text cfg.adminToken <;> simp [adminProvider, hw, eq_comm]

/-- `a`, unless it is no identity: then `b` (how `authenticate_request` goes from one provider to the next). -/
def AuthRes.orElse (a b : AuthRes) : AuthRes := if a.isOk then a else b

theorem AuthRes.orElse_ok_iff (a b : AuthRes) (id : String) (role : Role) :
    a.orElse b = .ok id role ↔ a = .ok id role ∨ (¬ a.isOk = true ∧ b = .ok id role) := by
  cases a <;> simp [AuthRes.orElse, AuthRes.isOk]

theorem AuthRes.orElse_of_not_isOk {a : AuthRes} (b : AuthRes) (h : ¬ a.isOk = true) : a.orElse b = b :=
  if_neg h

/-- The first two arms of the chain (legacy admin token, primary provider). -/
def tokenArms (cfg : Config) (st : SessState) (h : Header) : AuthRes :=
  (legacyProvider cfg h).orElse (primaryProvider cfg st h).1

theorem authenticate_eq (cfg : Config) (st : SessState) (h : Header) (t : Transport) :
    authenticate cfg st h t =
      ((tokenArms cfg st h).orElse (unixProvider cfg t),
        if (legacyProvider cfg h).isOk then st else (primaryProvider cfg st h).2) := by
  unfold authenticate tokenArms AuthRes.orElse
  by_cases hl : (legacyProvider cfg h).isOk = true <;> simp [hl]

theorem authenticate_change (cfg : Config) (st : SessState) (h : Header) (t : Transport) :
    Change cfg st (authenticate cfg st h t).2 := by
  rw [authenticate_eq]
  dsimp only
  split
  · exact .same
  · unfold primaryProvider
    cases cfg.authType with
    | configFile => exact configFileProvider_change cfg st h
    | adminToken => exact .same

/-- Every operation is two changes in a row (in the proof: cache entries removed, or nothing, then one more). -/
theorem step_change (norm : String → String) (cfg : Config) (st : SessState) (op : Op) :
    ∃ st1, Change cfg st st1 ∧ Change cfg st1 (step norm cfg st op) := by
  cases op with
  | auth h t => exact ⟨st, .same, authenticate_change cfg st h t⟩
  | sweep k => exact ⟨_, .dropped fun e => k e.1, .same⟩
  | logout h =>
    cases h with
    | absent => exact ⟨st, .same, .same⟩
    | bearer w => exact ⟨_, .dropped fun e => e.1 != w, configFileProvider_change cfg (st.remove w) (.bearer w)⟩
  | login b =>
    refine ⟨st, .same, ?_⟩
    show Change cfg st (loginConfigFile norm cfg st b).2
    rcases login_cases norm cfg st b with he | ⟨raw, pw, u, r, _, m, ⟨hal, he⟩ | ⟨_, he⟩⟩
    · rw [he]; exact .same
    · rw [he]; exact .issued (norm raw) u r m.user m.role hal
    · rw [he]; exact .same

theorem step_preserves {P : SessState → Prop} {cfg : Config} (hP : ∀ st st', Change cfg st st' → P st → P st')
    (norm : String → String) (st : SessState) (op : Op) (h : P st) : P (step norm cfg st op) := by
  obtain ⟨st1, h1, h2⟩ := step_change norm cfg st op
  exact hP _ _ h2 (hP _ _ h1 h)

theorem logout_sound (cfg : Config) (st : SessState) (h : Header) (hs : CacheSound cfg.key st) :
    CacheSound cfg.key (logoutConfigFile cfg st h) :=
  step_preserves (fun _ _ => Change.sound) id st (.logout h) hs

theorem tokenArms_adminToken (cfg : Config) (hat : cfg.authType = .adminToken) (st : SessState) (h : Header) :
    tokenArms cfg st h = adminProvider cfg h := by
  unfold tokenArms legacyProvider primaryProvider
  rw [hat]
  rfl

theorem tokenArms_absent (cfg : Config) (st : SessState) : tokenArms cfg st .absent = .none := by
  unfold tokenArms legacyProvider primaryProvider
  cases cfg.authType <;> rfl

theorem tokenArms_bearer (cfg : Config) (st : SessState) (hs : CacheSound cfg.key st) (w : Wire) :
    tokenArms cfg st (.bearer w) =
      if w = .text cfg.adminToken then .ok adminTokenUser adminRole
      else match cfg.authType with
        | .configFile => sessionAnswer cfg w
        | .adminToken => .err := by
  unfold tokenArms AuthRes.orElse legacyProvider primaryProvider
  cases cfg.authType with
  | adminToken => by_cases hw : w = .text cfg.adminToken <;> simp [adminProvider, hw, AuthRes.isOk]
  | configFile =>
    by_cases hw : w = .text cfg.adminToken
    · simp [adminProvider, hw, AuthRes.isOk]
    · simp only [adminProvider, hw, if_false, AuthRes.isOk, Bool.false_eq_true]
      exact configFileProvider_fst cfg st w hs

/-- `w` is a credential of somebody under `cfg`: the admin token verbatim, or (config-file provider)
the canonical encoding of a session sealed under this instance's key whose role is configured. -/
def Genuine (cfg : Config) (w : Wire) : Prop :=
  w = .text cfg.adminToken ∨
  (cfg.authType = .configFile ∧
    ∃ n u r role, w = .sealed true cfg.key n (.session u r) ∧ cfg.roles.lookup r = some role)

theorem not_genuine_of_not_sealed {cfg : Config} {w : Wire} (hadm : w ≠ .text cfg.adminToken)
    (hnot : ∀ n pt, w ≠ .sealed true cfg.key n pt) : ¬ Genuine cfg w := by
  rintro (h | ⟨_, n, u, r, role, hw, _⟩)
  · exact hadm h
  · exact hnot n _ hw

theorem tokenArms_isOk_iff (cfg : Config) (st : SessState) (hs : CacheSound cfg.key st) (w : Wire) :
    (tokenArms cfg st (.bearer w)).isOk = true ↔ Genuine cfg w := by
  rw [tokenArms_bearer cfg st hs]
  unfold Genuine
  by_cases hw : w = .text cfg.adminToken
  · rw [if_pos hw]
    exact iff_of_true rfl (Or.inl hw)
  · rw [if_neg hw]
    cases cfg.authType with
    | adminToken => exact iff_of_false nofun fun h => h.elim hw fun h => nomatch h.1
    | configFile =>
      simp only [AuthRes.isOk_iff, sessionAnswer_ok_iff, hw, false_or, true_and]
      exact ⟨fun ⟨u, role, n, r, h⟩ => ⟨n, u, r, role, h⟩,
        fun ⟨n, u, r, role, h⟩ => ⟨u, role, n, r, h⟩⟩

theorem authenticate_absent (cfg : Config) (st : SessState) (t : Transport) :
    (authenticate cfg st .absent t).1 = unixProvider cfg t := by
  rw [authenticate_eq, tokenArms_absent]
  rfl

theorem not_genuine_as_absent (cfg : Config) (st : SessState) (hs : CacheSound cfg.key st) (w : Wire)
    (hw : ¬ Genuine cfg w) (t : Transport) :
    (authenticate cfg st (.bearer w) t).1 = unixProvider cfg t := by
  rw [authenticate_eq]
  exact AuthRes.orElse_of_not_isOk _ fun h => hw ((tokenArms_isOk_iff cfg st hs w).mp h)

end KM.Http
