/-
`trim` and `getBearerToken` through the decomposition of a text into white space, a core, white space; the near misses of a token.
-/
import KrillModel.Http.Bearer
namespace KM.Http

/-- `m` has no white space at either end (the empty list included). -/
def Core (m : List Char) : Prop :=
  (∀ c, m.head? = some c → isWs c = false) ∧ (∀ c, m.getLast? = some c → isWs c = false)

theorem dropWhile_core_head (m l : List Char) (hm : m ≠ [])
    (h : ∀ c, m.head? = some c → isWs c = false) : (m ++ l).dropWhile isWs = m ++ l := by
  cases m with
  | nil => exact absurd rfl hm
  | cons c cs => simp [h c rfl]

theorem trim_decomp (a m b : List Char) (ha : a.all isWs = true) (hb : b.all isWs = true)
    (hm : Core m) : trim (a ++ m ++ b) = m := by
  unfold trim trimStart trimEnd
  rw [List.append_assoc, List.dropWhile_append_of_pos (List.all_eq_true.mp ha)]
  by_cases hne : m = []
  · subst hne
    have hb' : b.dropWhile isWs = [] := by
      simpa using List.dropWhile_append_of_pos (l₂ := []) (List.all_eq_true.mp hb)
    simp [hb']
  · rw [dropWhile_core_head m b hne hm.1]
    rw [List.reverse_append, List.dropWhile_append_of_pos (by simpa using hb)]
    have hr : m.reverse ≠ [] := by simpa using hne
    have h2 := dropWhile_core_head m.reverse [] hr (by
      intro c hc
      apply hm.2 c
      simpa [List.head?_reverse] using hc)
    simp only [List.append_nil] at h2
    rw [h2, List.reverse_reverse]

theorem exists_ws_prefix (l : List Char) :
    ∃ a r, l = a ++ r ∧ a.all isWs = true ∧ ∀ c, r.head? = some c → isWs c = false := by
  refine ⟨l.takeWhile isWs, l.dropWhile isWs, List.takeWhile_append_dropWhile.symm, List.all_takeWhile,
    fun c hc => ?_⟩
  have := List.head?_dropWhile_not isWs l
  rw [hc] at this
  exact this

theorem exists_decomp (l : List Char) :
    ∃ a m b, l = a ++ m ++ b ∧ a.all isWs = true ∧ b.all isWs = true ∧ Core m := by
  obtain ⟨a, r, rfl, ha, hr⟩ := exists_ws_prefix l
  obtain ⟨b, m, hbm, hb, hm⟩ := exists_ws_prefix r.reverse
  obtain rfl : r = m.reverse ++ b.reverse := by
    rw [← List.reverse_append, ← hbm, List.reverse_reverse]
  refine ⟨a, m.reverse, b.reverse, (List.append_assoc _ _ _).symm, ha, by simpa using hb, fun c hc => ?_,
    fun c hc => hm c (List.getLast?_reverse ▸ hc)⟩
  exact hr c (by rw [List.head?_append, hc]; rfl)

theorem core_append {p m : List Char} (a : List Char) (hp : p ≠ [])
    (hph : ∀ c, p.head? = some c → isWs c = false) (hm : m ≠ [])
    (hml : ∀ c, m.getLast? = some c → isWs c = false) : Core (p ++ a ++ m) := by
  constructor
  · intro c hc
    apply hph c
    cases p with
    | nil => exact absurd rfl hp
    | cons x xs => simpa using hc
  · intro c hc
    rw [List.getLast?_append] at hc
    cases hl : m.getLast? with
    | none => exact absurd (List.getLast?_eq_none_iff.mp hl) hm
    | some d =>
      rw [hl] at hc
      cases hc
      exact hml _ hl

theorem of_trim_eq {x m : List Char} (h : trim x = m) :
    ∃ a b, x = a ++ m ++ b ∧ a.all isWs = true ∧ b.all isWs = true := by
  obtain ⟨a, m', b, rfl, ha, hb, hm'⟩ := exists_decomp x
  rw [trim_decomp a m' b ha hb hm'] at h
  subst h
  exact ⟨a, b, rfl, ha, hb⟩

theorem eq_of_trim_eq_of_length_le (x t : List Char) (hlen : x.length ≤ t.length) (h : trim x = t) :
    x = t := by
  obtain ⟨a, b, rfl, _, _⟩ := of_trim_eq h
  simp only [List.length_append] at hlen
  have h1 : a = [] := List.eq_nil_of_length_eq_zero (by omega)
  have h2 : b = [] := List.eq_nil_of_length_eq_zero (by omega)
  simp [h1, h2]

theorem all_headerChar_of_ws (l : List Char) (h : l.all isWs = true) : l.all isHeaderChar = true := by
  simp only [List.all_eq_true] at h ⊢
  intro c hc
  have := h c hc
  simp only [isWs, Bool.or_eq_true, beq_iff_eq] at this
  rcases this with rfl | rfl <;> decide

theorem getBearerToken_decomp (a m b : List Char) (ha : a.all isWs = true) (hb : b.all isWs = true)
    (hm : Core m) (hvis : m.all isHeaderChar = true) :
    getBearerToken (some (bearerPrefix ++ (a ++ m ++ b))) = if m = [] then none else some m := by
  by_cases hne : m = []
  · subst hne
    -- the value is `Bearer`: the blank of the prefix is trailing white space too
    have h1 : bearerPrefix ++ (a ++ [] ++ b) = [] ++ bearerWord ++ (' ' :: (a ++ b)) := by
      simp [bearerPrefix]
    have h2 : trim (bearerPrefix ++ (a ++ [] ++ b)) = bearerWord := by
      rw [h1]
      apply trim_decomp
      · rfl
      · simp [isWs, ha, hb]
      · constructor <;> intro c hc <;> simp [bearerWord] at hc <;> subst hc <;> decide
    simp only [getBearerToken, h2, if_true]
    decide
  · -- prefix, leading blanks and `m` together are the core of the value: the first `trim` returns them, `drop` cuts
    -- the prefix, the second `trim` cuts `a`
    have hcore : Core (bearerPrefix ++ a ++ m) :=
      core_append a (by decide) (fun c hc => by cases hc; decide) hne hm.2
    have h1 : bearerPrefix ++ (a ++ m ++ b) = [] ++ (bearerPrefix ++ a ++ m) ++ b := by simp
    have h2 : trim (bearerPrefix ++ (a ++ m ++ b)) = bearerPrefix ++ a ++ m := by
      rw [h1]; exact trim_decomp [] _ b rfl hb hcore
    have hall : (bearerPrefix ++ a ++ m).all isHeaderChar = true := by
      simp only [List.all_append, Bool.and_eq_true]
      exact ⟨⟨by decide, all_headerChar_of_ws a ha⟩, hvis⟩
    have hpre : bearerPrefix.isPrefixOf (bearerPrefix ++ a ++ m) = true := by
      rw [List.isPrefixOf_iff_prefix, List.append_assoc]
      exact List.prefix_append _ _
    have hdrop : (bearerPrefix ++ a ++ m).drop bearerPrefix.length = a ++ m := by
      rw [List.append_assoc, List.drop_left]
    have htrim : trim (a ++ m) = m := by
      have := trim_decomp a m [] ha rfl hm
      simpa using this
    simp only [getBearerToken, h2, hall, Bool.not_true, Bool.false_eq_true, if_false, hpre, if_true,
      hdrop, htrim, hne]

theorem getBearerToken_bearer (x : List Char) (hx : x.all isHeaderChar = true) :
    getBearerToken (some (bearerPrefix ++ x)) = if trim x = [] then none else some (trim x) := by
  obtain ⟨a, m, b, hl, ha, hb, hm⟩ := exists_decomp x
  have hvis : m.all isHeaderChar = true := by
    rw [hl] at hx
    simp only [List.all_append, Bool.and_eq_true] at hx
    exact hx.1.2
  rw [hl, trim_decomp a m b ha hb hm]
  exact getBearerToken_decomp a m b ha hb hm hvis

theorem trim_token (t : List Char) (ht : IsToken t) (l r : List Char) (hl : l.all isWs = true)
    (hr : r.all isWs = true) : trim (l ++ t ++ r) = t :=
  trim_decomp l t r hl hr ⟨ht.2.1, ht.2.2.1⟩

theorem nearMiss_all_headerChar (t : List Char) (htv : t.all isHeaderChar = true) (v : NearMiss)
    (hv : v.applies t = true) : (v.apply t).all isHeaderChar = true := by
  cases v with
  | pre k =>
    simp only [NearMiss.apply, List.all_eq_true] at htv ⊢
    intro c hc
    exact htv c (List.mem_of_mem_take hc)
  | ext s =>
    simp only [NearMiss.applies, Bool.and_eq_true] at hv
    simp only [NearMiss.apply, List.all_append, Bool.and_eq_true]
    exact ⟨htv, hv.2⟩
  | chg i c =>
    simp only [NearMiss.applies, Bool.and_eq_true] at hv
    simp only [NearMiss.apply, List.all_eq_true] at htv ⊢
    intro d hd
    rcases List.mem_or_eq_of_mem_set hd with h | h
    · exact htv d h
    · rw [h]; exact hv.2
  | swapCase =>
    simp only [NearMiss.applies, Bool.and_eq_true] at hv
    exact hv.2
  | pad l r =>
    simp only [NearMiss.applies, Bool.and_eq_true] at hv
    simp only [NearMiss.apply, List.all_append, Bool.and_eq_true]
    exact ⟨⟨all_headerChar_of_ws l hv.1, htv⟩, all_headerChar_of_ws r hv.2⟩
  | empty => rfl

theorem nearMiss_trim_eq_iff (t : List Char) (ht : IsToken t) (v : NearMiss)
    (hv : v.applies t = true) : trim (v.apply t) = t ↔ v.same = true := by
  -- a text no longer than `t` and different from it does not trim to `t`
  have short : ∀ x : List Char, x.length ≤ t.length → x ≠ t → (trim x = t ↔ false = true) :=
    fun x hlen hne => iff_of_false (fun h => hne (eq_of_trim_eq_of_length_le x t hlen h)) Bool.false_ne_true
  cases v with
  | pre k =>
    simp only [NearMiss.applies, Bool.and_eq_true, decide_eq_true_eq] at hv
    refine short (t.take k) (List.length_take_le' _ _) fun h => ?_
    have := congrArg List.length h
    rw [List.length_take] at this
    omega
  | chg i c =>
    simp only [NearMiss.applies, Bool.and_eq_true, decide_eq_true_eq, bne_iff_ne, ne_eq] at hv
    refine short (t.set i c) (Nat.le_of_eq List.length_set) fun h => ?_
    have h2 : (t.set i c)[i]? = some c := List.getElem?_set_self hv.1.1
    rw [h] at h2
    exact hv.1.2 h2
  | swapCase =>
    simp only [NearMiss.applies, Bool.and_eq_true, bne_iff_ne, ne_eq] at hv
    exact short (t.map swapCase) (Nat.le_of_eq (List.length_map _)) hv.1
  | empty => exact short [] (Nat.zero_le _) (Ne.symm ht.1)
  | pad l r =>
    simp only [NearMiss.applies, Bool.and_eq_true] at hv
    exact iff_of_true (trim_token t ht l r hv.1 hv.2) rfl
  | ext s =>
    show trim (t ++ s) = t ↔ s.all isWs = true
    refine ⟨fun h => ?_, fun hws => by simpa using trim_token t ht [] s rfl hws⟩
    -- `t ++ s = a ++ t ++ b` with white space `a`, `b`; `t` does not begin with white space, so `a` is empty and `s = b`
    obtain ⟨a, b, hx, ha, hb⟩ := of_trim_eq h
    cases a with
    | nil => exact List.append_cancel_left (as := t) (by simpa using hx) ▸ hb
    | cons c a' =>
      have hc : t.head? = some c := by
        cases t with
        | nil => exact absurd rfl ht.1
        | cons x xs => simpa using congrArg List.head? hx
      simp [ht.2.1 c hc] at ha

end KM.Http
