/-
How a row of the route table answers: what a role allows, the permission check behind a gate, runs of gates, `respond`,
listings.
-/
import KrillModel.Http.Serve
import KrillModel.Http.Spec
namespace KM.Http
open KM.Generated

theorem isAllowed_eq_has_perms (r : Role) (p : Permission) (res : Option Handle) :
    r.isAllowed p res = has (r.perms res) p := by
  cases res with
  | none => rfl
  | some h =>
    simp only [Role.isAllowed, Role.perms]
    cases r.entry h <;> rfl

theorem isAllowed_iff_mem_perms (r : Role) (p : Permission) (res : Option Handle) :
    r.isAllowed p res = true ↔ p ∈ r.perms res := by
  rw [isAllowed_eq_has_perms]
  exact List.contains_iff_mem

theorem has_nil (p : Permission) : has [] p = false := by
  simp [has]

theorem isAllowed_simple (s : PermSet) (p : Permission) (res : Option Handle) :
    (Role.simple s).isAllowed p res = has s p := by
  cases res <;> rfl

theorem anonymous_allows_nothing (p : Permission) (res : Option Handle) :
    Role.anonymous.isAllowed p res = false := by
  have h : permSet (builtinRoleSet .anonymous) = [] := by decide
  rw [Role.anonymous, Role.builtin, isAllowed_simple, h, has_nil]

theorem runGates_eq_findSome? (a : AuthRes) (segs : List String) (gs : List (Permission × Res)) :
    runGates a segs gs = gs.findSome? (gate a segs) := by
  induction gs with
  | nil => rfl
  | cons g gs ih =>
    simp only [runGates, List.findSome?_cons, ih]
    cases gate a segs g <;> rfl

theorem checkPerm_refusal (a : AuthRes) (p : Permission) (res : Option Handle) (o : Outcome)
    (h : checkPerm a p res = some o) : o = .unauthorized ∨ o = .forbidden := by
  unfold checkPerm at h
  split at h
  · split at h
    · cases h
    · exact Or.inr (Option.some.inj h).symm
  · split at h
    · cases h
    · exact Or.inr (Option.some.inj h).symm
  · exact Or.inl (Option.some.inj h).symm

theorem gate_refusal (a : AuthRes) (segs : List String) (g : Permission × Res) (o : Outcome)
    (h : gate a segs g = some o) : o = .unauthorized ∨ o = .forbidden := by
  unfold gate at h
  split at h
  · exact checkPerm_refusal _ _ _ _ h
  · exact Or.inr (Option.some.inj h).symm

theorem checkPerm_none_iff (a : AuthRes) (p : Permission) (res : Option Handle) :
    checkPerm a p res = none ↔ ∃ id role, a = .ok id role ∧ role.isAllowed p res = true := by
  cases a with
  | ok id role =>
    simp only [checkPerm, ite_eq_left_iff, reduceCtorEq, imp_false, Decidable.not_not]
    exact ⟨fun h => ⟨id, role, rfl, h⟩, fun ⟨_, _, ha, h⟩ => by cases ha; exact h⟩
  | none => simp [checkPerm, anonymous_allows_nothing]
  | err => simp [checkPerm]

theorem gate_none_iff (a : AuthRes) (segs : List String) (g : Permission × Res) :
    gate a segs g = none ↔
      ∃ id role res, a = .ok id role ∧ resolve segs g.2 = some res ∧ role.isAllowed g.1 res = true := by
  unfold gate
  cases resolve segs g.2 with
  | none => simp
  | some res => simp [checkPerm_none_iff]

theorem gate_unauthenticated (a : AuthRes) (ha : a.isOk = false) (segs : List String)
    (g : Permission × Res) : gate a segs g ≠ none := by
  intro h
  obtain ⟨id, role, _, rfl, _⟩ := (gate_none_iff a segs g).mp h
  cases ha

/-- What a row answers once testbed mode allows it and every gate has let the caller pass (declared in the namespace of
`End`, so that it is written `rt.fin.outcome`). -/
def _root_.KM.Generated.End.outcome : End → Outcome
  | .methodNotAllowed => .methodNotAllowed
  | .notFound => .notFound
  | _ => .served

theorem _root_.KM.Generated.End.outcome_served_iff (f : End) : f.outcome = .served ↔ f.runs = true := by
  cases f <;> simp [End.outcome, End.runs]

theorem _root_.KM.Generated.End.outcome_not_refusal (f : End) :
    ¬ (f.outcome = .unauthorized ∨ f.outcome = .forbidden) := by
  cases f <;> simp [End.outcome]

theorem respond_cases (testbed : Bool) (a : AuthRes) (rt : Route) (segs : List String) :
    (rt.testbedOnly = true ∧ testbed = false ∧ respond testbed a rt segs = .notFound) ∨
    ((rt.testbedOnly = true → testbed = true) ∧
      (((∀ g ∈ rt.gates, gate a segs g = none) ∧ respond testbed a rt segs = rt.fin.outcome) ∨
       ((∃ g ∈ rt.gates, gate a segs g ≠ none) ∧
        (respond testbed a rt segs = .unauthorized ∨ respond testbed a rt segs = .forbidden)))) := by
  unfold respond
  by_cases htb : (rt.testbedOnly && !testbed) = true
  · rw [if_pos htb]
    simp only [Bool.and_eq_true, Bool.not_eq_true'] at htb
    exact Or.inl ⟨htb.1, htb.2, rfl⟩
  · rw [if_neg htb]
    refine Or.inr ⟨fun h => by cases testbed <;> simp_all, ?_⟩  -- `htb` with `h : rt.testbedOnly = true`
    rw [runGates_eq_findSome?]
    cases hg : rt.gates.findSome? (gate a segs) with
    | none => exact Or.inl ⟨List.findSome?_eq_none_iff.mp hg, by cases rt.fin <;> rfl⟩
    | some o =>
      obtain ⟨g, hm, hgo⟩ := List.exists_of_findSome?_eq_some hg
      exact Or.inr ⟨⟨g, hm, by rw [hgo]; exact fun e => nomatch e⟩, gate_refusal _ _ _ _ hgo⟩

theorem mem_listingShown (a : AuthRes) (rt : Route) (all : List Handle) (h : Handle) (p : Permission)
    (hf : rt.filter = some (p, .listed)) :
    h ∈ listingShown a rt all ↔
      h ∈ all ∧ ∃ id role, a = .ok id role ∧ role.isAllowed p (some h) = true := by
  simp only [listingShown, hf, List.mem_filter, Option.isNone_iff_eq_none, checkPerm_none_iff]

end KM.Http
