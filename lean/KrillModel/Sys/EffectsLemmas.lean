/-
Calls that also write to a shared store (`Sys/Effects.lean`): the system underneath is the plain interleaving
(`run_sys`), and the shared store holds for each entity exactly the writes recorded in the entity's own state
(`grun_writes`).
-/
import KrillModel.Sys.Effects
import KrillModel.Sys.Lemmas
namespace KM.Sys

variable {E : EMachine}

theorem run_sys (g : GSys E) (sched : List Nat) : (grun g sched).sys = run true g.sys sched :=
  List.foldl_rel (f := gstep) (g := step true) (r := fun (g' : GSys E) s => g'.sys = s) rfl
    fun _ _ _ _ hg => hg ▸ rfl

/-- One micro-step appends to each entity's own write list exactly what it appends to the
shared store for that entity. -/
theorem gstep_writes (g : GSys E) (t : Nat) (e : Nat)
    (h : g.writesOf e = (g.sys.ents e).2) :
    (gstep g t).writesOf e = ((gstep g t).sys.ents e).2 := by
  unfold GSys.writesOf at *
  unfold gstep
  have hget : ∀ r : Running E.toMachine,
      (E.toMachine.phases r.op)[r.pc]? = ((E.phases r.op)[r.pc]?).map E.liftPhase :=
    fun _ => List.getElem?_map
  fun_cases step true g.sys t
  case case5 th ht r hc ph' hph p =>  -- a phase: its writes go to the shared store and to the entity's own list
    rw [hget] at hph
    cases hp : (E.phases r.op)[r.pc]? with
    | none => rw [hp] at hph; cases hph
    | some ph =>
      rw [hp] at hph
      cases hph
      simp only [pendingWrites, ht, hc, hp, List.filter_append, List.map_append, h]
      by_cases he : e = r.ent
      · subst he
        simp [p, upd, EMachine.liftPhase, List.filter_map, Function.comp_def]
      · have hne : ¬ (r.ent = e) := fun x => he x.symm
        simp [upd, he, List.filter_map, Function.comp_def, hne]
  case case6 th ht r hc hph =>  -- the release: no phase is left, so nothing is pending
    rw [hget] at hph
    simpa [pendingWrites, ht, hc, Option.map_eq_none_iff.mp hph] using h
  all_goals simp [pendingWrites, *]  -- no such thread, idle, blocked, acquisition: nothing written, entities untouched

theorem grun_writes (g : GSys E) (sched : List Nat)
    (h : ∀ e, g.writesOf e = (g.sys.ents e).2) :
    ∀ e, (grun g sched).writesOf e = ((grun g sched).sys.ents e).2 :=
  List.foldlRecOn (motive := fun g : GSys E => ∀ e, g.writesOf e = (g.sys.ents e).2) sched _ h
    fun g h t _ e => gstep_writes g t e (h e)

end KM.Sys
