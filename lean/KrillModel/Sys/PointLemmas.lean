/-
One CA level, all kinds of objects: a publication point whose key object set publishes ROAs,
ASPA objects, router certificates and child CA certificates.  `Ready` / `Decodes` of
`Sys/RpLemmas.lean` (ROAs only) are the special case `Ready.toAll` / `Decodes.toAll`.  This is the
bridge between the key-set model (`Ca/Objects.lean`) and the local condition `NodeOk` of the
hierarchy (`Sys/Tree.lean`).  The concrete hierarchy at the end, with a key set for each of its nodes,
is the witness used in `Props/C01.lean`.
-/
import KrillModel.Sys.RpLemmas
import KrillModel.Sys.TreeLemmas
namespace KM.Sys.Rp
open KM.Ca.Pub

/-- What the objects published under one key are, kind by kind (each with the meta data – name,
serial, expiry, hash – of the published file). -/
structure PointSpec where
  roas    : List RoaInfo := []
  aspas   : List AspaInfo := []
  routers : List (RouterKey × ObjMeta) := []
  /-- child CA certificates (`.cer` files) -/
  certs   : List (ObjMeta × Cert) := []

/-- Every object with what a faithful decoder makes of it under issuer key `key`. -/
def PointSpec.decoded (sp : PointSpec) (key : Nat) : List (ObjMeta × Obj) :=
  sp.roas.map (fun i => (i.obj, .signed ⟨key, i.obj.serial, i.obj.expires, .roa i.auths⟩)) ++
  sp.aspas.map (fun i => (i.obj, .signed ⟨key, i.obj.serial, i.obj.expires, .aspa i.defn⟩)) ++
  sp.routers.map (fun e => (e.2, .signed ⟨key, e.2.serial, e.2.expires, .router e.1⟩)) ++
  sp.certs.map (fun e => (e.1, .cert e.2))

def PointSpec.metas (sp : PointSpec) : List ObjMeta :=
  sp.roas.map (·.obj) ++ sp.aspas.map (·.obj) ++ sp.routers.map (·.2) ++ sp.certs.map (·.1)

theorem PointSpec.metas_eq (sp : PointSpec) (key : Nat) : sp.metas = (sp.decoded key).map (·.1) := by
  simp only [PointSpec.metas, PointSpec.decoded, List.map_append, List.map_map, Function.comp_def]

theorem PointSpec.meta_mem {sp : PointSpec} {key : Nat} {d : ObjMeta × Obj} (h : d ∈ sp.decoded key) :
    d.1 ∈ sp.metas := by
  rw [sp.metas_eq key]; exact List.mem_map_of_mem h

/-- The catalog decodes the set's manifest, CRL and every published object to what the model says
it contains (faithful decoding – an assumption about the relying party's parser and the absence of
hash collisions; the harness's relying party really parses the files). -/
structure DecodesAll (cat : Catalog) (key : Nat) (s : KeyObjectSet) (sp : PointSpec) : Prop where
  mft : cat s.manifest.hash = some (.mft ⟨key, s.manifest.number, s.manifest.thisUpdate,
    s.manifest.nextUpdate, s.manifest.entries⟩)
  crl : cat s.crl.hash = some (.crl ⟨key, s.crl.number, s.crl.thisUpdate, s.crl.nextUpdate, s.crl.revoked⟩)
  objs : ∀ d ∈ sp.decoded key, cat d.1.hash = some d.2
  /-- a child certificate carries the serial and expiry recorded for its file -/
  certMeta : ∀ e ∈ sp.certs, e.2.serial = e.1.serial ∧ e.2.notAfter = e.1.expires

/-- What the relying party needs of the state of one key set publishing objects of all kinds. -/
structure ReadyAll (ca : Cert) (s : KeyObjectSet) (files : Files) (now : Nat) (sp : PointSpec) : Prop where
  good : GoodSet s
  /-- the published objects are the described ones (names are irrelevant to the relying party) -/
  sound : ∀ e ∈ s.published, ∃ m ∈ sp.metas, e.2 = pubOf m
  complete : ∀ m ∈ sp.metas, ∃ n, (n, pubOf m) ∈ s.published
  mftName : s.mftName = ca.mftName
  crlName : s.crlName = ca.crlName
  namesDiffer : ca.mftName ≠ ca.crlName
  mftFresh : ca.mftName ∉ keys s.published
  crlFresh : ca.crlName ∉ keys s.published
  filesNodup : (keys files).Nodup
  /-- the server content of this publication point is the set's elements (after a sync) -/
  files : ∀ f, f ∈ files ↔ (f = (s.mftName, s.manifest.hash) ∨ f = (s.crlName, s.crl.hash) ∨
    f ∈ s.published.map fun e => (e.1, e.2.hash))
  window : s.revision.thisUpdate ≤ now ∧ now < s.revision.nextUpdate
  unexpired : ∀ m ∈ sp.metas, now < m.expires
  unrevoked : ∀ m ∈ sp.metas, m.serial ∉ s.crl.revoked
  roaNonempty : ∀ i ∈ sp.roas, i.auths ≠ []
  roaCovered : ∀ i ∈ sp.roas, ∀ p ∈ i.auths, ca.resources.coversPfx p = true
  aspaCovered : ∀ i ∈ sp.aspas, ca.resources.hasAsn i.defn.customer = true
  routerCovered : ∀ e ∈ sp.routers, ca.resources.hasAsn e.1.asn = true
  /-- child certificates are issued by this key … -/
  certIssuer : ∀ e ∈ sp.certs, e.2.issuer = ca.subject
  /-- … for resources inside the key's own certificate (C02 `never_overclaims`) -/
  certContained : ∀ e ∈ sp.certs, resSubset e.2.resources ca.resources = true

theorem Ready.toAll {nm : Naming} {ca : Cert} {r : Roas} {s : KeyObjectSet} {files : Files} {now : Nat}
    (h : Ready nm ca r s files now) : ReadyAll ca s files now { roas := infos r } := by
  have hm : ({ roas := infos r } : PointSpec).metas = (infos r).map (·.obj) := by
    simp only [PointSpec.metas, List.map_nil, List.append_nil]
  exact
    { good := h.good
      sound := fun e he => by
        obtain ⟨i, hi, hie⟩ := mirror_info h.mirror he
        exact ⟨i.obj, hm ▸ List.mem_map_of_mem hi, hie⟩
      complete := by rw [hm, List.forall_mem_map]; exact fun i hi => info_published h.mirror hi
      mftName := h.mftName, crlName := h.crlName, namesDiffer := h.namesDiffer
      mftFresh := h.mftFresh, crlFresh := h.crlFresh, filesNodup := h.filesNodup, files := h.files
      window := h.window
      unexpired := by rw [hm, List.forall_mem_map]; exact h.unexpired
      unrevoked := by rw [hm, List.forall_mem_map]; exact h.unrevoked
      roaNonempty := infos_nonempty_auths r h.wf
      roaCovered := fun i hi p hp =>
        h.covered p (by rw [payloads_eq_infos]; exact List.mem_flatMap.mpr ⟨i, hi, hp⟩)
      aspaCovered := fun _ hi => nomatch hi
      routerCovered := fun _ hi => nomatch hi
      certIssuer := fun _ hi => nomatch hi
      certContained := fun _ hi => nomatch hi }

theorem Decodes.toAll {cat : Catalog} {key : Nat} {r : Roas} {s : KeyObjectSet} (h : Decodes cat key r s) :
    DecodesAll cat key s { roas := infos r } :=
  { mft := h.mft, crl := h.crl
    objs := fun d hd => by
      simp only [PointSpec.decoded, List.map_nil, List.append_nil, List.mem_map] at hd
      obtain ⟨i, hi, rfl⟩ := hd
      exact h.roa i hi
    certMeta := fun _ hi => nomatch hi }

section
variable {cat : Catalog} {ca : Cert} {s : KeyObjectSet} {files : Files} {now : Nat} {sp : PointSpec}

theorem ReadyAll.mem_otherFiles (h : ReadyAll ca s files now sp) (f : Nat × Nat) :
    f ∈ otherFiles files ca ↔
      (f = (s.crlName, s.crl.hash) ∨ f ∈ s.published.map fun e => (e.1, e.2.hash)) := by
  simp only [otherFiles, List.mem_filter, decide_eq_true_eq, h.files]
  constructor
  · rintro ⟨h1 | h1 | h1, h2⟩
    · subst h1; exact absurd h.mftName h2
    · exact Or.inl h1
    · exact Or.inr h1
  · rintro (h1 | h1)
    · exact ⟨Or.inr (Or.inl h1), by subst h1; simp only [h.crlName]; exact fun e => h.namesDiffer e.symm⟩
    · refine ⟨Or.inr (Or.inr h1), ?_⟩
      obtain ⟨e, he, rfl⟩ := List.mem_map.mp h1
      intro heq
      exact h.mftFresh (heq ▸ mem_keys_of_mem he)

theorem ReadyAll.pointHead (hd : DecodesAll cat ca.subject s sp) (h : ReadyAll ca s files now sp) :
    pointHead cat files ca now =
      some (⟨ca.subject, s.manifest.number, s.manifest.thisUpdate, s.manifest.nextUpdate, s.manifest.entries⟩,
            ⟨ca.subject, s.crl.number, s.crl.thisUpdate, s.crl.nextUpdate, s.crl.revoked⟩) := by
  obtain ⟨-, -, hmt, hmn, hct, hcn⟩ := h.good.numbersAgree
  have hm : get? files ca.mftName = some s.manifest.hash :=
    get?_of_mem h.filesNodup ((h.files _).mpr (Or.inl (by rw [h.mftName])))
  have hent := entries_eq s h.good (by rw [h.crlName]; exact h.crlFresh)
  have hc : get? s.manifest.entries ca.crlName = some s.crl.hash := by
    rw [hent]; simp [get?, h.crlName]
  obtain ⟨w1, w2⟩ := h.window
  simp only [Rp.pointHead, hm, hd.mft, hc, hd.crl, hmt, hmn, hct, hcn, w1, w2, and_self, if_true]

theorem ReadyAll.decoded_of_published (hd : DecodesAll cat ca.subject s sp) (h : ReadyAll ca s files now sp)
    {e : Nat × PubObj} (he : e ∈ s.published) :
    ∃ d ∈ sp.decoded ca.subject, e.2 = pubOf d.1 ∧ cat e.2.hash = some d.2 := by
  obtain ⟨m, hm, hem⟩ := h.sound e he
  rw [sp.metas_eq ca.subject] at hm
  obtain ⟨d, hdm, rfl⟩ := List.mem_map.mp hm
  refine ⟨d, hdm, hem, ?_⟩
  rw [hem]
  exact hd.objs d hdm

theorem ReadyAll.file_of_decoded (hd : DecodesAll cat ca.subject s sp) (h : ReadyAll ca s files now sp)
    {d : ObjMeta × Obj} (hdm : d ∈ sp.decoded ca.subject) :
    ∃ f ∈ otherFiles files ca, cat f.2 = some d.2 := by
  obtain ⟨n, hn⟩ := h.complete d.1 (PointSpec.meta_mem hdm)
  refine ⟨(n, d.1.hash), (h.mem_otherFiles _).mpr (Or.inr (List.mem_map.mpr ⟨(n, pubOf d.1), hn, rfl⟩)), ?_⟩
  exact hd.objs d hdm

end

def vrpsOf : Obj → List Payload
  | .signed s => (match s.content with | .roa ps => ps | _ => [])
  | _ => []
def aspasOf : Obj → List AspaDefn
  | .signed s => (match s.content with | .aspa d => [d] | _ => [])
  | _ => []
def routerKeysOf : Obj → List RouterKey
  | .signed s => (match s.content with | .router k => [k] | _ => [])
  | _ => []
def certsOf : Obj → List Cert
  | .cert c => [c]
  | _ => []

/-- What `ex` finds, object by object, in the decodable files other than the manifest:
the shape shared by `pointVrps`, `pointAspas`, `pointRouterKeys`, `childCerts`. -/
def pointExtract {α : Type} (ex : Obj → List α) (cat : Catalog) (files : Files) (ca : Cert) : List α :=
  (otherFiles files ca).flatMap fun f => match cat f.2 with | some o => ex o | none => []

section
variable (cat : Catalog) (files : Files) (ca : Cert)

theorem pointVrps_eq : pointVrps cat files ca = pointExtract vrpsOf cat files ca :=
  flatMap_congr' fun f _ => by cases cat f.2 with | none => rfl | some o => cases o <;> rfl

theorem pointAspas_eq : pointAspas cat files ca = pointExtract aspasOf cat files ca :=
  flatMap_congr' fun f _ => by cases cat f.2 with | none => rfl | some o => cases o <;> rfl

theorem pointRouterKeys_eq : pointRouterKeys cat files ca = pointExtract routerKeysOf cat files ca :=
  flatMap_congr' fun f _ => by cases cat f.2 with | none => rfl | some o => cases o <;> rfl

/-- `childCerts` is a `filterMap`, hence membership and not an equation. -/
theorem mem_childCerts {c : Cert} : c ∈ childCerts cat files ca ↔ c ∈ pointExtract certsOf cat files ca := by
  simp only [childCerts, pointExtract, List.mem_filterMap, List.mem_flatMap]
  refine exists_congr fun f => and_congr_right fun _ => ?_
  cases cat f.2 with
  | none => simp
  | some o => cases o <;> simp [certsOf, eq_comm]

end

section
variable {cat : Catalog} {ca : Cert} {s : KeyObjectSet} {files : Files} {now : Nat} {sp : PointSpec}

/-- Whatever is extracted object by object (nothing from the CRL) is what is extracted from the
described objects. -/
theorem ReadyAll.mem_pointExtract {α : Type} (hd : DecodesAll cat ca.subject s sp) (h : ReadyAll ca s files now sp)
    (ex : Obj → List α) (hcrl : ∀ c, ex (.crl c) = []) (x : α) :
    x ∈ pointExtract ex cat files ca ↔ x ∈ (sp.decoded ca.subject).flatMap fun d => ex d.2 := by
  simp only [pointExtract, List.mem_flatMap]
  constructor
  · rintro ⟨f, hf, hx⟩
    rcases (h.mem_otherFiles f).mp hf with rfl | h1
    · simp only [hd.crl, hcrl] at hx
      cases hx
    · obtain ⟨e, he, rfl⟩ := List.mem_map.mp h1
      obtain ⟨d, hdm, _, hc⟩ := h.decoded_of_published hd he
      simp only [hc] at hx
      exact ⟨d, hdm, hx⟩
  · rintro ⟨d, hdm, hx⟩
    obtain ⟨f, hf, hc⟩ := h.file_of_decoded hd hdm
    exact ⟨f, hf, by rw [hc]; exact hx⟩

end

theorem flatMap_const_nil {α β : Type} (l : List α) : (l.flatMap fun _ => ([] : List β)) = [] :=
  List.flatMap_eq_nil_iff.mpr fun _ _ => rfl

theorem PointSpec.vrps_decoded (sp : PointSpec) (key : Nat) :
    ((sp.decoded key).flatMap fun d => vrpsOf d.2) = sp.roas.flatMap (·.auths) := by
  simp only [PointSpec.decoded, List.flatMap_append, List.flatMap_map]
  simp only [vrpsOf, flatMap_const_nil, List.append_nil]

theorem PointSpec.aspas_decoded (sp : PointSpec) (key : Nat) :
    ((sp.decoded key).flatMap fun d => aspasOf d.2) = sp.aspas.map (·.defn) := by
  simp only [PointSpec.decoded, List.flatMap_append, List.flatMap_map]
  simp only [aspasOf, List.map_eq_flatMap, flatMap_const_nil, List.nil_append, List.append_nil]

theorem PointSpec.routerKeys_decoded (sp : PointSpec) (key : Nat) :
    ((sp.decoded key).flatMap fun d => routerKeysOf d.2) = sp.routers.map (·.1) := by
  simp only [PointSpec.decoded, List.flatMap_append, List.flatMap_map]
  simp only [routerKeysOf, List.map_eq_flatMap, flatMap_const_nil, List.nil_append, List.append_nil]

theorem PointSpec.certs_decoded (sp : PointSpec) (key : Nat) :
    ((sp.decoded key).flatMap fun d => certsOf d.2) = sp.certs.map (·.2) := by
  simp only [PointSpec.decoded, List.flatMap_append, List.flatMap_map]
  simp only [certsOf, List.map_eq_flatMap, flatMap_const_nil, List.nil_append, List.append_nil]

theorem PointSpec.mem_decoded {sp : PointSpec} {key : Nat} {d : ObjMeta × Obj} :
    d ∈ sp.decoded key ↔
      (∃ i ∈ sp.roas, d = (i.obj, .signed ⟨key, i.obj.serial, i.obj.expires, .roa i.auths⟩)) ∨
      (∃ i ∈ sp.aspas, d = (i.obj, .signed ⟨key, i.obj.serial, i.obj.expires, .aspa i.defn⟩)) ∨
      (∃ e ∈ sp.routers, d = (e.2, .signed ⟨key, e.2.serial, e.2.expires, .router e.1⟩)) ∨
      (∃ e ∈ sp.certs, d = (e.1, .cert e.2)) := by
  simp only [PointSpec.decoded, List.mem_append, List.mem_map, or_assoc, eq_comm (a := d)]

section
variable {cat : Catalog} {ca : Cert} {s : KeyObjectSet} {files : Files} {now : Nat} {sp : PointSpec}

/-- A described object, under any name but the CRL's, passes the relying party's checks: issued by
this key, not revoked, not expired, content (or, for a child certificate, resources) inside the
key's certificate. -/
theorem ReadyAll.entryOk_of_decoded (hd : DecodesAll cat ca.subject s sp) (h : ReadyAll ca s files now sp)
    {d : ObjMeta × Obj} (hdm : d ∈ sp.decoded ca.subject) {crl : Crl} (hcrl : crl.revoked = s.crl.revoked)
    {n : Nat} (hne : n ≠ ca.crlName) : entryOk cat ca crl now (n, d.1.hash) = true := by
  have hexp := h.unexpired d.1 (PointSpec.meta_mem hdm)
  have hrev := h.unrevoked d.1 (PointSpec.meta_mem hdm)
  simp only [entryOk, hne, if_false, hd.objs d hdm, hcrl]
  rcases PointSpec.mem_decoded.mp hdm with ⟨i, hi, rfl⟩ | ⟨i, hi, rfl⟩ | ⟨i, hi, rfl⟩ | ⟨i, hi, rfl⟩
  · have hnonempty : i.auths.isEmpty = false := by
      cases ha : i.auths with
      | nil => exact absurd ha (h.roaNonempty i hi)
      | cons _ _ => rfl
    simp [hrev, hexp, contentOk, List.all_eq_true.mpr (h.roaCovered i hi), hnonempty]
  · simp [hrev, hexp, contentOk, h.aspaCovered i hi]
  · simp [hrev, hexp, contentOk, h.routerCovered i hi]
  · obtain ⟨e1, e2⟩ := hd.certMeta i hi
    simp only at hexp hrev
    simp [h.certIssuer i hi, e1, e2, hrev, hexp, h.certContained i hi]

theorem point_valid_all (hd : DecodesAll cat ca.subject s sp) (h : ReadyAll ca s files now sp) :
    PointValid cat files ca now = true := by
  have hent : ∀ f, f ∈ s.manifest.entries ↔ f ∈ otherFiles files ca := fun f => by
    rw [entries_eq s h.good (by rw [h.crlName]; exact h.crlFresh), h.mem_otherFiles, List.mem_cons]
  simp only [PointValid, h.pointHead hd, Bool.and_eq_true, List.all_eq_true, List.contains_iff_mem]
  refine ⟨⟨fun e he => (hent e).mp he, fun f hf => (hent f).mpr hf⟩, fun e he => ?_⟩
  rcases (h.mem_otherFiles e).mp ((hent e).mp he) with rfl | h1
  · simp only [entryOk, h.crlName, if_true]
  · obtain ⟨pe, hpe, rfl⟩ := List.mem_map.mp h1
    obtain ⟨d, hdm, hpd, _⟩ := h.decoded_of_published hd hpe
    rw [hpd]
    exact h.entryOk_of_decoded hd hdm rfl fun heq => h.crlFresh (heq ▸ mem_keys_of_mem hpe)

theorem point_vrps_all (hd : DecodesAll cat ca.subject s sp) (h : ReadyAll ca s files now sp) (p : Payload) :
    p ∈ pointVrps cat files ca ↔ p ∈ sp.roas.flatMap (·.auths) := by
  rw [pointVrps_eq, h.mem_pointExtract hd vrpsOf (fun _ => rfl), sp.vrps_decoded]

theorem point_aspas_all (hd : DecodesAll cat ca.subject s sp) (h : ReadyAll ca s files now sp) (a : AspaDefn) :
    a ∈ pointAspas cat files ca ↔ a ∈ sp.aspas.map (·.defn) := by
  rw [pointAspas_eq, h.mem_pointExtract hd aspasOf (fun _ => rfl), sp.aspas_decoded]

theorem point_router_keys_all (hd : DecodesAll cat ca.subject s sp) (h : ReadyAll ca s files now sp)
    (k : RouterKey) : k ∈ pointRouterKeys cat files ca ↔ k ∈ sp.routers.map (·.1) := by
  rw [pointRouterKeys_eq, h.mem_pointExtract hd routerKeysOf (fun _ => rfl), sp.routerKeys_decoded]

theorem child_certs_all (hd : DecodesAll cat ca.subject s sp) (h : ReadyAll ca s files now sp) (c : Cert) :
    c ∈ childCerts cat files ca ↔ c ∈ sp.certs.map (·.2) := by
  rw [mem_childCerts, h.mem_pointExtract hd certsOf (fun _ => rfl), sp.certs_decoded]

end

/-- The objects of a node's key set say exactly what is configured and covered, and the child
certificates are the certificates of the node's children.  Each clause is the conclusion of a
per-CA theorem (see `Props/C01.lean`, `quiescent_valid_tree`). -/
structure SpecExact (n : Node) (sp : PointSpec) : Prop where
  roas    : ∀ p, p ∈ sp.roas.flatMap (·.auths) ↔ (p ∈ n.configured ∧ n.ca.resources.coversPfx p = true)
  aspas   : ∀ d, d ∈ sp.aspas.map (·.defn) ↔ (d ∈ n.aspas ∧ n.ca.resources.hasAsn d.customer = true)
  routers : ∀ k, k ∈ sp.routers.map (·.1) ↔ (k ∈ n.routerKeys ∧ n.ca.resources.hasAsn k.asn = true)
  certs   : ∀ c, c ∈ sp.certs.map (·.2) ↔ c ∈ n.children.map (·.ca)

theorem specExact_of_sameMembers {n : Node} {sp : PointSpec}
    (h1 : sameMembers (sp.roas.flatMap (·.auths)) n.ownVrps = true)
    (h2 : sameMembers (sp.aspas.map (·.defn)) n.ownAspas = true)
    (h3 : sameMembers (sp.routers.map (·.1)) n.ownRouterKeys = true)
    (h4 : sameMembers (sp.certs.map (·.2)) (n.children.map (·.ca)) = true) : SpecExact n sp :=
  { roas := fun p => by rw [sameMembers_iff.mp h1 p, Node.ownVrps, List.mem_filter]
    aspas := fun d => by rw [sameMembers_iff.mp h2 d, Node.ownAspas, List.mem_filter]
    routers := fun k => by rw [sameMembers_iff.mp h3 k, Node.ownRouterKeys, List.mem_filter]
    certs := sameMembers_iff.mp h4 }

/-- One level ⇒ the local condition of the hierarchy. -/
theorem nodeOk_of_readyAll {cat : Catalog} {now : Nat} {n : Node} {s : KeyObjectSet} {sp : PointSpec}
    (hd : DecodesAll cat n.ca.subject s sp) (h : ReadyAll n.ca s n.files now sp) (hx : SpecExact n sp) :
    NodeOk cat now n :=
  { valid := point_valid_all hd h
    vrps := sameMembers_iff.mpr fun p => by
      rw [point_vrps_all hd h p, hx.roas p, Node.ownVrps, List.mem_filter]
    aspas := sameMembers_iff.mpr fun d => by
      rw [point_aspas_all hd h d, hx.aspas d, Node.ownAspas, List.mem_filter]
    routerKeys := sameMembers_iff.mpr fun k => by
      rw [point_router_keys_all hd h k, hx.routers k, Node.ownRouterKeys, List.mem_filter]
    children := sameMembers_iff.mpr fun c => by
      rw [child_certs_all hd h c, hx.certs c] }

/-- The ROA-only special case: a leaf CA without ASPA / router configuration. -/
theorem nodeOk_of_ready {nm : Naming} {cat : Catalog} {now : Nat} {ca : Cert} {files : Files} {routes : List Payload}
    {r : Roas} {s : KeyObjectSet} (hd : Decodes cat ca.subject r s) (h : Ready nm ca r s files now)
    (hpay : ∀ p, p ∈ r.payloads ↔ (p ∈ routes ∧ ca.resources.coversPfx p = true)) :
    NodeOk cat now (.mk ca files routes [] [] []) :=
  nodeOk_of_readyAll (n := .mk ca files routes [] [] []) hd.toAll h.toAll <| specExact_of_sameMembers
    (sameMembers_iff.mpr fun p => by rw [← payloads_eq_infos, Node.ownVrps, List.mem_filter]; exact hpay p)
    rfl rfl rfl

/-- `ReadyAll` from conditions that can be evaluated for a concrete state. -/
theorem ReadyAll.of_checks {ca : Cert} {s : KeyObjectSet} {files : Files} {now : Nat} {sp : PointSpec}
    (good : GoodSet s)
    (objs : (∀ e ∈ s.published, ∃ m ∈ sp.metas, e.2 = pubOf m) ∧
      ∀ m ∈ sp.metas, ∃ e ∈ s.published, e.2 = pubOf m)
    (names : s.mftName = ca.mftName ∧ s.crlName = ca.crlName ∧ ca.mftName ≠ ca.crlName ∧
      ca.mftName ∉ keys s.published ∧ ca.crlName ∉ keys s.published)
    (server : (keys files).Nodup ∧ sameMembers files ((s.mftName, s.manifest.hash) :: (s.crlName, s.crl.hash) ::
      s.published.map fun e => (e.1, e.2.hash)) = true)
    (current : (s.revision.thisUpdate ≤ now ∧ now < s.revision.nextUpdate) ∧
      (∀ m ∈ sp.metas, now < m.expires) ∧ ∀ m ∈ sp.metas, m.serial ∉ s.crl.revoked)
    (content : (∀ i ∈ sp.roas, i.auths ≠ []) ∧
      (∀ i ∈ sp.roas, ∀ p ∈ i.auths, ca.resources.coversPfx p = true) ∧
      (∀ i ∈ sp.aspas, ca.resources.hasAsn i.defn.customer = true) ∧
      (∀ e ∈ sp.routers, ca.resources.hasAsn e.1.asn = true) ∧
      (∀ e ∈ sp.certs, e.2.issuer = ca.subject) ∧
      ∀ e ∈ sp.certs, resSubset e.2.resources ca.resources = true) :
    ReadyAll ca s files now sp := by
  obtain ⟨sound, complete⟩ := objs
  obtain ⟨mftName, crlName, namesDiffer, mftFresh, crlFresh⟩ := names
  obtain ⟨filesNodup, listed⟩ := server
  obtain ⟨window, unexpired, unrevoked⟩ := current
  obtain ⟨roaNonempty, roaCovered, aspaCovered, routerCovered, certIssuer, certContained⟩ := content
  exact
    { good, sound, mftName, crlName, namesDiffer, mftFresh, crlFresh, filesNodup, window, unexpired, unrevoked,
      roaNonempty, roaCovered, aspaCovered, routerCovered, certIssuer, certContained
      complete := fun m hm => let ⟨e, he, heq⟩ := complete m hm; ⟨e.1, heq ▸ he⟩
      files := fun f => by rw [sameMembers_iff.mp listed f, List.mem_cons, List.mem_cons] }

/-! ### A concrete hierarchy (non-vacuity of the statements in `Props/C01.lean`)

Trust anchor (key 1, all resources) → CA (key 2, atoms 1 and 2) → child CA (key 3, atom 1).
The CA configures a route in atom 2 (published), a route in atom 3 (not covered: no object), an
ASPA for an AS it holds (published) and one for an AS it does not hold; the child CA configures a
route in atom 1 and a router key for AS 64513; the CA also has a router key for AS 64514. -/

namespace Example

def p1 : Payload := ⟨64513, false, (10 * 256 + 1) * 65536, 24, 24⟩
def p2 : Payload := ⟨64514, false, (10 * 256 + 2) * 65536, 24, 24⟩
def p3 : Payload := ⟨64515, false, (10 * 256 + 3) * 65536, 24, 24⟩
def aspa1 : AspaDefn := ⟨64513, [64600]⟩
def aspa2 : AspaDefn := ⟨64999, [64600]⟩
def rk1 : RouterKey := ⟨64513, 42⟩
def rk2 : RouterKey := ⟨64514, 43⟩

def taCert : Cert := ⟨1, 1, .all, 10000, 1, 100, 101⟩
def caCert : Cert := ⟨1, 2, .atoms [1, 2], 10000, 5, 100, 101⟩
def childCert : Cert := ⟨2, 3, .atoms [1], 10000, 6, 100, 101⟩

def cat : Catalog := fun h =>
  if h = 900 then some (.mft ⟨1, 2, 0, 5000, [(101, 901), (10, 902)]⟩)
  else if h = 901 then some (.crl ⟨1, 2, 0, 5000, []⟩)
  else if h = 902 then some (.cert caCert)
  else if h = 910 then some (.mft ⟨2, 7, 0, 5000, [(101, 911), (7, 912), (8, 913), (9, 915), (10, 914)]⟩)
  else if h = 911 then some (.crl ⟨2, 7, 0, 5000, [4]⟩)
  else if h = 912 then some (.signed ⟨2, 77, 9000, .roa [p2]⟩)
  else if h = 913 then some (.signed ⟨2, 78, 9000, .aspa aspa1⟩)
  else if h = 914 then some (.cert childCert)
  else if h = 915 then some (.signed ⟨2, 79, 9000, .router rk2⟩)
  else if h = 920 then some (.mft ⟨3, 3, 0, 5000, [(101, 921), (7, 922), (9, 923)]⟩)
  else if h = 921 then some (.crl ⟨3, 3, 0, 5000, []⟩)
  else if h = 922 then some (.signed ⟨3, 11, 9000, .roa [p1]⟩)
  else if h = 923 then some (.signed ⟨3, 12, 9000, .router rk1⟩)
  else if h = 999 then some (.signed ⟨3, 13, 9000, .roa [p1]⟩)
  else none

def child : Node := .mk childCert [(100, 920), (101, 921), (7, 922), (9, 923)] [p1] [] [rk1] []
def mid : Node :=
  .mk caCert [(100, 910), (101, 911), (7, 912), (8, 913), (9, 915), (10, 914)] [p2, p3] [aspa1, aspa2] [rk2] [child]
def tree : Node := .mk taCert [(100, 900), (101, 901), (10, 902)] [] [] [] [mid]

/-- The same hierarchy with one more file at the grandchild's publication point that its manifest
does not list. -/
def badChild : Node := .mk childCert [(100, 920), (101, 921), (7, 922), (9, 923), (11, 999)] [p1] [] [rk1] []
def badMid : Node :=
  .mk caCert [(100, 910), (101, 911), (7, 912), (8, 913), (9, 915), (10, 914)] [p2, p3] [aspa1, aspa2] [rk2] [badChild]
def badTree : Node := .mk taCert [(100, 900), (101, 901), (10, 902)] [] [] [] [badMid]

/-- Key set of the trust anchor: one child certificate. -/
def taSet : KeyObjectSet :=
  { base := 0, crlName := 101, mftName := 100, revision := ⟨2, 0, 5000⟩,
    published := [(10, ⟨5, 10000, 902⟩)],
    manifest := ⟨2, 0, 5000, [(101, 901), (10, 902)], 90, 900⟩,
    crl := ⟨101, 2, 0, 5000, [], 901⟩ }

def taSpec : PointSpec := { certs := [(⟨10, 5, 10000, 902⟩, caCert)] }

/-- Key set of the CA `Example.mid`: one ROA, one ASPA object, one router certificate, one child
certificate; one earlier object revoked. -/
def midSet : KeyObjectSet :=
  { base := 0, crlName := 101, mftName := 100, revision := ⟨7, 0, 5000⟩,
    revocations := [⟨4, 9999⟩],
    published := [(7, ⟨77, 9000, 912⟩), (8, ⟨78, 9000, 913⟩), (9, ⟨79, 9000, 915⟩), (10, ⟨6, 10000, 914⟩)],
    manifest := ⟨7, 0, 5000, [(101, 911), (7, 912), (8, 913), (9, 915), (10, 914)], 90, 910⟩,
    crl := ⟨101, 7, 0, 5000, [4], 911⟩ }

def midSpec : PointSpec :=
  { roas := [⟨[p2], ⟨7, 77, 9000, 912⟩⟩], aspas := [⟨aspa1, ⟨8, 78, 9000, 913⟩⟩],
    routers := [(rk2, ⟨9, 79, 9000, 915⟩)], certs := [(⟨10, 6, 10000, 914⟩, childCert)] }

/-- Key set of the child CA: one ROA, one router certificate. -/
def childSet : KeyObjectSet :=
  { base := 0, crlName := 101, mftName := 100, revision := ⟨3, 0, 5000⟩,
    published := [(7, ⟨11, 9000, 922⟩), (9, ⟨12, 9000, 923⟩)],
    manifest := ⟨3, 0, 5000, [(101, 921), (7, 922), (9, 923)], 90, 920⟩,
    crl := ⟨101, 3, 0, 5000, [], 921⟩ }

def childSpec : PointSpec :=
  { roas := [⟨[p1], ⟨7, 11, 9000, 922⟩⟩], routers := [(rk1, ⟨9, 12, 9000, 923⟩)] }

theorem ta_decodes : DecodesAll cat tree.ca.subject taSet taSpec :=
  { mft := by decide +kernel, crl := by decide +kernel, objs := by decide +kernel, certMeta := by decide +kernel }
theorem mid_decodes : DecodesAll cat mid.ca.subject midSet midSpec :=
  { mft := by decide +kernel, crl := by decide +kernel, objs := by decide +kernel, certMeta := by decide +kernel }
theorem child_decodes : DecodesAll cat child.ca.subject childSet childSpec :=
  { mft := by decide +kernel, crl := by decide +kernel, objs := by decide +kernel, certMeta := by decide +kernel }

theorem ta_ready : ReadyAll tree.ca taSet tree.files 1000 taSpec :=
  .of_checks (by unfold GoodSet CrlOk ListsExactly NumbersAgree; decide +kernel) (by decide +kernel) (by decide +kernel) (by decide +kernel)
    (by decide +kernel) (by decide +kernel)
theorem mid_ready : ReadyAll mid.ca midSet mid.files 1000 midSpec :=
  .of_checks (by unfold GoodSet CrlOk ListsExactly NumbersAgree; decide +kernel) (by decide +kernel) (by decide +kernel) (by decide +kernel)
    (by decide +kernel) (by decide +kernel)
theorem child_ready : ReadyAll child.ca childSet child.files 1000 childSpec :=
  .of_checks (by unfold GoodSet CrlOk ListsExactly NumbersAgree; decide +kernel) (by decide +kernel) (by decide +kernel) (by decide +kernel)
    (by decide +kernel) (by decide +kernel)

theorem ta_exact : SpecExact tree taSpec :=
  specExact_of_sameMembers (by decide +kernel) (by decide +kernel) (by decide +kernel) (by decide +kernel)
theorem mid_exact : SpecExact mid midSpec :=
  specExact_of_sameMembers (by decide +kernel) (by decide +kernel) (by decide +kernel) (by decide +kernel)
theorem child_exact : SpecExact child childSpec :=
  specExact_of_sameMembers (by decide +kernel) (by decide +kernel) (by decide +kernel) (by decide +kernel)

/-- Every node of `Example.tree` has a key set, described objects and faithful decoding meeting
the per-node hypotheses of `Props.C01.quiescent_valid_tree`. -/
theorem tree_nodes_ready : ∀ n ∈ tree.nodes, ∃ (s : KeyObjectSet) (sp : PointSpec),
    DecodesAll cat n.ca.subject s sp ∧ ReadyAll n.ca s n.files 1000 sp ∧ SpecExact n sp := by
  intro n hn
  have : n = tree ∨ n = mid ∨ n = child := by
    simpa [tree, mid, child, Node.nodes, Node.nodesL] using hn
  rcases this with rfl | rfl | rfl
  · exact ⟨taSet, taSpec, ta_decodes, ta_ready, ta_exact⟩
  · exact ⟨midSet, midSpec, mid_decodes, mid_ready, mid_exact⟩
  · exact ⟨childSet, childSpec, child_decodes, child_ready, child_exact⟩

end Example

end KM.Sys.Rp
