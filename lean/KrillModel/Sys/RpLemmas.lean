/- Composition of the publication model with the abstract relying party, one CA level, ROAs:
what is asked of the state (`Mirror`, `Decodes`, `Ready`), the manifest's entries, the files a
repository synchronisation leaves on the server, and that the state after a history of the class and a
synchronisation is `Ready` (`ready_of_history`).  That such a publication point validates and yields
the payloads of the ROA objects is proved for all kinds of objects in `Sys/PointLemmas.lean`. -/
import KrillModel.Sys.Rp
import KrillModel.Ca.Objects
import KrillModel.Ca.ObjLemmas
import KrillModel.Ca.RoaLemmas
import KrillModel.Ca.ObjLemmasSync
import KrillModel.Ca.ClassLemmas
namespace KM.Sys.Rp
open KM.Ca.Pub

def infos (r : Roas) : List RoaInfo := r.simple.map (·.2) ++ r.agg.map (·.2)

theorem mem_infos {r : Roas} {i : RoaInfo} : i ∈ infos r ↔ (∃ x ∈ r.simple, x.2 = i) ∨ ∃ x ∈ r.agg, x.2 = i := by
  simp only [infos, List.mem_append, List.mem_map]

theorem payloads_eq_infos (r : Roas) : r.payloads = (infos r).flatMap (·.auths) := by
  simp [Roas.payloads, infos, List.flatMap_append, List.flatMap_map]

/-- The published objects of the key set are exactly the ROA objects (`objects_mirror`; the driver
checks it on the implementation after every op). -/
def Mirror (nm : Naming) (r : Roas) (s : KeyObjectSet) : Prop :=
  ∀ e : Nat × PubObj, e ∈ s.published ↔ e ∈ roaView nm r

theorem mirror_info {nm : Naming} {r : Roas} {s : KeyObjectSet} (h : Mirror nm r s) {e : Nat × PubObj}
    (he : e ∈ s.published) : ∃ i ∈ infos r, e.2 = pubOf i.obj := by
  rcases (mem_roaView nm r e).mp ((h e).mp he) with ⟨x, hx, rfl⟩ | ⟨x, hx, rfl⟩
  · exact ⟨x.2, mem_infos.mpr (Or.inl ⟨x, hx, rfl⟩), rfl⟩
  · exact ⟨x.2, mem_infos.mpr (Or.inr ⟨x, hx, rfl⟩), rfl⟩

theorem info_published {nm : Naming} {r : Roas} {s : KeyObjectSet} (h : Mirror nm r s) {i : RoaInfo}
    (hi : i ∈ infos r) : ∃ n, (n, pubOf i.obj) ∈ s.published := by
  rcases mem_infos.mp hi with ⟨x, hx, rfl⟩ | ⟨x, hx, rfl⟩
  · exact ⟨nm.nameS x.1, (h _).mpr ((mem_roaView nm r _).mpr (Or.inl ⟨x, hx, rfl⟩))⟩
  · exact ⟨nm.nameA x.1, (h _).mpr ((mem_roaView nm r _).mpr (Or.inr ⟨x, hx, rfl⟩))⟩

/-- The catalog decodes the set's manifest, CRL and ROAs to what the model says they contain. -/
structure Decodes (cat : Catalog) (key : Nat) (r : Roas) (s : KeyObjectSet) : Prop where
  mft : cat s.manifest.hash = some (.mft ⟨key, s.manifest.number, s.manifest.thisUpdate,
    s.manifest.nextUpdate, s.manifest.entries⟩)
  crl : cat s.crl.hash = some (.crl ⟨key, s.crl.number, s.crl.thisUpdate, s.crl.nextUpdate, s.crl.revoked⟩)
  roa : ∀ i ∈ infos r, cat i.obj.hash = some (.signed ⟨key, i.obj.serial, i.obj.expires, .roa i.auths⟩)

/-- What the relying party needs of the state. -/
structure Ready (nm : Naming) (ca : Cert) (r : Roas) (s : KeyObjectSet) (files : Files) (now : Nat) : Prop where
  wf : r.WF
  good : GoodSet s
  mirror : Mirror nm r s
  mftName : s.mftName = ca.mftName
  crlName : s.crlName = ca.crlName
  namesDiffer : ca.mftName ≠ ca.crlName
  mftFresh : ca.mftName ∉ keys s.published
  crlFresh : ca.crlName ∉ keys s.published
  filesNodup : (keys files).Nodup
  /-- the server content of this publication point is the set's elements (after a sync) -/
  files : ∀ f, f ∈ files ↔ (f = (s.mftName, s.manifest.hash) ∨ f = (s.crlName, s.crl.hash) ∨
    f ∈ s.published.map fun e => (e.1, e.2.hash))
  window : s.revision.thisUpdate ≤ now ∧ now < s.revision.nextUpdate
  unexpired : ∀ i ∈ infos r, now < i.obj.expires
  unrevoked : ∀ i ∈ infos r, i.obj.serial ∉ s.crl.revoked
  covered : ∀ p ∈ r.payloads, ca.resources.coversPfx p = true

theorem infos_nonempty_auths (r : Roas) (hr : r.WF) : ∀ i ∈ infos r, i.auths ≠ [] := by
  intro i hi
  rcases mem_infos.mp hi with ⟨e, he, rfl⟩ | ⟨e, he, rfl⟩
  · rw [hr.simpleAuth e he]; simp
  · exact hr.aggNonempty e he

theorem entries_eq (s : KeyObjectSet) (hg : GoodSet s) (hfresh : s.crlName ∉ keys s.published) :
    s.manifest.entries = (s.crlName, s.crl.hash) :: s.published.map fun e => (e.1, e.2.hash) := by
  rw [hg.listsExactly]
  simp only [mkEntries, putAll, hg.crlOk.2]
  rw [keys_map_snd s.published fun e => e.2.hash]
  simp [hfresh]

theorem elements_keys_nodup (s : KeyObjectSet) (hn : (keys s.published).Nodup) (h1 : s.mftName ≠ s.crlName)
    (h2 : s.mftName ∉ keys s.published) (h3 : s.crlName ∉ keys s.published) : (keys s.elements).Nodup := by
  simp only [KeyObjectSet.elements, keys, List.map_cons, List.map_map, List.nodup_cons, List.mem_cons,
    List.mem_map, Function.comp_def]
  refine ⟨?_, ?_, ?_⟩
  · rintro (h | ⟨e, he, h⟩)
    · exact h1 (Prod.mk.inj h).2
    · exact h2 ((Prod.mk.inj h).2 ▸ mem_keys_of_mem he)
  · rintro ⟨e, he, h⟩
    exact h3 ((Prod.mk.inj h).2 ▸ mem_keys_of_mem he)
  · -- the names differ, so the URIs do
    exact List.pairwise_map.mpr ((List.pairwise_map.mp hn).imp fun hab h' => hab (Prod.mk.inj h').2)

/-- The server content for the publisher after `sync_repo`, as files of the publication point (names without the
directory). -/
def filesAfterSync (server : List (Uri × Nat)) (rcn : Nat) (s : KeyObjectSet) : Files :=
  (syncRepo server [(rcn, .current s)]).map fun e => (e.1.2, e.2)

theorem filesAfterSync_spec (server : List (Uri × Nat)) (hsrv : (keys server).Nodup) (rcn : Nat) (s : KeyObjectSet)
    (hn : (keys s.published).Nodup) (h1 : s.mftName ≠ s.crlName)
    (h2 : s.mftName ∉ keys s.published) (h3 : s.crlName ∉ keys s.published) :
    (keys (filesAfterSync server rcn s)).Nodup ∧
    ∀ f, f ∈ filesAfterSync server rcn s ↔ (f = (s.mftName, s.manifest.hash) ∨ f = (s.crlName, s.crl.hash) ∨
      f ∈ s.published.map fun e => (e.1, e.2.hash)) := by
  have hsync : syncRepo server [(rcn, .current s)] = applyDelta server (syncDelta server s.elements) :=
    congrArg (fun x => applyDelta server (syncDelta server x)) (List.append_nil _)
  have hmem := mem_sync_iff server s.elements hsrv (elements_keys_nodup s hn h1 h2 h3)
  have hbase : ∀ e ∈ s.elements, e.1 = (s.base, e.1.2) := by
    simp only [KeyObjectSet.elements, List.mem_cons, List.mem_map]
    rintro e (rfl | rfl | ⟨x, _, rfl⟩) <;> rfl
  constructor
  · -- names are unique because all URIs share the set's directory
    have hsn := (syncRepo_exact server s.elements hsrv).1
    rw [filesAfterSync, hsync, keys, List.map_map]
    refine List.pairwise_map.mpr (List.Pairwise.imp_of_mem ?_ (List.pairwise_map.mp hsn))
    intro a b ha hb hab heq
    apply hab
    rw [hbase a ((hmem a).mp ha), hbase b ((hmem b).mp hb)]
    exact congrArg _ heq
  · intro f
    have : f ∈ filesAfterSync server rcn s ↔ f ∈ s.elements.map fun e => (e.1.2, e.2) := by
      simp only [filesAfterSync, hsync, List.mem_map, hmem]
    rw [this, KeyObjectSet.elements, List.map_cons, List.map_cons, List.map_map, List.mem_cons, List.mem_cons]
    rfl

/-- The state after any history of a class ending in a re-derivation for `routes` under `ca`
(possibly followed by renewals / republish runs) and a repository synchronisation is `Ready` – given
its name, time and revocation fields –, and its ROA payloads are the configured-and-covered routes. -/
theorem ready_of_history (nm : Naming) (hnm : nm.Ok) (t : Timing) (k : NewKey)
    (ops₁ ops₂ : List ClassOp) (hops₁ : ∀ op ∈ ops₁, op.ok) (hnd : ∀ op ∈ ops₂, op.isDerive = false)
    (routes : List Payload) (hroutes : routes.Nodup) (deagg agg : Nat)
    (mintS : Payload → ObjMeta) (mintA : AggKey → ObjMeta) (i : IssueIn)
    (ca : Cert) (rcn : Nat) (server : List (Uri × Nat)) (hsrv : (keys server).Nodup) (now : Nat) :
    let c := (((ClassState.init k t).run nm t ops₁).step nm t
      (.derive ca.resources.coversPfx routes deagg agg mintS mintA i)).run nm t ops₂
    let files := filesAfterSync server rcn c.set
    c.set.mftName = ca.mftName → c.set.crlName = ca.crlName → ca.mftName ≠ ca.crlName →
    ca.mftName ∉ keys c.set.published → ca.crlName ∉ keys c.set.published →
    (c.set.revision.thisUpdate ≤ now ∧ now < c.set.revision.nextUpdate) →
    (∀ x ∈ infos c.roas, now < x.obj.expires) → (∀ x ∈ infos c.roas, x.obj.serial ∉ c.set.crl.revoked) →
    Ready nm ca c.roas c.set files now ∧
    ∀ p, p ∈ c.roas.payloads ↔ (p ∈ routes ∧ ca.resources.coversPfx p = true) := by
  intro c files hm hc hne hmf hcf hwin hexp hrev
  have inv1 := classInv_run nm hnm t ops₁ (ClassState.init k t) hops₁ (classInv_init nm k t)
  have inv2 := classInv_step nm hnm t _ (.derive ca.resources.coversPfx routes deagg agg mintS mintA i) hroutes inv1
  have hops₂ : ∀ op ∈ ops₂, op.ok := fun op ho => ClassOp.ok_of_not_derive (hnd op ho)
  obtain ⟨wf3, ⟨nodup3, mirror3⟩, good3⟩ : ClassInv nm c := classInv_run nm hnm t ops₂ _ hops₂ inv2
  have hpay : ∀ p, p ∈ c.roas.payloads ↔ (p ∈ routes ∧ ca.resources.coversPfx p = true) := by
    intro p
    rw [payloads_run_nonDerive nm hnm t ops₂ _ inv2 hnd p]
    exact (createUpdates_exact _ inv1.1 ca.resources.coversPfx routes hroutes deagg agg mintS mintA).1 p
  obtain ⟨f1, f2⟩ := filesAfterSync_spec server hsrv rcn c.set nodup3 (by rw [hm, hc]; exact hne)
    (by rw [hm]; exact hmf) (by rw [hc]; exact hcf)
  exact ⟨{ wf := wf3, good := good3, mirror := mirror3, mftName := hm, crlName := hc, namesDiffer := hne,
           mftFresh := hmf, crlFresh := hcf, filesNodup := f1, files := f2, window := hwin,
           unexpired := hexp, unrevoked := hrev, covered := fun p hp => ((hpay p).mp hp).2 }, hpay⟩

end KM.Sys.Rp
