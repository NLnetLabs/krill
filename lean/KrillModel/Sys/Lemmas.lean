/-
The interleaving model under the lock.  `SerInv`: every reachable state is the serial execution of the acquired calls
in acquisition order, once the calls in flight are run to their end; it holds initially and every micro-step
(acquisition, phase, release) keeps it (`step_inv`): a micro-step touches one thread and the one entity whose lock
that thread holds, and the rest keeps its clauses (`serInv_frame`).  Also the inversion of a well-bracketed lock log.
-/
import KrillModel.Sys.Interleave
namespace KM.Sys

variable {M : Machine}

theorem runFrom_step {op : M.Op} {pc : Nat} {ph : M.S × M.Loc → M.S × M.Loc}
    (h : (M.phases op)[pc]? = some ph) (p : M.S × M.Loc) :
    M.runFrom op pc p = M.runFrom op (pc + 1) (ph p) := by
  obtain ⟨hlt, rfl⟩ := List.getElem?_eq_some_iff.mp h
  unfold Machine.runFrom
  rw [List.drop_eq_getElem_cons hlt]
  rfl

theorem runFrom_done {op : M.Op} {pc : Nat} (h : (M.phases op)[pc]? = none) (p : M.S × M.Loc) :
    M.runFrom op pc p = p := by
  unfold Machine.runFrom
  rw [List.drop_eq_nil_of_le (List.getElem?_eq_none_iff.mp h)]
  rfl

theorem serial_append (ents0 : Nat → M.S) (acq : List (Acq M)) (a : Acq M) :
    serial ents0 (acq ++ [a]) = serialStep (serial ents0 acq) a := by
  rw [serial, List.foldl_append]; rfl

theorem outsOf_serialStep (st : SerialSt M) (a : Acq M) (t : Nat) :
    (serialStep st a).outsOf t =
      if a.tid = t then st.outsOf t ++ [(M.runOp a.op (st.ents a.ent)).2] else st.outsOf t := by
  unfold SerialSt.outsOf serialStep
  by_cases h : a.tid = t
  · simp [List.filter_append, h]
  · simp [List.filter_append, h]

theorem ents_serialStep (st : SerialSt M) (a : Acq M) (e : Nat) :
    (serialStep st a).ents e =
      if e = a.ent then (M.runOp a.op (st.ents a.ent)).1 else st.ents e := rfl

theorem startedBy_append {sys sys' : Sys M} {a : Acq M} (h : sys'.acq = sys.acq ++ [a]) (t : Nat) :
    sys'.startedBy t = sys.startedBy t ++ (if a.tid = t then [(a.ent, a.op)] else []) := by
  unfold Sys.startedBy
  rw [h]
  by_cases h : a.tid = t <;> simp [List.filter_append, h]

theorem upd_same {β : Type} (f : Nat → β) (k : Nat) (v : β) : upd f k v k = v := if_pos rfl
theorem upd_ne {β : Type} (f : Nat → β) {k k' : Nat} (v : β) (h : k' ≠ k) : upd f k v k' = f k' :=
  if_neg h

theorem locked_iff (sys : Sys M) (e : Nat) :
    sys.locked e = true ↔
      ∃ (t : Nat) (th : Thread M) (r : Running M), sys.threads[t]? = some th ∧ th.cur = some r ∧ r.ent = e := by
  unfold Sys.locked
  rw [List.any_eq_true]
  constructor
  · rintro ⟨th, hmem, hh⟩
    obtain ⟨t, ht⟩ := List.mem_iff_getElem?.mp hmem
    unfold Thread.holds at hh
    cases hc : th.cur with
    | none => simp [hc] at hh
    | some r => simp [hc] at hh; exact ⟨t, th, r, ht, hc, hh⟩
  · rintro ⟨t, th, r, ht, hc, he⟩
    exact ⟨th, List.mem_iff_getElem?.mpr ⟨t, ht⟩, by simp [Thread.holds, hc, he]⟩

theorem getElem?_set_iff {α} {l : List α} {t t' : Nat} {a x y : α} (ht : l[t]? = some a) :
    (l.set t x)[t']? = some y ↔ (t' = t ∧ y = x) ∨ (t' ≠ t ∧ l[t']? = some y) := by
  by_cases h : t' = t
  · subst h
    rw [List.getElem?_set_self (List.getElem?_eq_some_iff.mp ht).1]
    exact ⟨fun h => .inl ⟨rfl, (Option.some.inj h).symm⟩,
      fun h => h.elim (fun h => h.2 ▸ rfl) (fun h => absurd rfl h.1)⟩
  · rw [List.getElem?_set_ne (Ne.symm h)]
    exact ⟨fun h' => .inr ⟨h, h'⟩, fun h' => h'.elim (fun h' => absurd h'.1 h) (·.2)⟩

/-- What the invariant says of thread `th`, the `t`-th.  It reads the state only at the entity the thread is inside
of, and the serial execution only there and at the thread's own results and calls (`threadOk_frame`). -/
structure ThreadOk (ents0 : Nat → M.S) (progs : List (List (Nat × M.Op))) (sys : Sys M) (t : Nat)
    (th : Thread M) : Prop where
  /-- the entity the thread is inside of reaches its serial state when that call is completed -/
  held : ∀ r, th.cur = some r →
    (M.runFrom r.op r.pc (sys.ents r.ent, r.loc)).1 = (serial ents0 sys.acq).ents r.ent
  /-- results (with the call in flight completed) are the serial results -/
  outs : th.completeOuts sys.ents = (serial ents0 sys.acq).outsOf t
  /-- started calls followed by the ones still to do are the thread's program -/
  prog : sys.startedBy t ++ (if th.cur.isSome then th.todo.drop 1 else th.todo) = (progs[t]?).getD []

/-- What holds of every state reachable with the lock in place, relative to the serial
execution of the acquired calls in acquisition order. -/
structure SerInv (ents0 : Nat → M.S) (progs : List (List (Nat × M.Op))) (sys : Sys M) : Prop where
  /-- mutual exclusion per entity -/
  excl : ∀ (t t' : Nat) (th th' : Thread M) (r r' : Running M),
    sys.threads[t]? = some th → sys.threads[t']? = some th' →
    th.cur = some r → th'.cur = some r' → r.ent = r'.ent → t = t'
  /-- an entity nobody is inside of is in its serial state -/
  free : ∀ e, (∀ (t : Nat) (th : Thread M) (r : Running M),
      sys.threads[t]? = some th → th.cur = some r → r.ent ≠ e) →
    sys.ents e = (serial ents0 sys.acq).ents e
  thread : ∀ (t : Nat) (th : Thread M), sys.threads[t]? = some th → ThreadOk ents0 progs sys t th

theorem serInv_init (ents0 : Nat → M.S) (progs : List (List (Nat × M.Op))) :
    SerInv ents0 progs (Sys.init ents0 progs) := by
  have idle : ∀ (t : Nat) th, (Sys.init ents0 progs).threads[t]? = some th →
      ∃ p, progs[t]? = some p ∧ th = ({ todo := p } : Thread M) := by
    intro t th h
    rw [Sys.init, List.getElem?_map, Option.map_eq_some_iff] at h
    obtain ⟨p, hp, rfl⟩ := h
    exact ⟨p, hp, rfl⟩
  refine ⟨fun t _ th _ r _ ht _ hc => ?_, fun _ _ => rfl, fun t th ht => ?_⟩
  all_goals obtain ⟨p, hp, rfl⟩ := idle t th ht
  · cases hc
  · exact ⟨fun r hc => (nomatch hc), rfl, by rw [hp]; rfl⟩

variable {ents0 : Nat → M.S} {progs : List (List (Nat × M.Op))}

theorem threadOk_frame {sys sys' : Sys M} {t : Nat} {th : Thread M} (h : ThreadOk ents0 progs sys t th)
    (hents : ∀ r, th.cur = some r → sys'.ents r.ent = sys.ents r.ent ∧
      (serial ents0 sys'.acq).ents r.ent = (serial ents0 sys.acq).ents r.ent)
    (houts : (serial ents0 sys'.acq).outsOf t = (serial ents0 sys.acq).outsOf t)
    (hst : sys'.startedBy t = sys.startedBy t) : ThreadOk ents0 progs sys' t th := by
  refine ⟨fun r hc => ?_, ?_, hst ▸ h.prog⟩
  · rw [(hents r hc).1, (hents r hc).2]
    exact h.held r hc
  · rw [houts, ← h.outs]
    unfold Thread.completeOuts
    cases hc : th.cur with
    | none => rfl
    | some r => simp only [(hents r hc).1]

/-- The frame of a micro-step.  Thread `t` moves (`th` becomes `th'`), inside no entity but `e` before and after, and
no other thread is inside `e`; away from `e` and `t` neither the state nor the serial execution changes.  Then the
other threads and entities keep their clauses, and what is left to show is the clause of `t` and, if `t` has left
`e`, that `e` is in its serial state. -/
theorem serInv_frame {sys sys' : Sys M} (h : SerInv ents0 progs sys) {t e : Nat} {th th' : Thread M}
    (ht : sys.threads[t]? = some th) (hthr : sys'.threads = sys.threads.set t th')
    (hin : ∀ r, th.cur = some r → r.ent = e) (hin' : ∀ r, th'.cur = some r → r.ent = e)
    (halone : ∀ t' th1 r1, t' ≠ t → sys.threads[t']? = some th1 → th1.cur = some r1 → r1.ent ≠ e)
    (hents : ∀ e', e' ≠ e → sys'.ents e' = sys.ents e' ∧
      (serial ents0 sys'.acq).ents e' = (serial ents0 sys.acq).ents e')
    (houts : ∀ t', t' ≠ t → (serial ents0 sys'.acq).outsOf t' = (serial ents0 sys.acq).outsOf t')
    (hst : ∀ t', t' ≠ t → sys'.startedBy t' = sys.startedBy t')
    (hfree : th'.cur = none → sys'.ents e = (serial ents0 sys'.acq).ents e)
    (hok : ThreadOk ents0 progs sys' t th') : SerInv ents0 progs sys' := by
  refine { excl := ?_, free := ?_, thread := ?_ }
  · intro t1 t2 th1 th2 r1 r2 h1 h2 hc1 hc2 hent
    rw [hthr] at h1 h2
    rcases (getElem?_set_iff ht).mp h1 with ⟨rfl, rfl⟩ | ⟨hn1, h1'⟩ <;>
      rcases (getElem?_set_iff ht).mp h2 with ⟨rfl, rfl⟩ | ⟨hn2, h2'⟩
    · rfl
    · exact absurd (hent ▸ hin' r1 hc1) (halone t2 th2 r2 hn2 h2' hc2)
    · exact absurd (hent ▸ hin' r2 hc2) (halone t1 th1 r1 hn1 h1' hc1)
    · exact h.excl t1 t2 th1 th2 r1 r2 h1' h2' hc1 hc2 hent
  · intro e' hfree'
    rw [hthr] at hfree'
    by_cases he : e' = e
    · subst he
      cases hc : th'.cur with
      | none => exact hfree hc
      | some r => exact absurd (hin' r hc) (hfree' t th' r ((getElem?_set_iff ht).mpr (.inl ⟨rfl, rfl⟩)) hc)
    · rw [(hents e' he).1, (hents e' he).2]
      refine h.free e' fun t' th1 r1 h1 hc1 => ?_
      by_cases htt : t' = t
      · subst htt
        cases ht.symm.trans h1
        exact fun x => he (x.symm.trans (hin r1 hc1))
      · exact hfree' t' th1 r1 ((getElem?_set_iff ht).mpr (.inr ⟨htt, h1⟩)) hc1
  · intro t' th1 h1
    rw [hthr] at h1
    rcases (getElem?_set_iff ht).mp h1 with ⟨rfl, rfl⟩ | ⟨hn, h1⟩
    · exact hok
    · exact threadOk_frame (h.thread t' th1 h1) (fun r hc => hents r.ent (halone t' th1 r hn h1 hc)) (houts t' hn)
        (hst t' hn)

theorem step_inv {sys : Sys M} (h : SerInv ents0 progs sys) (t : Nat) : SerInv ents0 progs (step true sys t) := by
  fun_cases step true sys t
  -- no such thread, a finished thread, a thread blocked on the lock
  case case1 | case2 | case3 => exact h
  -- acquisition of the lock of `e`, which nobody is inside of
  case case4 th ht hcur e op rest htodo hl =>
    have ok := h.thread t th ht
    have hnobody : ∀ t' (th' : Thread M) (r' : Running M),
        sys.threads[t']? = some th' → th'.cur = some r' → r'.ent ≠ e :=
      fun t' th' r' h1 h2 h3 => hl ((locked_iff sys e).mpr ⟨t', th', r', h1, h2, h3⟩)
    have hser : sys.ents e = (serial ents0 sys.acq).ents e := h.free e hnobody
    apply serInv_frame h ht rfl (e := e)
    case hin => exact fun r hc => nomatch hcur.symm.trans hc
    case hin' => exact fun r hc => by cases hc; rfl
    case halone => exact fun t' th' r' _ => hnobody t' th' r'
    case hents => exact fun e' he => ⟨rfl, by rw [serial_append, ents_serialStep, if_neg he]⟩
    case houts => exact fun t' hn => by rw [serial_append, outsOf_serialStep, if_neg (Ne.symm hn)]
    case hst => exact fun t' hn => by rw [startedBy_append rfl, if_neg (Ne.symm hn), List.append_nil]
    case hfree => exact fun hc => nomatch hc
    case hok =>
      refine ⟨fun r hc => ?_, ?_, ?_⟩
      · cases hc
        rw [serial_append, ents_serialStep, if_pos rfl, ← hser]; rfl
      · rw [serial_append, outsOf_serialStep, if_pos rfl, ← ok.outs, ← hser]
        simp only [Thread.completeOuts, hcur]; rfl
      · rw [startedBy_append rfl, if_pos rfl, ← ok.prog, List.append_assoc, hcur, htodo]; rfl
  -- a phase of the call thread `t` is inside of
  case case5 th ht r hcur ph hph p =>
    have ok := h.thread t th ht
    apply serInv_frame h ht rfl (e := r.ent)
    case hin => exact fun r' hc => by cases hcur.symm.trans hc; rfl
    case hin' => exact fun r' hc => by cases hc; rfl
    case halone => exact fun t' th' r' hn h1 h2 he => hn (h.excl t' t th' th r' r h1 ht h2 hcur he)
    case hents => exact fun e' he => ⟨upd_ne _ _ he, rfl⟩
    case houts => exact fun _ _ => rfl
    case hst => exact fun _ _ => rfl
    case hfree => exact fun hc => nomatch hc
    case hok =>
      refine ⟨fun r' hc => ?_, ?_, ?_⟩
      · cases hc
        simp only [upd_same]
        rw [← ok.held r hcur, runFrom_step hph]
      · rw [← ok.outs]
        simp only [Thread.completeOuts, hcur, upd_same]
        rw [runFrom_step hph]
      · have := ok.prog
        rwa [hcur] at this
  -- release
  case case6 th ht r hcur hph =>
    have ok := h.thread t th ht
    have hdone := runFrom_done hph (sys.ents r.ent, r.loc)
    apply serInv_frame h ht rfl (e := r.ent)
    case hin => exact fun r' hc => by cases hcur.symm.trans hc; rfl
    case hin' => exact fun r' hc => nomatch hc
    case halone => exact fun t' th' r' hn h1 h2 he => hn (h.excl t' t th' th r' r h1 ht h2 hcur he)
    case hents => exact fun _ _ => ⟨rfl, rfl⟩
    case houts => exact fun _ _ => rfl
    case hst => exact fun _ _ => rfl
    case hfree => exact fun _ => by rw [← ok.held r hcur, hdone]
    case hok =>
      refine ⟨fun r' hc => (nomatch hc), ?_, ?_⟩
      · rw [← ok.outs]
        simp only [Thread.completeOuts, hcur, hdone]
      · have := ok.prog
        rwa [hcur] at this

theorem run_inv {sys : Sys M} (h : SerInv ents0 progs sys) (sched : List Nat) :
    SerInv ents0 progs (run true sys sched) :=
  List.foldlRecOn sched _ h fun _ h t _ => step_inv h t

/-! The lock log of the implementation -/

/-- The three ways a well-bracketed log can go on: an acquisition while nobody holds the lock, a
storage operation or the release by the holder. -/
theorem wellBracketedFrom_cons {o : Option Nat} {a : Nat} {b : LockEv} {rest : List (Nat × LockEv)}
    (h : wellBracketedFrom o ((a, b) :: rest) = true) :
    (o = none ∧ b = .acq ∧ wellBracketedFrom (some a) rest = true) ∨
    (o = some a ∧ b = .op ∧ wellBracketedFrom (some a) rest = true) ∨
    (o = some a ∧ b = .rel ∧ wellBracketedFrom none rest = true) := by
  cases o <;> cases b <;> simp [wellBracketedFrom] at h
  · exact .inl ⟨rfl, rfl, h⟩
  · exact .inr (.inl ⟨by rw [h.1], rfl, h.1 ▸ h.2⟩)
  · exact .inr (.inr ⟨by rw [h.1], rfl, h.2⟩)

/-- A well-bracketed log stays well bracketed (from whoever holds the lock then) after any
prefix. -/
theorem wellBracketedFrom_append (l : List (Nat × LockEv)) {rest : List (Nat × LockEv)}
    {o : Option Nat} (h : wellBracketedFrom o (l ++ rest) = true) :
    ∃ o', wellBracketedFrom o' rest = true := by
  induction l generalizing o with
  | nil => exact ⟨o, h⟩
  | cons x xs ih =>
    rcases wellBracketedFrom_cons (a := x.1) (b := x.2) h with ⟨_, _, h⟩ | ⟨_, _, h⟩ | ⟨_, _, h⟩ <;>
      exact ih h

end KM.Sys
