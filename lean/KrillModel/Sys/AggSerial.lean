/-
The serial execution of aggregate-store calls on the level of audit logs (specification used by
`Props/C07.lean`), and the lemma that the store model's serial execution refines it.
-/
import KrillModel.ES.Lemmas
import KrillModel.Sys.Lemmas
namespace KM.Sys
open KM.ES

variable {A : Agg}

/-- The serial execution on the level of audit logs: per entity the log, plus the results in
execution order. -/
def specSerialStep (st : (Nat → Log A) × List (Nat × Out A)) (a : Acq (aggMachine A)) :
    (Nat → Log A) × List (Nat × Out A) :=
  let r := specStep (st.1 a.ent) a.op.toOp
  (upd st.1 a.ent r.1, st.2 ++ [(a.tid, r.2.getD .panic)])

def specSerial (L0 : Nat → Log A) (order : List (Acq (aggMachine A))) :
    (Nat → Log A) × List (Nat × Out A) :=
  order.foldl specSerialStep (L0, [])

theorem runOp_eq_step (c : AggCall A) (s : Ent A) :
    (aggMachine A).runOp c s = ((ES.step s c.toOp).1, ((ES.step s c.toOp).2).getD .panic) := by
  cases c <;> rfl

theorem serial_refines (hiv : A.initVersion ≤ 1) (ents0 : Nat → Ent A) (L0 : Nat → Log A)
    (h0 : ∀ e, Inv (ents0 e) (L0 e)) (order : List (Acq (aggMachine A))) :
    (∀ e, Inv ((serial ents0 order).ents e) ((specSerial L0 order).1 e)) ∧
    (serial ents0 order).outs = (specSerial L0 order).2 := by
  refine List.foldl_rel (l := order) (f := serialStep) (g := specSerialStep)
    (r := fun st sp => (∀ e, Inv (st.ents e) (sp.1 e)) ∧ st.outs = sp.2) ⟨h0, rfl⟩ ?_
  intro a _ st sp ⟨h1, h2⟩
  have hr := step_refines hiv (h1 a.ent) a.op.toOp
  have hro := runOp_eq_step a.op (st.ents a.ent)
  refine ⟨fun e => ?_, ?_⟩
  · simp only [serialStep, specSerialStep, upd]
    by_cases he : e = a.ent
    · simp only [he, if_true]; rw [hro]; exact hr.2
    · simp only [he, if_false]; exact h1 e
  · simp only [serialStep, specSerialStep, h2]
    rw [hro, hr.1]
    rfl

/-- The calls on entity `e`, in lock-acquisition order. -/
def callsOn (order : List (Acq (aggMachine A))) (e : Nat) : List (AggCall A) :=
  (order.filter (·.ent == e)).map (·.op)

/-- `(actor, details)` of the commands among the calls, in order. -/
def commandStamps : List (AggCall A) → List (String × Option A.Cmd)
  | [] => []
  | .cmd _ c _ :: rest => (c.actor, some c.details) :: commandStamps rest
  | _ :: rest => commandStamps rest

def stampOf (c : Stored A) : String × Option A.Cmd := (c.actor, c.details)

theorem specSerial_ent (L0 : Nat → Log A) (order : List (Acq (aggMachine A))) (e : Nat) :
    (specSerial L0 order).1 e = specRun (L0 e) ((callsOn order e).map AggCall.toOp) := by
  suffices ∀ sp : (Nat → Log A) × List (Nat × Out A),
      (order.foldl specSerialStep sp).1 e = specRun (sp.1 e) ((callsOn order e).map AggCall.toOp) from
    this (L0, [])
  induction order with
  | nil => exact fun _ => rfl
  | cons a rest ih =>
    intro sp
    rw [List.foldl_cons, ih]
    by_cases he : a.ent = e
    · simp [callsOn, specRun, specSerialStep, upd, he]
      rfl
    · have he' : ¬ (e = a.ent) := fun x => he x.symm
      simp [callsOn, specSerialStep, upd, he, he']

/-- What one call does to the log: nothing, or one record stamped with the command's actor and
details. -/
theorem specStep_call_cases (L : Log A) (c : AggCall A) :
    (specStep L c.toOp).1 = L ∨
    ∃ i sc wf rec_, c = .cmd i sc wf ∧ (specStep L c.toOp).1 = L ++ [rec_] ∧
      stampOf rec_ = (sc.actor, some sc.details) := by
  cases c with
  | get i => exact .inl (congrArg Prod.fst (specStep_get L i))
  | snap i wf => left; simp only [AggCall.toOp, specStep]; split <;> rfl
  | cmd i sc wf =>
    cases hf : finalOf L with
    | none => left; simp only [AggCall.toOp, specStep, hf]
    | some w =>
      simp only [AggCall.toOp]
      rw [specStep_cmd hf]
      split
      · exact .inl rfl
      · rcases specCommand_cases L w sc with ⟨err, _, hs⟩ | ⟨evs, s', _, _, _, _, hs⟩ | ⟨hs, _⟩
        · exact .inr ⟨i, sc, wf, _, rfl, by rw [hs], rfl⟩
        · exact .inr ⟨i, sc, wf, _, rfl, by rw [hs], rfl⟩
        · exact .inl hs

/-- Running calls only appends to the log, and what is appended is – in order – a sub-sequence
of the commands among the calls: every stored record belongs to exactly one command call, and
the records are in the order of the calls. -/
theorem specRun_calls_sublist (calls : List (AggCall A)) :
    ∀ L : Log A, ∃ new : List (Stored A),
      specRun L (calls.map AggCall.toOp) = L ++ new ∧
      (new.map stampOf).Sublist (commandStamps calls) := by
  induction calls with
  | nil => intro L; exact ⟨[], by simp [specRun], by simp [commandStamps]⟩
  | cons c rest ih =>
    intro L
    simp only [List.map_cons, specRun, List.foldl_cons]
    rcases specStep_call_cases L c with h0 | ⟨i, sc, wf, rec_, hc, h1, hst⟩
    · rw [h0]
      obtain ⟨new, hn, hs⟩ := ih L
      refine ⟨new, hn, ?_⟩
      cases c with
      | cmd i sc wf => exact List.Sublist.cons _ hs
      | get i => exact hs
      | snap i wf => exact hs
    · rw [h1]
      obtain ⟨new, hn, hs⟩ := ih (L ++ [rec_])
      refine ⟨rec_ :: new, by simp only [specRun] at hn; rw [hn]; simp, ?_⟩
      subst hc
      simp only [List.map_cons, commandStamps, hst]
      exact List.Sublist.cons_cons _ hs

end KM.Sys
